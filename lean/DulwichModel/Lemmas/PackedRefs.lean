/-
  Lemmas for the packed-refs codec model (C16), towards `packed_refs_roundtrip` in Props/C16.lean: the bytes of a hex
  sha and of a valid ref name contain no line terminator and no space (`Plain`), so `lines` cuts what
  `write_packed_refs` wrote back into the lines of its entries (`lines_writeEntries`), and
  `read_packed_refs_with_peeled` reads those lines back entry by entry (`readPeeled_entries`).
-/
import DulwichModel.Model.PackedRefs
import DulwichModel.Lemmas.RefFormat
namespace Dulwich.PackedRefs
open Dulwich Dulwich.RefFormat Dulwich.Gen.Refs

theorem lines_append_nl (l rest : Bytes) (h : (10 : UInt8) ∉ l) :
    lines (l ++ 10 :: rest) = (l ++ [10]) :: lines rest := by
  induction l with
  | nil => simp [lines]
  | cons b l ih =>
    simp only [List.mem_cons, not_or] at h
    have hb : ¬ b = 10 := fun hb => h.1 hb.symm
    simp only [List.cons_append, lines, hb, if_false, ih h.2]

def Plain (l : Bytes) : Prop := ∀ c ∈ l, c ≠ 10 ∧ c ≠ 13 ∧ c ≠ 32

theorem Plain.nl_not_mem {l : Bytes} (h : Plain l) : (10 : UInt8) ∉ l := fun hm => (h _ hm).1 rfl

theorem rstripCRLF_plain (pre : Bytes) {n : Bytes} (hp : Plain n) (hne : n ≠ []) :
    rstripCRLF (pre ++ n) = pre ++ n ∧ rstripCRLF (pre ++ n ++ [10]) = pre ++ n := by
  rcases List.eq_nil_or_concat n with h | ⟨x, c, h⟩
  · exact absurd h hne
  · have h' : n = x ++ [c] := by simpa using h
    have hc := hp c (by simp [h'])
    simp [rstripCRLF, h', hc.1, hc.2.1]

theorem hexDigit_ne {c : UInt8} (h : isHexDigit c = true) :
    c ≠ 10 ∧ c ≠ 13 ∧ c ≠ 32 ∧ c ≠ packedComment ∧ c ≠ packedCaret := by
  refine ⟨?_, ?_, ?_, ?_, ?_⟩ <;> (rintro rfl; revert h; decide)

theorem plain_of_hex {s : Bytes} (h : validHexSha s = true) :
    Plain s ∧ s ≠ [] ∧ s.head? ≠ some packedComment ∧ s.head? ≠ some packedCaret := by
  simp only [validHexSha, Bool.and_eq_true, List.all_eq_true] at h
  obtain ⟨hlen, hall⟩ := h
  cases s with
  | nil => exact absurd hlen (by decide)
  | cons b r =>
    have hb := hexDigit_ne (hall b List.mem_cons_self)
    exact ⟨fun c hc => ⟨(hexDigit_ne (hall c hc)).1, (hexDigit_ne (hall c hc)).2.1, (hexDigit_ne (hall c hc)).2.2.1⟩,
      List.cons_ne_nil _ _, fun h => hb.2.2.2.1 (Option.some.inj h), fun h => hb.2.2.2.2 (Option.some.inj h)⟩

theorem plain_of_refname {n : Bytes} (h : checkRefFormat n = some true) : Plain n ∧ n ≠ [] := by
  rw [checkRefFormat_unfold] at h
  obtain ⟨_, hslash, _, hchars, _⟩ := h
  constructor
  · intro c hc
    have := hchars c hc
    refine ⟨?_, ?_, ?_⟩
    · intro h; subst h; exact absurd this.1 (by decide)
    · intro h; subst h; exact absurd this.1 (by decide)
    · intro h; subst h; exact this.2 (by decide)
  · intro h0; subst h0; simp at hslash

def EntryOk (e : Entry) : Prop :=
  validHexSha e.sha = true ∧ checkRefFormat e.name = some true ∧ ∀ p, e.peeled = some p → validHexSha p = true

instance (e : Entry) : Decidable (EntryOk e) :=
  decidable_of_iff (validHexSha e.sha = true ∧ checkRefFormat e.name = some true ∧
    ∀ p ∈ e.peeled, validHexSha p = true) Iff.rfl

def refLine (e : Entry) : Bytes := e.sha ++ 32 :: e.name
def peeledLines (e : Entry) : List Bytes :=
  match e.peeled with
  | some p => [packedCaret :: p ++ [10]]
  | none => []
/-- the lines `write_packed_refs` writes for one entry: `git_line(sha, name)`, then the `^peeled` line if there is one -/
def entryLines (e : Entry) : List Bytes := (refLine e ++ [10]) :: peeledLines e

theorem rstripCRLF_refLine {e : Entry} (h : EntryOk e) :
    rstripCRLF (refLine e) = refLine e ∧ rstripCRLF (refLine e ++ [10]) = refLine e := by
  obtain ⟨hpn, hnn⟩ := plain_of_refname h.2.1
  rw [show refLine e = e.sha ++ [32] ++ e.name by simp [refLine]]
  exact rstripCRLF_plain _ hpn hnn

theorem lines_writeEntries (es : List Entry) (h : ∀ e ∈ es, EntryOk e) :
    lines (writeEntries es) = es.flatMap entryLines := by
  induction es with
  | nil => rfl
  | cons e r ih =>
    have he := h e List.mem_cons_self
    have ihr := ih fun x hx => h x (List.mem_cons_of_mem _ hx)
    have e1 : writeEntries (e :: r) = refLine e ++ 10 :: (peeledBytes e ++ writeEntries r) := by
      simp [writeEntries, refLine]
    have h10 : (10 : UInt8) ∉ refLine e := by
      simp [refLine, (plain_of_hex he.1).1.nl_not_mem, (plain_of_refname he.2.1).1.nl_not_mem]
    rw [e1, lines_append_nl _ _ h10, List.flatMap_cons, entryLines]
    congr 1
    unfold peeledLines peeledBytes
    cases hp : e.peeled with
    | none => exact ihr
    | some p =>
      have hp10 : (10 : UInt8) ∉ packedCaret :: p := by
        simp [(plain_of_hex (he.2.2 p hp)).1.nl_not_mem, packedCaret]
      rw [List.append_assoc, List.singleton_append, lines_append_nl _ _ hp10, ihr]
      rfl

theorem splitRefLine_refLine {e : Entry} (h : EntryOk e) : splitRefLine (refLine e) = some (e.sha, e.name) := by
  rw [splitRefLine, (rstripCRLF_refLine h).1]
  obtain ⟨hs, hn, _⟩ := h
  obtain ⟨hps, _⟩ := plain_of_hex hs
  obtain ⟨hpn, _⟩ := plain_of_refname hn
  have : splitOnByte 32 (refLine e) = [e.sha, e.name] :=
    split_join 32 [e.sha, e.name] (List.cons_ne_nil _ _) (by
      simp only [List.mem_cons, List.not_mem_nil, or_false]
      rintro c (rfl | rfl) hm
      · exact (hps _ hm).2.2 rfl
      · exact (hpn _ hm).2.2 rfl)
  rw [this]
  simp [hs, hn]

theorem refLine_isEmpty {e : Entry} (h : EntryOk e) : (refLine e).isEmpty = false := by
  cases hsha : e.sha with
  | nil => exact absurd hsha (plain_of_hex h.1).2.1
  | cons b r => simp [refLine, hsha]

/-- the two looks `readPeeled` takes at the first byte of a ref line: no comment (the line as read), no `^` (stripped) -/
theorem refLine_facts {e : Entry} (h : EntryOk e) :
    (refLine e ++ [10]).head? ≠ some packedComment ∧ (refLine e).head? ≠ some packedCaret := by
  obtain ⟨_, hsne, hc1, hc2⟩ := plain_of_hex h.1
  constructor <;> cases hsha : e.sha <;> simp_all [refLine]

theorem peeledLine_facts {p : Bytes} (hp : validHexSha p = true) :
    (packedCaret :: p ++ [10]).head? ≠ some packedComment ∧
    rstripCRLF (packedCaret :: p ++ [10]) = packedCaret :: p := by
  obtain ⟨hpp, hne, _, _⟩ := plain_of_hex hp
  exact ⟨by simp; decide, by simpa using (rstripCRLF_plain [packedCaret] hpp hne).2⟩

/-- the reader on the ref line of a valid entry: a pending `last` is flushed as an entry without peeled
value, and the line becomes the new `last` -/
theorem readPeeled_refLine {e : Entry} (he : EntryOk e) (rest : List Bytes) (last : Bytes) :
    readPeeled ((refLine e ++ [10]) :: rest) last =
      (readPeeled [] last).bind fun l => (readPeeled rest (refLine e)).map (l ++ ·) := by
  obtain ⟨hh, hcaret⟩ := refLine_facts he
  rw [readPeeled.eq_2, readPeeled.eq_1]
  simp only [hh, if_false, (rstripCRLF_refLine he).2, hcaret]
  split
  · simp
  · cases splitRefLine last <;> simp

theorem readPeeled_peeledLine {e : Entry} (he : EntryOk e) {p : Bytes} (hp : e.peeled = some p) (rest : List Bytes) :
    readPeeled ((packedCaret :: p ++ [10]) :: rest) (refLine e) = (readPeeled rest []).map (e :: ·) := by
  obtain ⟨hh, hstrip⟩ := peeledLine_facts (he.2.2 p hp)
  rw [readPeeled.eq_2]
  simp only [hh, if_false, hstrip, List.head?_cons, if_true, refLine_isEmpty he, Bool.false_eq_true, List.tail_cons,
    he.2.2 p hp, Bool.not_true, splitRefLine_refLine he, ← hp]

theorem readPeeled_flush {e : Entry} (he : EntryOk e) (hp : e.peeled = none) : readPeeled [] (refLine e) = some [e] := by
  rw [readPeeled.eq_1]
  simp only [refLine_isEmpty he, Bool.false_eq_true, if_false, splitRefLine_refLine he, Option.map_some, ← hp]

theorem readPeeled_entries (es : List Entry) (h : ∀ e ∈ es, EntryOk e) (last : Bytes) :
    readPeeled (es.flatMap entryLines) last = (readPeeled [] last).map (· ++ es) := by
  induction es generalizing last with
  | nil => simp
  | cons e es ih =>
    have he := h e List.mem_cons_self
    have ih := ih fun x hx => h x (List.mem_cons_of_mem _ hx)
    have : readPeeled (peeledLines e ++ es.flatMap entryLines) (refLine e) = some (e :: es) := by
      unfold peeledLines
      cases hp : e.peeled with
      | none => simp [ih, readPeeled_flush he hp]
      | some p => rw [List.singleton_append, readPeeled_peeledLine he hp, ih, readPeeled.eq_1]; rfl
    rw [List.flatMap_cons, entryLines, List.cons_append, readPeeled_refLine he, this]
    cases readPeeled [] last <;> simp

end Dulwich.PackedRefs
