/-
  Lemmas for C06 (Model/ReceivePack.lean).  One ref update is specified once (`StepOutcome`; `RefOutcome` is its part about
  refs and store, `CmdResult` its reading at the commanded ref); the lemmas about `runLoop` hold for any step that meets the
  specification (`StepSpec`, `RefStepSpec`), and `refLoop` and `_apply_pack` are read off them.  Then the status report read
  back by the client's parser, and the in-process path `LocalGitClient.send_pack`, whose apply loop is the wire path's
  `updateRef` loop in a quiet environment (`localApply_eq_runLoop`).
-/
import DulwichModel.Model.ReceivePack
import DulwichModel.Lemmas.ExceptEq
import DulwichModel.Lemmas.Assoc
import DulwichModel.Lemmas.Strip

namespace Dulwich.ReceivePack
open Dulwich
open Dulwich.Gen.ReceivePack (okMsg staleMsg missingMsg failedDeleteMsg failedWriteMsg badRefMsg failedLockMsg
  atomicFailedMsg unpackName atomicCap lockCatches allExceptions badRefCatches)

theorem failedDelete_ne_ok : failedDeleteMsg ≠ okMsg := by decide
theorem failedWrite_ne_ok : failedWriteMsg ≠ okMsg := by decide
theorem badRef_ne_ok : badRefMsg ≠ okMsg := by decide
theorem stale_ne_ok : staleMsg ≠ okMsg := by decide
theorem missing_ne_ok : missingMsg ≠ okMsg := by decide
theorem atomicFailed_ne_ok : atomicFailedMsg ≠ okMsg := by decide
theorem failedLock_ne_ok : failedLockMsg ≠ okMsg := by decide

/-- Update hooks never "decline" with the literal message `ok`: `_report_status` would write that text as `ok <ref>`
for a ref that was not touched.  Only what the lemmas say about statuses rests on it; those about refs and store alone
go through `RefStepSpec` and do without (`refLoop_store` keeps the hypothesis it was first stated with). -/
def HookSane (env : Env) : Prop := ∀ c, env.hook c ≠ some okMsg

theorem quiet_sane : HookSane Env.quiet := fun _ => by simp [Env.quiet]

abbrev distinctNames (cmds : List Cmd) : Prop := (cmds.map (·.name)).Nodup

/-- "the push reports success for ref `n`": no exception escaped the handler and the status entry for `n`
is `ok` — looked up after the leading `unpack` entry (`drop 1`), so that a ref named `unpack` cannot match it. -/
abbrev reportedOk (o : Outcome) (n : Name) : Prop :=
  o.raised = none ∧ (o.status.drop 1).lookup n = some okMsg

theorem name_ne_head {α : Type} {f : α → Name} {c c0 : α} {cs : List α} (hnd : f c0 ∉ cs.map f) (hc : c ∈ cs) :
    f c ≠ f c0 := fun e => hnd (e ▸ List.mem_map_of_mem hc)

theorem lookup_cons_ne {β : Type} {n k : Bytes} (v : β) (l : List (Bytes × β)) (h : n ≠ k) :
    ((k, v) :: l).lookup n = l.lookup n := by
  rw [List.lookup_cons, beq_false_of_ne h]

theorem lookup_of_mem_keys {β : Type} {l : List (Bytes × β)} {n : Bytes} (h : n ∈ l.map (·.1)) :
    ∃ m, l.lookup n = some m ∧ (n, m) ∈ l :=
  Assoc.lookup_of_mem_keys h

theorem lookup_map_snd {β γ : Type} (f : β → γ) (l : List (Bytes × β)) (n : Bytes) :
    (l.map (fun p => (p.1, f p.2))).lookup n = (l.lookup n).map f := by
  induction l with
  | nil => rfl
  | cons p l ih =>
    obtain ⟨a, b⟩ := p
    by_cases e : n = a
    · subst e
      rw [List.map_cons, List.lookup_cons_self, List.lookup_cons_self]
      rfl
    · rw [List.map_cons, lookup_cons_ne _ _ e, lookup_cons_ne _ _ e, ih]

/-! ### one ref update -/

def Cmd.applyTo (c : Cmd) (r : Refs) : Refs :=
  if isZero c.new then r.del c.name else r.set c.name c.new

theorem Cmd.applyTo_self (c : Cmd) (r : Refs) : c.applyTo r c.name = c.target := by
  unfold Cmd.applyTo Cmd.target Refs.del Refs.set
  split <;> simp

theorem Cmd.applyTo_other (c : Cmd) (r : Refs) {n : Name} (h : n ≠ c.name) : c.applyTo r n = r n := by
  unfold Cmd.applyTo Refs.del Refs.set
  split <;> simp [h]

/-- Specification of one iteration of an update loop: the refs are untouched (a status `ok` then means that the old
value did not match and the CAS result was dropped), or the compare-and-swap happened. -/
def StepOutcome (fl : Flags) (env : Env) (s : Srv) (c : Cmd) (s' : Srv) (m : Bytes) : Prop :=
  s'.store = s.store ∧
  ((s'.refs = s.refs ∧ (m = okMsg → cur s.refs c.name ≠ c.old ∧ fl.useCas = false)) ∨
   (cur s.refs c.name = c.old ∧ s'.refs = c.applyTo s.refs ∧ m = okMsg ∧ env.fault c.name = none ∧
    (isZero c.new = false → fl.checkNew = true → s.store c.new = true)))

def StepSpec (fl : Flags) (env : Env) (step : Srv → Cmd → Except Exc (Srv × Bytes)) : Prop :=
  ∀ s c s' m, step s c = .ok (s', m) → StepOutcome fl env s c s' m

theorem StepOutcome.untouched {fl : Flags} {env : Env} {s : Srv} {c : Cmd} {m : Bytes} (hm : m ≠ okMsg) :
    StepOutcome fl env s c s m :=
  ⟨rfl, .inl ⟨rfl, fun e => absurd e hm⟩⟩

/-- Both container calls of `updateRef` are this compare-and-swap on the commanded ref. -/
theorem cas_eq (s : Srv) (c : Cmd) :
    (if isZero c.new then removeIfEquals s.refs c.name c.old else setIfEquals s.refs c.name c.old c.new) =
      if cur s.refs c.name = c.old then (c.applyTo s.refs, true) else (s.refs, false) := by
  unfold Cmd.applyTo removeIfEquals setIfEquals
  split <;> rfl

def Caught (mro : List Bytes) : Prop :=
  catches lockCatches mro = true ∨ catches allExceptions mro = true ∨ catches badRefCatches mro = true

/-- The two ways `updateRef` answers `.error` (`updateRef_total`): the deletion is refused, or the container raises what
none of the three `except` clauses (`Caught`) takes.  `NoEscape` rules out both for every command, with `Caught` written out. -/
def Escapes (env : Env) (caps : List Bytes) (c : Cmd) : Prop :=
  deleteRefused caps = true ∨ ∃ mro, env.fault c.name = some mro ∧ ¬ Caught mro

/-- The guarded container call as `updateRef` makes it (the call written as `cas_eq` gives it). -/
theorem guarded_spec (fl : Flags) (env : Env) (caps : List Bytes) (s : Srv) (c : Cmd) {failMsg : Bytes} (hf : failMsg ≠ okMsg)
    (hnew : isZero c.new = false → fl.checkNew = true → s.store c.new = true) :
    match guarded env s c.name failMsg
      (fun _ => if cur s.refs c.name = c.old then (c.applyTo s.refs, true) else (s.refs, false)) fl with
    | .error _ => Escapes env caps c
    | .ok (s', m) => StepOutcome fl env s c s' m := by
  unfold guarded
  cases hfault : env.fault c.name with
  | some mro =>
    dsimp only
    by_cases h0 : catches lockCatches mro = true
    · rw [if_pos h0]; exact .untouched failedLock_ne_ok
    · rw [if_neg h0]
      by_cases h1 : catches allExceptions mro = true
      · rw [if_pos h1]; exact .untouched hf
      · rw [if_neg h1]
        by_cases h2 : catches badRefCatches mro = true
        · rw [if_pos h2]; exact .untouched badRef_ne_ok
        · rw [if_neg h2]; exact .inr ⟨mro, hfault, by rintro (h | h | h) <;> contradiction⟩
  | none =>
    dsimp only
    by_cases hc : cur s.refs c.name = c.old
    · rw [if_pos hc]
      exact ⟨rfl, .inr ⟨hc, rfl, by simp, hfault, hnew⟩⟩
    · rw [if_neg hc]
      refine ⟨rfl, .inl ⟨rfl, fun e => ⟨hc, ?_⟩⟩⟩
      cases hu : fl.useCas
      · rfl
      · rw [hu] at e; exact absurd e stale_ne_ok

theorem updateRef_total (fl : Flags) (env : Env) (caps : List Bytes) (dc : Bool) (s : Srv) (c : Cmd) :
    match updateRef fl env caps dc s c with
    | .error _ => Escapes env caps c
    | .ok (s', m) => StepOutcome fl env s c s' m := by
  have e := cas_eq s c
  unfold updateRef
  by_cases hz : isZero c.new = true
  · rw [if_pos hz] at e ⊢
    by_cases hd : (dc && deleteRefused caps) = true
    · rw [if_pos hd]; exact .inl (Bool.and_eq_true _ _ ▸ hd).2
    · rw [if_neg hd, e]
      exact guarded_spec fl env caps s c failedDelete_ne_ok (fun h => by rw [hz] at h; cases h)
  · rw [if_neg hz] at e ⊢
    by_cases hmiss : (fl.checkNew && !s.store c.new) = true
    · rw [if_pos hmiss]; exact .untouched missing_ne_ok
    · rw [if_neg hmiss, e]
      exact guarded_spec fl env caps s c failedWrite_ne_ok (fun _ hck => by simpa [hck] using hmiss)

theorem updateRef_spec (fl : Flags) (env : Env) (caps : List Bytes) (dc : Bool) :
    StepSpec fl env (updateRef fl env caps dc) := by
  intro s c s' m h
  have := updateRef_total fl env caps dc s c
  rw [h] at this
  exact this

theorem hookError_ne_ok {env : Env} (hs : HookSane env) {c : Cmd} {m : Bytes}
    (h : hookError env c = some m) : m ≠ okMsg := by
  unfold hookError at h
  split at h
  · rename_i m' hm
    split at h
    · cases h
    · cases h
      intro e
      exact hs c (by rw [hm, e])
  · cases h

theorem plainStep_spec (fl : Flags) (env : Env) (caps : List Bytes) (hs : HookSane env) :
    StepSpec fl env (plainStep fl env caps) := by
  intro s c s' m h
  unfold plainStep at h
  split at h
  · rename_i msg hm
    cases h
    exact .untouched (hookError_ne_ok hs hm)
  · exact updateRef_spec fl env caps true s c s' m h

/-- `StepOutcome` with the status (and the fault clause) left out: what a step does to refs and store, whatever it reports. -/
def RefOutcome (fl : Flags) (s : Srv) (c : Cmd) (s' : Srv) : Prop :=
  s'.store = s.store ∧
  (s'.refs = s.refs ∨ (cur s.refs c.name = c.old ∧ s'.refs = c.applyTo s.refs ∧
    (isZero c.new = false → fl.checkNew = true → s.store c.new = true)))

theorem StepOutcome.refs {fl env s c s' m} (h : StepOutcome fl env s c s' m) : RefOutcome fl s c s' :=
  ⟨h.1, h.2.imp And.left fun h => ⟨h.1, h.2.1, h.2.2.2.2⟩⟩

theorem RefOutcome.frame {fl s c s'} (h : RefOutcome fl s c s') {n : Name} (hn : n ≠ c.name) : s'.refs n = s.refs n := by
  rcases h.2 with e | ⟨_, e, _⟩
  · rw [e]
  · rw [e, Cmd.applyTo_other c s.refs hn]

theorem StepOutcome.frame {fl env s c s' m} (h : StepOutcome fl env s c s' m) {n : Name} (hn : n ≠ c.name) :
    s'.refs n = s.refs n :=
  h.refs.frame hn

/-- `StepSpec` with the status left out: all that the lemmas about refs and store alone use.  `plainStep` meets it whatever
the update hook answers (`plainStep_refs`), so those lemmas need no `HookSane`. -/
def RefStepSpec (fl : Flags) (step : Srv → Cmd → Except Exc (Srv × Bytes)) : Prop :=
  ∀ s c s' m, step s c = .ok (s', m) → RefOutcome fl s c s'

theorem StepSpec.forget {fl env step} (hs : StepSpec fl env step) : RefStepSpec fl step :=
  fun s c s' m h => (hs s c s' m h).refs

theorem plainStep_refs (fl : Flags) (env : Env) (caps : List Bytes) : RefStepSpec fl (plainStep fl env caps) := by
  intro s c s' m h
  unfold plainStep at h
  split at h
  · cases h
    exact ⟨rfl, .inl rfl⟩
  · exact (updateRef_spec fl env caps true s c s' m h).refs

/-- `StepOutcome` seen from the commanded ref alone (`StepOutcome.result`): the form in which the results of the loops are
stated.  Of `fl` it reads only `useCas`, so `CmdResult fl.noCheck` unfolds to `CmdResult fl`; the atomic arm of `refLoop_at`
relies on that. -/
def CmdResult (fl : Flags) (before : Refs) (after : Option Id) (c : Cmd) (m : Bytes) : Prop :=
  (after = before c.name ∧ (m = okMsg → cur before c.name ≠ c.old ∧ fl.useCas = false)) ∨
  (cur before c.name = c.old ∧ after = c.target ∧ m = okMsg)

theorem StepOutcome.result {fl env s c s' m} (h : StepOutcome fl env s c s' m) :
    CmdResult fl s.refs (s'.refs c.name) c m := by
  obtain ⟨_, h | h⟩ := h
  · exact Or.inl ⟨by rw [h.1], h.2⟩
  · exact Or.inr ⟨h.1, by rw [h.2.1, Cmd.applyTo_self], h.2.2.1⟩

/-! ### the update loops -/

section
variable {fl : Flags} {step : Srv → Cmd → Except Exc (Srv × Bytes)} (hs : RefStepSpec fl step) (s : Srv) (cmds : List Cmd)
include hs

theorem runLoop_store : (runLoop step s cmds).srv.store = s.store := by
  fun_induction runLoop step s cmds with
  | case1 => rfl
  | case2 => rfl
  | case3 s c cs s' m hst _ ih => exact ih.trans (hs s c s' m hst).1

theorem runLoop_only_commanded (n : Name) :
    (runLoop step s cmds).srv.refs n = s.refs n ∨
      ∃ c ∈ cmds, c.name = n ∧ (runLoop step s cmds).srv.refs n = c.target := by
  fun_induction runLoop step s cmds with
  | case1 => exact .inl rfl
  | case2 => exact .inl rfl
  | case3 s c cs s' m hst _ ih =>
    have hso := hs s c s' m hst
    rcases ih with h | ⟨c', hc', hn, hv⟩
    · by_cases hn : n = c.name
      · subst hn
        rcases hso.2 with e | ⟨_, e, _⟩
        · exact .inl (h.trans (by rw [e]))
        · exact .inr ⟨c, List.mem_cons_self, rfl, h.trans (by rw [e, Cmd.applyTo_self])⟩
      · exact .inl (h.trans (hso.frame hn))
    · exact .inr ⟨c', List.mem_cons_of_mem _ hc', hn, hv⟩

theorem runLoop_frame (n : Name) (hn : n ∉ cmds.map (·.name)) : (runLoop step s cmds).srv.refs n = s.refs n :=
  (runLoop_only_commanded hs s cmds n).resolve_right fun ⟨_, hc, hn', _⟩ => hn (hn' ▸ List.mem_map_of_mem hc)

end

section
variable {fl : Flags} {env : Env} {step : Srv → Cmd → Except Exc (Srv × Bytes)} (hs : StepSpec fl env step)
  (s : Srv) (cmds : List Cmd)
include hs

theorem runLoop_at (hnd : distinctNames cmds) :
    ∀ c ∈ cmds, ((runLoop step s cmds).raised ≠ none ∧ (runLoop step s cmds).srv.refs c.name = s.refs c.name) ∨
      ∃ m, (runLoop step s cmds).status.lookup c.name = some m ∧
        CmdResult fl s.refs ((runLoop step s cmds).srv.refs c.name) c m := by
  fun_induction runLoop step s cmds with
  | case1 => nofun
  | case2 => exact fun _ _ => .inl ⟨nofun, rfl⟩
  | case3 s c0 cs s' m0 hst _ ih =>
    rw [distinctNames, List.map_cons, List.nodup_cons] at hnd
    intro c hc
    have hso := hs s c0 s' m0 hst
    rcases List.mem_cons.mp hc with rfl | hc
    · exact .inr ⟨m0, List.lookup_cons_self, (runLoop_frame hs.forget s' cs c.name hnd.1) ▸ hso.result⟩
    · have hne := name_ne_head (f := Cmd.name) hnd.1 hc
      have := ih hnd.2 c hc
      unfold CmdResult cur at this ⊢
      rw [hso.frame hne] at this
      rcases this with h | ⟨m, hm, hres⟩
      · exact .inl h
      · exact .inr ⟨m, by rw [lookup_cons_ne _ _ hne]; exact hm, hres⟩

end

theorem runLoop_status_names {step} (s : Srv) (cmds : List Cmd)
    (hr : (runLoop step s cmds).raised = none) :
    (runLoop step s cmds).status.map (·.1) = cmds.map (·.name) := by
  fun_induction runLoop step s cmds with
  | case1 => rfl
  | case2 => cases hr
  | case3 s c cs s' m hst _ ih => exact congrArg (c.name :: ·) (ih hr)

def RefsInStore (s : Srv) : Prop := ∀ n v, s.refs n = some v → s.store v = true

theorem applyTo_inStore {s : Srv} {c : Cmd} (hi : RefsInStore s)
    (hnew : isZero c.new = false → s.store c.new = true) :
    ∀ n v, c.applyTo s.refs n = some v → s.store v = true := by
  intro n v h
  by_cases hn : n = c.name
  · rw [hn, Cmd.applyTo_self, Cmd.target] at h
    split at h
    · cases h
    · rename_i hz
      cases h
      exact hnew (by simpa using hz)
  · rw [Cmd.applyTo_other c s.refs hn] at h
    exact hi n v h

theorem runLoop_inStore {fl step} (hs : RefStepSpec fl step) (s : Srv) (cmds : List Cmd)
    (hnew : ∀ c ∈ cmds, isZero c.new = false → fl.checkNew = false → s.store c.new = true)
    (hi : RefsInStore s) : RefsInStore (runLoop step s cmds).srv := by
  fun_induction runLoop step s cmds with
  | case1 => exact hi
  | case2 => exact hi
  | case3 s c cs s' m hst _ ih =>
    have hso := hs s c s' m hst
    apply ih
    · intro c' hc' hz hck
      rw [hso.1]
      exact hnew c' (List.mem_cons_of_mem _ hc') hz hck
    · intro n v hv
      rw [hso.1]
      obtain ⟨_, h | h⟩ := hso
      · rw [h] at hv; exact hi n v hv
      · rw [h.2.1] at hv
        refine applyTo_inStore hi ?_ n v hv
        intro hz
        cases hck : fl.checkNew with
        | true => exact h.2.2 hz hck
        | false => exact hnew c List.mem_cons_self hz hck

theorem updateRef_success {fl : Flags} {env : Env} {caps : List Bytes} {s : Srv} {c : Cmd}
    (hf : env.fault c.name = none) (hold : cur s.refs c.name = c.old)
    (hnew : isZero c.new = false → fl.checkNew = true → s.store c.new = true) :
    updateRef fl env caps false s c = .ok (⟨c.applyTo s.refs, s.store⟩, okMsg) := by
  unfold updateRef guarded Cmd.applyTo
  cases hz : isZero c.new with
  | true => simp [hf, removeIfEquals, hold]
  | false =>
    cases hck : fl.checkNew with
    | false => simp [hf, setIfEquals, hold]
    | true => simp [hf, setIfEquals, hold, hnew hz hck]

theorem cur_congr {r r' : Refs} {n : Name} (h : r n = r' n) : cur r n = cur r' n := by
  unfold cur; rw [h]

/-- The "all" half of all-or-nothing, for the atomic apply loop (at `fl.noCheck`) and for the local one (at `lf.wire`). -/
theorem runLoop_updateRef_all {fl : Flags} {env : Env} {caps : List Bytes} (s : Srv) (cmds : List Cmd)
    (hnd : distinctNames cmds)
    (hok : ∀ c ∈ cmds, env.fault c.name = none ∧ cur s.refs c.name = c.old ∧
      (isZero c.new = false → fl.checkNew = true → s.store c.new = true)) :
    ∀ c ∈ cmds, (runLoop (updateRef fl env caps false) s cmds).srv.refs c.name = c.target := by
  induction cmds generalizing s with
  | nil => nofun
  | cons c0 cs ih =>
    rw [distinctNames, List.map_cons, List.nodup_cons] at hnd
    obtain ⟨hf0, hold0, hnew0⟩ := hok c0 List.mem_cons_self
    rw [runLoop, updateRef_success (caps := caps) hf0 hold0 hnew0]
    intro c hc
    rcases List.mem_cons.mp hc with rfl | hc
    · exact (runLoop_frame (updateRef_spec fl env caps false).forget _ cs c.name hnd.1).trans (Cmd.applyTo_self c s.refs)
    · refine ih _ hnd.2 (fun c' hc' => ?_) c hc
      obtain ⟨a, b, d⟩ := hok c' (List.mem_cons_of_mem _ hc')
      exact ⟨a, (cur_congr (Cmd.applyTo_other c0 s.refs (name_ne_head (f := Cmd.name) hnd.1 hc'))).trans b, d⟩

/-! ### the atomic validation loop, and `refLoop` -/

def Validated (fl : Flags) (s : Srv) (c : Cmd) : Prop :=
  (fl.atomicOld = true → cur s.refs c.name = c.old) ∧
  (fl.atomicNew = true → isZero c.new = false → s.store c.new = true)

theorem validate_spec (fl : Flags) (env : Env) (caps : List Bytes) (s : Srv) (c : Cmd) :
    match validate fl env caps s c with
    | .error _ => deleteRefused caps = true
    | .ok (_, false) => Validated fl s c
    | .ok (_, true) => True := by
  unfold validate
  cases hookError env c with
  | some msg => exact trivial
  | none =>
    dsimp only
    by_cases h1 : (isZero c.new && deleteRefused caps) = true
    · rw [if_pos h1]; exact (Bool.and_eq_true _ _ ▸ h1).2
    · rw [if_neg h1]
      by_cases h2 : (fl.atomicNew && !isZero c.new && !s.store c.new) = true
      · rw [if_pos h2]; exact trivial
      · rw [if_neg h2]
        by_cases h3 : (fl.atomicOld && cur s.refs c.name != c.old) = true
        · rw [if_pos h3]; exact trivial
        · rw [if_neg h3]
          exact ⟨fun ha => by simpa [ha] using h3, fun hn hz => by simpa [hn, hz] using h2⟩

theorem validateAll_spec (fl : Flags) (env : Env) (caps : List Bytes) (s : Srv) (cmds : List Cmd) :
    match validateAll fl env caps s cmds with
    | .error _ => deleteRefused caps = true
    | .ok (rs, f) => rs.map (·.1) = cmds.map (·.name) ∧ (f = false → ∀ c ∈ cmds, Validated fl s c) := by
  induction cmds with
  | nil => exact ⟨rfl, fun _ => nofun⟩
  | cons c0 cs ih =>
    have h0 := validate_spec fl env caps s c0
    rw [validateAll]
    cases hv : validate fl env caps s c0 with
    | error e => rw [hv] at h0; exact h0
    | ok p =>
      obtain ⟨m, f0⟩ := p
      rw [hv] at h0
      cases hv' : validateAll fl env caps s cs with
      | error e => rw [hv'] at ih; exact ih
      | ok q =>
        obtain ⟨rs, f'⟩ := q
        rw [hv'] at ih
        refine ⟨by rw [List.map_cons, List.map_cons, ih.1], fun hf c hc => ?_⟩
        rw [Bool.or_eq_false_iff] at hf
        rcases List.mem_cons.mp hc with rfl | hc
        · cases hf.1; exact h0
        · exact ih.2 hf.2 c hc

theorem validateAll_ok {fl : Flags} {env caps s} (cmds : List Cmd) {rs f}
    (h : validateAll fl env caps s cmds = .ok (rs, f)) :
    rs.map (·.1) = cmds.map (·.name) ∧ (f = false → ∀ c ∈ cmds, Validated fl s c) := by
  have := validateAll_spec fl env caps s cmds
  rw [h] at this
  exact this

theorem failAll_names (rs : List (Bytes × Bytes)) : (failAll rs).map (·.1) = rs.map (·.1) := by
  unfold failAll
  induction rs with
  | nil => rfl
  | cons p rs ih =>
    simp only [List.map_cons, ih]
    split <;> rfl

theorem failAll_ne_ok (rs : List (Bytes × Bytes)) : ∀ p ∈ failAll rs, p.2 ≠ okMsg := by
  unfold failAll
  intro p hp
  obtain ⟨q, _, rfl⟩ := List.mem_map.mp hp
  split
  · exact atomicFailed_ne_ok
  · assumption

theorem refLoop_store_eq (fl : Flags) (env : Env) (caps : List Bytes) (s : Srv) (cmds : List Cmd) :
    (refLoop fl env caps s cmds).srv.store = s.store := by
  unfold refLoop
  split
  · split
    · rfl
    · rfl
    · exact runLoop_store (updateRef_spec fl.noCheck env caps false).forget s cmds
  · exact runLoop_store (plainStep_refs fl env caps) s cmds

theorem refLoop_store (fl : Flags) (env : Env) (caps : List Bytes) (hs : HookSane env) (s : Srv)
    (cmds : List Cmd) : (refLoop fl env caps s cmds).srv.store = s.store :=
  refLoop_store_eq fl env caps s cmds

section
variable (fl : Flags) (env : Env) (caps : List Bytes)

theorem refLoop_only_commanded (s : Srv) (cmds : List Cmd) (n : Name) :
    (refLoop fl env caps s cmds).srv.refs n = s.refs n ∨
      ∃ c ∈ cmds, c.name = n ∧ (refLoop fl env caps s cmds).srv.refs n = c.target := by
  unfold refLoop
  split
  · split
    · exact Or.inl rfl
    · exact Or.inl rfl
    · exact runLoop_only_commanded (updateRef_spec fl.noCheck env caps false).forget s cmds n
  · exact runLoop_only_commanded (plainStep_refs fl env caps) s cmds n

theorem refLoop_at (s : Srv) (cmds : List Cmd) (hs : HookSane env) (hnd : distinctNames cmds) :
    ∀ c ∈ cmds, ((refLoop fl env caps s cmds).raised ≠ none ∧ (refLoop fl env caps s cmds).srv.refs c.name = s.refs c.name) ∨
      ∃ m, (refLoop fl env caps s cmds).status.lookup c.name = some m ∧
        CmdResult fl s.refs ((refLoop fl env caps s cmds).srv.refs c.name) c m := by
  unfold refLoop
  split
  · split
    · exact fun _ _ => .inl ⟨nofun, rfl⟩
    · rename_i rs hv
      intro c hc
      have hmem : c.name ∈ (failAll rs).map (·.1) := by
        rw [failAll_names, (validateAll_ok cmds hv).1]
        exact List.mem_map_of_mem hc
      obtain ⟨m, hm, hin⟩ := lookup_of_mem_keys hmem
      exact .inr ⟨m, hm, .inl ⟨rfl, fun e => absurd e (failAll_ne_ok rs _ hin)⟩⟩
    · exact runLoop_at (updateRef_spec fl.noCheck env caps false) s cmds hnd
  · exact runLoop_at (plainStep_spec fl env caps hs) s cmds hnd

theorem refLoop_status_names (s : Srv) (cmds : List Cmd)
    (hr : (refLoop fl env caps s cmds).raised = none) :
    (refLoop fl env caps s cmds).status.map (·.1) = cmds.map (·.name) := by
  unfold refLoop at hr ⊢
  by_cases hat : caps.contains atomicCap = true
  · rw [if_pos hat] at hr ⊢
    split
    · rename_i e he
      simp only [he] at hr
      cases hr
    · rename_i rs hv
      simp only
      rw [failAll_names, (validateAll_ok cmds hv).1]
    · rename_i rs hv
      simp only [hv] at hr
      exact runLoop_status_names s cmds hr
  · rw [if_neg hat] at hr ⊢
    exact runLoop_status_names s cmds hr

theorem refLoop_inStore (s : Srv) (cmds : List Cmd)
    (hnew : ∀ c ∈ cmds, isZero c.new = false → fl.checkNew = false ∨ fl.atomicNew = false → s.store c.new = true)
    (hi : RefsInStore s) : RefsInStore (refLoop fl env caps s cmds).srv := by
  unfold refLoop
  split
  · split
    · exact hi
    · exact hi
    · rename_i rs hv
      apply runLoop_inStore (updateRef_spec fl.noCheck env caps false).forget s cmds _ hi
      intro c hc hz _
      cases han : fl.atomicNew with
      | true => exact ((validateAll_ok cmds hv).2 rfl c hc).2 han hz
      | false => exact hnew c hc hz (.inr han)
  · exact runLoop_inStore (plainStep_refs fl env caps) s cmds (fun c hc hz hck => hnew c hc hz (.inl hck)) hi

theorem refLoop_atomic (s : Srv) (cmds : List Cmd)
    (hat : caps.contains atomicCap = true)
    (hnd : distinctNames cmds) (hf : ∀ c ∈ cmds, env.fault c.name = none)
    (happ : fl.atomicOld = true ∨ ∀ c ∈ cmds, cur s.refs c.name = c.old) :
    (refLoop fl env caps s cmds).srv.refs = s.refs ∨
      ∀ c ∈ cmds, (refLoop fl env caps s cmds).srv.refs c.name = c.target := by
  unfold refLoop
  rw [if_pos hat]
  split
  · exact Or.inl rfl
  · exact Or.inl rfl
  · rename_i rs hv
    right
    refine runLoop_updateRef_all (fl := fl.noCheck) s cmds hnd fun c hc => ⟨hf c hc, ?_, fun _ => nofun⟩
    rcases happ with ha | h
    · exact ((validateAll_ok cmds hv).2 rfl c hc).1 ha
    · exact h c hc

/-! ### when no exception escapes -/

/-- Input-side condition under which the ref loop of `_apply_pack` runs to completion. -/
def NoEscape (env : Env) (caps : List Bytes) (cmds : List Cmd) : Prop :=
  deleteRefused caps = false ∧
  ∀ c ∈ cmds, ∀ mro, env.fault c.name = some mro →
    catches Gen.ReceivePack.lockCatches mro = true ∨
    catches Gen.ReceivePack.allExceptions mro = true ∨ catches Gen.ReceivePack.badRefCatches mro = true

theorem updateRef_no_error {fl : Flags} {env : Env} {caps : List Bytes} {dc : Bool} {s : Srv} {c : Cmd}
    (hd : deleteRefused caps = false) (hf : ∀ mro, env.fault c.name = some mro → Caught mro) :
    ∃ r, updateRef fl env caps dc s c = .ok r := by
  have := updateRef_total fl env caps dc s c
  cases h : updateRef fl env caps dc s c with
  | ok r => exact ⟨r, rfl⟩
  | error e =>
    rw [h] at this
    rcases this with h1 | ⟨mro, h1, h2⟩
    · rw [hd] at h1; cases h1
    · exact absurd (hf mro h1) h2

theorem runLoop_no_raise {step : Srv → Cmd → Except Exc (Srv × Bytes)} (s : Srv) (cmds : List Cmd)
    (h : ∀ s, ∀ c ∈ cmds, ∃ r, step s c = .ok r) : (runLoop step s cmds).raised = none := by
  fun_induction runLoop step s cmds with
  | case1 => rfl
  | case2 s c cs e he =>
    obtain ⟨r, hr⟩ := h s c List.mem_cons_self
    cases he.symm.trans hr
  | case3 s c cs s' m hst _ ih => exact ih fun s c hc => h s c (List.mem_cons_of_mem _ hc)

theorem refLoop_no_raise (s : Srv) (cmds : List Cmd)
    (h : NoEscape env caps cmds) : (refLoop fl env caps s cmds).raised = none := by
  obtain ⟨hd, hf⟩ := h
  unfold refLoop
  split
  · have hv := validateAll_spec fl env caps s cmds
    split
    · rename_i e he
      rw [he, hd] at hv
      cases hv
    · rfl
    · exact runLoop_no_raise s cmds (fun s c hc => updateRef_no_error hd (hf c hc))
  · apply runLoop_no_raise s cmds
    intro s c hc
    unfold plainStep
    split
    · exact ⟨_, rfl⟩
    · exact updateRef_no_error hd (hf c hc)

end

/-! ### `_apply_pack`: the unpack step in front of the ref loop -/

def storeAfterUnpack (s : Srv) (u : Unpack) (cmds : List Cmd) : Store :=
  if willSendPack cmds then
    match u with
    | .ok ids => s.store.add ids
    | .raises _ => s.store
  else s.store

section
variable (fl : Flags) (env : Env) (caps : List Bytes) (s : Srv) (u : Unpack) (cmds : List Cmd)

theorem storeAfterUnpack_mono (i : Id) (h : s.store i = true) :
    storeAfterUnpack s u cmds i = true := by
  unfold storeAfterUnpack
  split
  · split
    · simp [Store.add, h]
    · exact h
  · exact h

theorem applyPack_cases :
    (applyPack fl env caps s u cmds =
      ⟨(refLoop fl env caps ⟨s.refs, storeAfterUnpack s u cmds⟩ cmds).srv,
       (unpackName, okMsg) :: (refLoop fl env caps ⟨s.refs, storeAfterUnpack s u cmds⟩ cmds).status,
       (refLoop fl env caps ⟨s.refs, storeAfterUnpack s u cmds⟩ cmds).raised⟩) ∨
    ((applyPack fl env caps s u cmds).srv = s ∧ (applyPack fl env caps s u cmds).status.drop 1 = []) := by
  unfold applyPack storeAfterUnpack
  by_cases hw : willSendPack cmds = true
  · simp only [hw, if_true]
    cases u with
    | ok ids => exact Or.inl rfl
    | raises mro =>
      simp only
      split
      · exact Or.inr ⟨rfl, rfl⟩
      · exact Or.inr ⟨rfl, rfl⟩
  · simp only [hw]
    exact Or.inl rfl

/-- Any flags, any hook, any command list (duplicates, escaping exceptions included): afterwards every ref either is what
it was or holds the value some command for that name asked for (`none` = deleted). -/
theorem applyPack_only_commanded (n : Name) :
    (applyPack fl env caps s u cmds).srv.refs n = s.refs n ∨
      ∃ c ∈ cmds, c.name = n ∧ (applyPack fl env caps s u cmds).srv.refs n = c.target := by
  rcases applyPack_cases fl env caps s u cmds with h | ⟨h1, _⟩
  · rw [h]
    exact refLoop_only_commanded fl env caps ⟨s.refs, storeAfterUnpack s u cmds⟩ cmds n
  · left; rw [h1]

theorem applyPack_cmd (hs : HookSane env) (hnd : distinctNames cmds) :
    ∀ c ∈ cmds,
      ((applyPack fl env caps s u cmds).srv.refs c.name = s.refs c.name ∧
        ¬ reportedOk (applyPack fl env caps s u cmds) c.name) ∨
      ∃ m, ((applyPack fl env caps s u cmds).status.drop 1).lookup c.name = some m ∧
        CmdResult fl s.refs ((applyPack fl env caps s u cmds).srv.refs c.name) c m := by
  intro c hc
  rcases applyPack_cases fl env caps s u cmds with h | ⟨h1, h2⟩
  · rw [h]
    rcases refLoop_at fl env caps ⟨s.refs, storeAfterUnpack s u cmds⟩ cmds hs hnd c hc with ⟨h1, h2⟩ | h
    · exact .inl ⟨h2, fun hok => h1 hok.1⟩
    · exact .inr h
  · refine .inl ⟨by rw [h1], fun hok => ?_⟩
    have := hok.2
    rw [h2] at this
    cases this

theorem target_ne_of_match {r : Refs} {c : Cmd} (hm : cur r c.name = c.old) (hne : c.old ≠ c.new) :
    r c.name ≠ c.target := by
  intro e
  refine hne ?_
  rw [← hm, cur, e, Cmd.target]
  by_cases hz : isZero c.new = true
  · rw [if_pos hz]
    exact (by simpa [isZero] using hz : c.new = zeroSha).symm
  · rw [if_neg hz]

theorem reportedOk_vs_ref (hs : HookSane env) (hnd : distinctNames cmds) {c : Cmd} (hc : c ∈ cmds) :
    (reportedOk (applyPack fl env caps s u cmds) c.name →
      (cur s.refs c.name = c.old ∧ (applyPack fl env caps s u cmds).srv.refs c.name = c.target) ∨
      (cur s.refs c.name ≠ c.old ∧ fl.useCas = false)) ∧
    ((applyPack fl env caps s u cmds).raised = none → c.old ≠ c.new → cur s.refs c.name = c.old →
      (applyPack fl env caps s u cmds).srv.refs c.name = c.target → reportedOk (applyPack fl env caps s u cmds) c.name) := by
  rcases applyPack_cmd fl env caps s u cmds hs hnd c hc with ⟨h1, h2⟩ | ⟨m, hl, ⟨h1, h2⟩ | ⟨h0, h1, h2⟩⟩
  · exact ⟨fun h => absurd h h2, fun _ hne hm ht => absurd (h1 ▸ ht) (target_ne_of_match hm hne)⟩
  · refine ⟨fun h => .inr (h2 ?_), fun _ hne hm ht => absurd (h1 ▸ ht) (target_ne_of_match hm hne)⟩
    exact Option.some.inj (hl ▸ h.2)
  · exact ⟨fun _ => .inl ⟨h0, h1⟩, fun hr _ _ _ => ⟨hr, by rw [hl, h2]⟩⟩

theorem applyPack_inStore (hi : RefsInStore s)
    (hnew : ∀ c ∈ cmds, isZero c.new = false → fl.checkNew = false ∨ fl.atomicNew = false →
      storeAfterUnpack s u cmds c.new = true) :
    RefsInStore (applyPack fl env caps s u cmds).srv := by
  rcases applyPack_cases fl env caps s u cmds with h | ⟨h1, _⟩
  · rw [h]
    apply refLoop_inStore fl env caps ⟨s.refs, storeAfterUnpack s u cmds⟩ cmds hnew
    intro n v hv
    exact storeAfterUnpack_mono s u cmds v (hi n v hv)
  · rw [h1]; exact hi

/-- `atomic` is all-or-nothing when every command that reaches the apply loop names the current old value — because the
validation loop compared them (`atomicOld`) or by hypothesis — and the ref container raises for none of the commanded names
while applying (the code does not roll back).  The object store plays no part: the atomic apply loop never tests it. -/
theorem applyPack_atomic (hat : caps.contains atomicCap = true) (hnd : distinctNames cmds) (hf : ∀ c ∈ cmds, env.fault c.name = none)
    (happ : fl.atomicOld = true ∨ ∀ c ∈ cmds, cur s.refs c.name = c.old) :
    (applyPack fl env caps s u cmds).srv.refs = s.refs ∨
      ∀ c ∈ cmds, (applyPack fl env caps s u cmds).srv.refs c.name = c.target := by
  rcases applyPack_cases fl env caps s u cmds with h | ⟨h1, _⟩
  · rw [h]
    exact refLoop_atomic fl env caps ⟨s.refs, storeAfterUnpack s u cmds⟩ cmds hat hnd hf happ
  · left; rw [h1]

end

/-! ### status report: what the server writes is what the client reads -/

open Dulwich.Gen.ReceivePack in
def CleanName (n : Bytes) : Prop := n ≠ [] ∧ (∀ b ∈ n, isWs b = false) ∧ n ≠ rsUnpackName

/-- a status message: non-empty, first and last byte not whitespace (inner spaces allowed) -/
def CleanMsg (m : Bytes) : Prop :=
  ∃ a mid z, (m = [a] ∨ m = a :: (mid ++ [z])) ∧ isWs a = false ∧ isWs z = false

theorem splitOnce_append (sep : UInt8) (n r : Bytes) (h : ∀ b ∈ n, b ≠ sep) :
    splitOnce sep (n ++ sep :: r) = some (n, r) := by
  induction n with
  | nil => simp [splitOnce]
  | cons a n ih =>
    have ha : a ≠ sep := h a List.mem_cons_self
    have := ih (fun b hb => h b (List.mem_cons_of_mem _ hb))
    simp [splitOnce, ha, this]

theorem ne_space_of_not_isWs {b : UInt8} (h : isWs b = false) : b ≠ 32 := by
  intro e
  rw [e] at h
  cases h

theorem strip_line (a z : UInt8) (body : Bytes) (ha : isWs a = false) (hz : isWs z = false) :
    strip ((a :: (body ++ [z])) ++ [10]) = a :: (body ++ [z]) := by
  rw [strip, lstrip, List.cons_append, List.dropWhile_cons_of_neg (by rw [ha]; nofun), ← List.cons_append]
  exact Strip.rdropWhile_pad (r := [10]) (by decide) (List.getLast?_concat (l := a :: body)) hz

/-- A status line `kw ‹space› body ‹newline›` — two-byte keyword, body ending in a non-blank byte — as `check()` sees it:
stripped of the newline and split at the first space (`parserSep`, the byte 32 the formats put after the keyword). -/
theorem split_status_line (a b z : UInt8) (body : Bytes) (ha : isWs a = false) (hb : b ≠ 32) (hz : isWs z = false) :
    splitOnce Gen.ReceivePack.parserSep (strip ((a :: ((b :: 32 :: body) ++ [z])) ++ [10])) = some ([a, b], body ++ [z]) := by
  have ha' : a ≠ 32 := ne_space_of_not_isWs ha
  rw [strip_line a z _ ha hz]
  exact splitOnce_append 32 [a, b] (body ++ [z]) (by simp [ha', hb])

def clientStatus (p : Bytes × Bytes) : Bytes × Option Bytes :=
  (p.1, if p.2 = Gen.ReceivePack.okMsg then none else some p.2)

theorem line_status (n m : Bytes) (hn : CleanName n) (hm : m = okMsg ∨ CleanMsg m)
    (rest : List Bytes) :
    checkStatuses (strip (statusLine (n, m)) :: rest) =
      (match checkStatuses rest with
       | .error e => .error e
       | .ok l => .ok (clientStatus (n, m) :: l)) := by
  obtain ⟨hnn, hws, hun⟩ := hn
  have h1 : ¬ (n = Gen.ReceivePack.rsUnpackName) := hun
  by_cases hok : m = okMsg
  · subst hok
    obtain ⟨n', z, rfl, hz⟩ : ∃ n' z, n = n' ++ [z] ∧ z ∈ n :=
      ⟨n.dropLast, n.getLast hnn, (List.dropLast_concat_getLast hnn).symm, List.getLast_mem hnn⟩
    -- the server's `fmtOk` spelt out: `o k ␠ name ⏎` (111 107 32 … 10); below, the client's keyword `parserOk`
    have hline : statusLine (n' ++ [z], okMsg) = (111 :: ((107 :: 32 :: n') ++ [z])) ++ [10] := by
      simp [statusLine, h1, renderParts, Gen.ReceivePack.fmtOk, Gen.ReceivePack.rsOkMsg, okMsg]
    rw [checkStatuses, hline, split_status_line 111 107 z n' (by decide) (by decide) (hws z hz)]
    cases checkStatuses rest <;> simp [Gen.ReceivePack.parserNg, Gen.ReceivePack.parserOk, clientStatus]
  · have h2 : ¬ (m = Gen.ReceivePack.rsOkMsg) := hok
    obtain ⟨m', z', rfl, hz'⟩ : ∃ m' z', m = m' ++ [z'] ∧ isWs z' = false := by
      obtain ⟨a, mid, z, hm, ha, hz⟩ := hm.resolve_left hok
      rcases hm with rfl | rfl
      · exact ⟨[], a, rfl, ha⟩
      · exact ⟨a :: mid, z, rfl, hz⟩
    -- `fmtNg` spelt out: `n g ␠ name ␠ msg ⏎` (110 103 32 … 32 … 10)
    have hline : statusLine (n, m' ++ [z']) = (110 :: ((103 :: 32 :: (n ++ 32 :: m')) ++ [z'])) ++ [10] := by
      simp [statusLine, h1, h2, renderParts, Gen.ReceivePack.fmtNg]
    have hs2 : splitOnce Gen.ReceivePack.parserSep ((n ++ 32 :: m') ++ [z']) = some (n, m' ++ [z']) := by
      rw [List.append_assoc]
      exact splitOnce_append 32 n (m' ++ [z']) (fun b hb => ne_space_of_not_isWs (hws b hb))
    rw [checkStatuses, hline, split_status_line 110 103 z' _ (by decide) (by decide) hz']
    simp only [hs2]
    cases checkStatuses rest <;> simp [Gen.ReceivePack.parserNg, clientStatus, hok]

theorem checkStatuses_report (st : List (Bytes × Bytes))
    (h : ∀ p ∈ st, CleanName p.1 ∧ (p.2 = okMsg ∨ CleanMsg p.2)) :
    checkStatuses (st.map (fun p => strip (statusLine p))) = .ok (st.map clientStatus) := by
  induction st with
  | nil => rfl
  | cons p st ih =>
    have hp := h p List.mem_cons_self
    rw [List.map_cons, line_status p.1 p.2 hp.1 hp.2, ih (fun q hq => h q (List.mem_cons_of_mem _ hq))]
    rfl

theorem feed_lines (p : Parser) (x : Bytes) (hd : p.done = false) (hp : p.packStatus = some x)
    (ls : List Bytes) :
    p.feed (ls.map some ++ [none]) =
      .ok { done := true, packStatus := some x, refStatuses := p.refStatuses ++ ls.map strip } := by
  induction ls generalizing p with
  | nil =>
    simp [Parser.feed, Parser.handlePacket, hd, hp]
  | cons l ls ih =>
    simp only [List.map_cons, List.cons_append, Parser.feed]
    rw [show p.handlePacket (some l) = .ok { p with refStatuses := p.refStatuses ++ [strip l] } by
      simp [Parser.handlePacket, hd, hp]]
    simp only
    rw [ih ⟨p.done, p.packStatus, p.refStatuses ++ [strip l]⟩ hd hp]
    simp

/-! ### `LocalGitClient.send_pack`: the apply loop is the wire path's `updateRef` loop -/

def localTarget (c : Name × Id) : Option Id := if isZero c.2 then none else some c.2

/-- the wire command a local `(name, new)` amounts to: its old value is what the client read at the start.
Its `name`, `old` and `target` unfold to `c.1`, `snapOld snap c.1` and `localTarget c`: that is how
`CmdResult … (localCmd snap c) …` in `localApply_at` is read in the local vocabulary. -/
def localCmd (snap : Refs) (c : Name × Id) : Cmd := ⟨snapOld snap c.1, c.2, c.1⟩

/-- the wire behaviour a local one amounts to (`localStep_eq_updateRef`).  `updateRef` reads neither `atomicOld` nor
`atomicNew`: their values here are arbitrary. -/
def LocalFlags.wire (lf : LocalFlags) : Flags := ⟨lf.usesCas, lf.checksNew, false, false⟩

/-- A wire status with the same `ok`-or-not as a recorded local status (`localMsg_eq_ok`), which is all its users read.
The values are those `updateRef` answers in `localStep_eq_updateRef` (one `stale info` for both "unable" messages);
`.atomicFailed`, which `localStep` never returns, falls under the catch-all. -/
def localMsg : Option LocalMsg → Bytes
  | none => okMsg
  | some .missingObject => missingMsg
  | some _ => staleMsg

theorem localMsg_eq_ok {m : Option LocalMsg} (h : localMsg m = okMsg) : m = none := by
  revert h
  rcases m with _ | _ | _ | _ | _ <;> decide

section
variable (lf : LocalFlags) (snap : Refs) (t : LocalRepo) (cmds : List (Name × Id))

/-- Stated with the wire side on the left so that `rw` turns a wire lemma into a local one.  With `delCheck = false` the
capabilities are not read (`[]` is arbitrary).  `packed`, which `localStep` also updates, has no wire counterpart: the right
side takes refs and store only. -/
theorem localStep_eq_updateRef (c : Name × Id) :
    updateRef lf.wire Env.quiet [] false ⟨t.refs, t.store⟩ (localCmd snap c) =
      .ok (⟨(localStep lf snap t c).1.refs, (localStep lf snap t c).1.store⟩, localMsg (localStep lf snap t c).2) := by
  unfold updateRef guarded localStep localCmd LocalFlags.wire Env.quiet removeIfEquals setIfEquals
  cases hz : isZero c.2
  · cases hk : lf.checksNew && !t.store c.2
    · by_cases hc : cur t.refs c.1 = snapOld snap c.1
      · simp [hc, localMsg]
      · cases hu : lf.usesCas <;> simp [hc, localMsg]
    · simp [localMsg]
  · by_cases hc : cur t.refs c.1 = snapOld snap c.1
    · simp [hc, localMsg]
    · cases hu : lf.usesCas <;> simp [hc, localMsg]

theorem localApply_eq_runLoop :
    runLoop (updateRef lf.wire Env.quiet [] false) ⟨t.refs, t.store⟩ (cmds.map (localCmd snap)) =
      ⟨⟨(localApply lf snap t cmds).1.refs, (localApply lf snap t cmds).1.store⟩,
       (localApply lf snap t cmds).2.map (fun p => (p.1, localMsg p.2)), none⟩ := by
  induction cmds generalizing t with
  | nil => rfl
  | cons c cs ih => rw [List.map_cons, runLoop, localStep_eq_updateRef]; simp only; rw [ih]; rfl

theorem localApply_store_eq : (localApply lf snap t cmds).1.store = t.store := by
  have := runLoop_store (updateRef_spec lf.wire Env.quiet [] false).forget ⟨t.refs, t.store⟩ (cmds.map (localCmd snap))
  rw [localApply_eq_runLoop] at this
  exact this

theorem localApply_store (lf : LocalFlags) (hcas : lf.usesCas = true) (snap : Refs) (t : LocalRepo)
    (cmds : List (Name × Id)) : (localApply lf snap t cmds).1.store = t.store :=
  localApply_store_eq lf snap t cmds

theorem localApply_at (hnd : (cmds.map (·.1)).Nodup) :
    ∀ c ∈ cmds, ∃ m, (localApply lf snap t cmds).2.lookup c.1 = some m ∧
      CmdResult lf.wire t.refs ((localApply lf snap t cmds).1.refs c.1) (localCmd snap c) (localMsg m) := by
  intro c hc
  have := runLoop_at (updateRef_spec lf.wire Env.quiet [] false) ⟨t.refs, t.store⟩ (cmds.map (localCmd snap))
    (by rw [distinctNames, List.map_map]; exact hnd) (localCmd snap c) (List.mem_map_of_mem hc)
  rw [localApply_eq_runLoop, lookup_map_snd] at this
  rcases this with ⟨h, _⟩ | ⟨m', hm, hres⟩
  · exact absurd rfl h
  · obtain ⟨m, h1, rfl⟩ := Option.map_eq_some_iff.mp hm
    exact ⟨m, h1, hres⟩

def LocalInStore (t : LocalRepo) : Prop := ∀ n v, t.refs n = some v → t.store v = true

theorem localApply_inStore (hk : lf.checksNew = true) (hi : LocalInStore t) : LocalInStore (localApply lf snap t cmds).1 := by
  -- `LocalInStore t` is `RefsInStore ⟨t.refs, t.store⟩`
  have := runLoop_inStore (updateRef_spec lf.wire Env.quiet [] false).forget ⟨t.refs, t.store⟩ (cmds.map (localCmd snap))
    (fun _ _ _ hck => by cases hk.symm.trans hck) hi
  rw [localApply_eq_runLoop] at this
  exact this

end

/-- What a passed atomic pre-check establishes for a command (`localPrecheck_pass`), in the form `runLoop_updateRef_all` asks
of `localCmd snap c` at `lf.wire`; hence the guard `lf.checksNew = true`, although the pre-check tests the object itself. -/
def LocalOK (lf : LocalFlags) (snap : Refs) (t : LocalRepo) (c : Name × Id) : Prop :=
  cur t.refs c.1 = snapOld snap c.1 ∧ (isZero c.2 = false → lf.checksNew = true → t.store c.2 = true)

theorem localPrecheck_pass (lf : LocalFlags) (hp : lf.precheckPeeled = false) (hn : lf.precheckNew = true)
    (snap : Refs) (t : LocalRepo) (c : Name × Id) (h : localPrecheck lf snap t c = none) :
    LocalOK lf snap t c := by
  unfold localPrecheck at h
  simp only [hp, hn, Bool.true_and, Bool.false_eq_true, if_false] at h
  split at h
  · cases h
  · rename_i hmiss
    split at h
    · cases h
    · rename_i hst
      exact ⟨by simpa using hst, fun hz _ => by simpa [hz] using hmiss⟩

/-- Stated of a result `r` so that a caller rewrites the one term `localSendPack …` in hypotheses and goal alike. -/
theorem localSendPack_cases {lf : LocalFlags} {snap : Refs} {t : LocalRepo} {atomic : Bool} {packIds have_ : List Id}
    {cmds : List (Name × Id)} {r : LocalRepo × Option (List (Name × Option LocalMsg))}
    (h : localSendPack lf snap t atomic packIds have_ cmds = r) :
    r = (t, none) ∨
    (∃ st, r = ({ t with store := t.store.add packIds }, some st) ∧
      st.map (·.1) = cmds.map (·.1) ∧ ∀ p ∈ st, p.2 ≠ none) ∨
    (r = ((localApply lf snap { t with store := t.store.add packIds } cmds).1,
          some (localApply lf snap { t with store := t.store.add packIds } cmds).2) ∧
      (atomic = true → ∀ c ∈ cmds, localPrecheck lf snap { t with store := t.store.add packIds } c = none)) := by
  simp only [localSendPack] at h
  split at h
  · exact .inl h.symm
  · split at h
    · refine .inr (.inl ⟨_, h.symm, ?_, ?_⟩)
      · rw [List.map_map, List.map_map]; rfl
      · intro p hp
        obtain ⟨_, _, rfl⟩ := List.mem_map.mp hp
        nofun
    · rename_i hpre
      refine .inr (.inr ⟨h.symm, fun ha c hc => ?_⟩)
      rw [ha, Bool.true_and, List.any_map] at hpre
      cases h : localPrecheck lf snap { t with store := t.store.add packIds } c with
      | none => rfl
      | some m => exact absurd (List.any_eq_true.mpr ⟨c, hc, by simp [h]⟩) hpre

/-- Local path, for every behaviour that tests the object store in the apply loop: the target never ends up with a ref
naming an object it does not have — whatever `generate_pack_data` supplied, racing or not. -/
theorem localSendPack_inStore (lf : LocalFlags) (hk : lf.checksNew = true) (snap : Refs) (t : LocalRepo) (atomic : Bool)
    (packIds have_ : List Id) (cmds : List (Name × Id)) (hi : LocalInStore t) :
    LocalInStore (localSendPack lf snap t atomic packIds have_ cmds).1 := by
  have hi1 : LocalInStore { t with store := t.store.add packIds } := fun n v hv => by
    simp only [Store.add, hi n v hv, Bool.true_or]
  rcases localSendPack_cases (r := localSendPack lf snap t atomic packIds have_ cmds) rfl with h | ⟨_, h, _⟩ | ⟨h, _⟩ <;> rw [h]
  · exact hi
  · exact hi1
  · exact localApply_inStore lf snap _ cmds hk hi1

/-- Local path, sequential reading of "atomic": when the pre-check reads the value the compare-and-swap will see and tests
the object store, `atomic=True` is all-or-nothing for every snapshot and every target state at the time of the call (in
particular when a second pusher moved refs after the client read them).  NOT covered — and not true of the code: a writer
acting between the pre-check and the last update (no lock is held across the batch). -/
theorem localSendPack_atomic (lf : LocalFlags) (hp : lf.precheckPeeled = false) (hn : lf.precheckNew = true)
    (snap : Refs) (t : LocalRepo) (packIds have_ : List Id) (cmds : List (Name × Id)) (hnd : (cmds.map (·.1)).Nodup) :
    (localSendPack lf snap t true packIds have_ cmds).1.refs = t.refs ∨
      ∀ c ∈ cmds, (localSendPack lf snap t true packIds have_ cmds).1.refs c.1 = localTarget c := by
  rcases localSendPack_cases (r := localSendPack lf snap t true packIds have_ cmds) rfl with h | ⟨_, h, _⟩ | ⟨h, hpre⟩ <;> rw [h]
  · exact .inl rfl
  · exact .inl rfl
  · -- every pre-check passed, so every step of the apply loop succeeds
    have hall := runLoop_updateRef_all (fl := lf.wire) (env := Env.quiet) (caps := []) ⟨t.refs, t.store.add packIds⟩
      (cmds.map (localCmd snap)) (by rw [distinctNames, List.map_map]; exact hnd) (by
        intro c' hc'
        obtain ⟨c, hc, rfl⟩ := List.mem_map.mp hc'
        have hok := localPrecheck_pass lf hp hn snap _ c (hpre rfl c hc)
        exact ⟨rfl, hok⟩)
    rw [localApply_eq_runLoop lf snap { t with store := t.store.add packIds }] at hall
    exact .inr fun c hc => hall (localCmd snap c) (List.mem_map_of_mem hc)

end Dulwich.ReceivePack
