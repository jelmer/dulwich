/- `bytes.strip`, `lstrip`, `rstrip`.  Model/Config.lean, Model/ReceivePack.lean and Model/PktLine.lean each write
   them as `dropWhile`, on the text or on its reverse, with their own set of bytes to remove.  What their proofs need
   is that padding comes off a text whose end byte is kept.  Core Lean only. -/

namespace Dulwich.Strip

variable {α : Type} {p : α → Bool} {l x r : List α} {a b : α}

theorem dropWhile_pad (hl : ∀ c ∈ l, p c = true) (ha : x.head? = some a) (hpa : p a = false) :
    (l ++ x).dropWhile p = x := by
  obtain ⟨t, rfl⟩ := List.head?_eq_some_iff.mp ha
  rw [List.dropWhile_append_of_pos hl, List.dropWhile_cons_of_neg (by simp [hpa])]

theorem rdropWhile_pad (hr : ∀ c ∈ r, p c = true) (hb : x.getLast? = some b) (hpb : p b = false) :
    ((x ++ r).reverse.dropWhile p).reverse = x := by
  rw [List.reverse_append, dropWhile_pad (by simpa using hr) (List.head?_reverse ▸ hb) hpb, List.reverse_reverse]

end Dulwich.Strip
