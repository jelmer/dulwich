/-
  C12 — tree building, flattening, diffing and patching are mutually consistent.
  Property theorems about the model `DulwichModel/Model/TreeOps.lean` (lemmas: `Lemmas/TreeOps.lean`, `Lemmas/TreePatch.lean`).

  Reading guide.  `Tree` is a directory (nested, children in name order); `Tree.WF` its decidable
  well-formedness; `commitTree` = commit_tree, `Tree.flatten` = iter_tree_contents, `Tree.body H` =
  the serialised tree object, `Tree.id H` its id for an arbitrary hash `H`; `treeChanges` = tree_changes,
  `applyChanges` = the patch semantics of a change list on a flat listing (specification),
  `commitTreeChanges` = commit_tree_changes, `renamePass` = any rename/copy detector run as a post-pass.
  Listings are ordered by path, component-wise (`SortedL`); `lookupL l p` is the entry a listing holds at `p`.
-/
import DulwichModel.Lemmas.TreePatch

namespace Dulwich.Props.C12
open Dulwich Dulwich.TreeOps

/-! ## tie to the generated constants -/

/-- What the model and the theorems below rely on, as extracted from the source by the translator on
this run: the directory sort suffix and every path separator are `/`; sub-trees get mode 040000 and
`S_IFMT` is the mask 0170000 (Python and Rust); iter_tree_contents and both `_merge_entries` walk in NAME
order while `Tree._serialize` uses tree (`key_entry`) order; the `_merge_entries` loop has the three
canonical branches; tree_changes prunes iff `not want_unchanged` and splits type changes unless
`change_type_same`; commit_tree_changes stores direct entries after the nested changes.  (That it deletes emptied
sub-trees has no constant: the translator refuses to run if `if len(subtree) == 0: del tree_obj[name]` is not there.) -/
theorem gen_tie :
    Gen.TreeOps.dirSuffix = 0x2f ∧ Gen.TreeOps.pathSep = 0x2f ∧
    Gen.TreeOps.sIFDIR = 0o040000 ∧ Gen.TreeOps.sIFMT = 0o170000 ∧ Gen.TreeOps.sIFGITLINK = 0o160000 ∧
    Gen.TreeOps.rsSIFDIR = Gen.TreeOps.sIFDIR ∧ Gen.TreeOps.rsSIFMT = Gen.TreeOps.sIFMT ∧
    Gen.TreeOps.modeOctWidth = 4 ∧
    Gen.TreeOps.flattenNameOrder = true ∧ Gen.TreeOps.mergeNameOrder = true ∧
    Gen.TreeOps.rsMergeNameOrder = true ∧ Gen.TreeOps.serializeNameOrder = false ∧
    Gen.TreeOps.mergeBranchesCanonical = true ∧ Gen.TreeOps.pruneIsNotWantUnchanged = true ∧
    Gen.TreeOps.typeChangeSplitsUnlessSame = true ∧ Gen.TreeOps.ctcDirectEntriesDeferred = true := by decide +kernel

/-! ## canonical order -/

/-- git's ordering key written out literally (`base_name_compare`: a directory compares as `name/`) -/
def gitKey (e : TEntry) : Bytes := if (e.mode &&& 0o170000) == 0o040000 then e.name ++ [0x2f] else e.name

theorem keyEntry_eq_gitKey (e : TEntry) : keyEntry e = gitKey e := rfl

/-- Every tree object the model produces (for any hash `H`, any tree — so every sub-tree as well) is the
serialisation of its entries rearranged into git's canonical order. -/
theorem canonical_order (H : Bytes → Id) (t : Tree) :
    ∃ es, t.body H = serializeEntries es ∧ es.Perm (t.entries H) ∧
      es.Pairwise (fun a b => ¬ gitKey b < gitKey a) := by
  refine ⟨sortCanon (t.entries H), rfl, perm_sortCanon _, ?_⟩
  have := canonSorted_sortCanon (t.entries H)
  exact this.imp (fun {a b} h => by rw [← keyEntry_eq_gitKey, ← keyEntry_eq_gitKey]; exact h)

/-! ## build ∘ flatten and flatten ∘ build -/

/-- `sortListing` really sorts: the result is strictly increasing by path and holds, at every path, the
last entry the input lists there (Python dict semantics for exact duplicates). -/
theorem sortListing_spec (L : List Entry) :
    SortedL (sortListing L) ∧ ∀ p, lookupL (sortListing L) p = lastAt L p :=
  ⟨sortedL_sortListing L, lookupL_sortListing L⟩

/-- flatten (build L) = sort L for every valid listing (non-empty paths, no directory modes, no path a
proper directory prefix of another): commit_tree succeeds, the tree is well-formed, and
iter_tree_contents returns the listing sorted by path. -/
theorem flatten_build (L : List Entry) (hv : validListing L = true) :
    ∃ t, commitTree L = some t ∧ t.WF = true ∧ t.flatten = sortListing L :=
  buildFrom_spec (t0 := .nil) rfl hv (fun e he => by cases he)

/-- the same through the public entry point, for any hash -/
theorem iterTreeContents_commitTree (H : Bytes → Id) (L : List Entry) (hv : validListing L = true) :
    (commitTree L).map (iterTreeContents H false) = some (sortListing L) := by
  rcases flatten_build L hv with ⟨t, ht, _, hf⟩
  simp [ht, iterTreeContents, hf]

/-- when the model reports a conflict the listing is not valid (so `conflict` is never a spurious answer) -/
theorem commitTree_none_invalid (L : List Entry) (h : commitTree L = none) : validListing L = false := by
  cases hv : validListing L with
  | false => rfl
  | true => rcases flatten_build L hv with ⟨t, ht, _⟩; rw [h] at ht; cases ht

/-- build (flatten t) = t for every well-formed tree — hence equal ids for every hash. -/
theorem build_flatten (t : Tree) (hwf : t.WF = true) : commitTree t.flatten = some t := by
  rcases flatten_build t.flatten (flatten_validListing hwf) with ⟨t', ht', hwf', hf⟩
  rw [sortListing_of_sorted (flatten_sorted hwf)] at hf
  rw [ht', flatten_inj hwf' hwf hf]

theorem build_flatten_id (H : Bytes → Id) (t : Tree) (hwf : t.WF = true) :
    (commitTree t.flatten).map (Tree.id H) = some (t.id H) := by
  rw [build_flatten t hwf]; rfl

theorem flatten_valid_sorted (t : Tree) (hwf : t.WF = true) :
    validListing t.flatten = true ∧ SortedL t.flatten :=
  ⟨flatten_validListing hwf, flatten_sorted hwf⟩


/-! ## diff: sound, complete, each path at most once -/

/-- Exactness of the diff (tree_changes without tree entries; with or without `want_unchanged`, with or without
`change_type_same`).  When identical sub-trees are pruned (`want_unchanged = False`, the default) the hash `H` is
assumed to separate the sub-trees of `a` from the sub-trees of `b` — `IdInjectiveOn`, implied by `IdInjective H` —
which is what pruning by id equality needs; without pruning no assumption on `H` is made at all.
The entries the diff installs (add / modify new sides) are exactly the entries of `b` that `a` does not hold
identically, in path order, and the paths it removes (delete / modify old sides) are exactly those of the entries of
`a` that `b` does not hold identically.  So nothing unchanged is reported as a change, nothing changed is missed, and
mode-only and type-only changes are changes. -/
theorem diff_exact (H : Bytes → Id) (wu cts : Bool) (a b : Tree)
    (hH : wu = false → IdInjectiveOn H (a :: a.subtrees) (b :: b.subtrees)) (ha : a.WF = true) (hb : b.WF = true) :
    addedEntries (treeChanges H ⟨wu, false, cts⟩ none (some a) (some b)) =
      b.flatten.filter (fun e => lookupL a.flatten e.path != some e) ∧
    removedPaths (treeChanges H ⟨wu, false, cts⟩ none (some a) (some b)) =
      (a.flatten.filter (fun e => lookupL b.flatten e.path != some e)).map (·.path) :=
  treeChanges_spec H ⟨wu, false, cts⟩ rfl (some a) (some b) hH ha hb

/-- Soundness + completeness: the difference computed between two trees, applied to the first tree's flat listing,
yields exactly the second's. -/
theorem diff_sound_complete (H : Bytes → Id) (wu cts : Bool) (a b : Tree)
    (hH : wu = false → IdInjectiveOn H (a :: a.subtrees) (b :: b.subtrees)) (ha : a.WF = true) (hb : b.WF = true) :
    applyChanges (treeChanges H ⟨wu, false, cts⟩ none (some a) (some b)) a.flatten = b.flatten := by
  have h := diff_exact H wu cts a b hH ha hb
  exact apply_diff (flatten_sorted ha) (flatten_sorted hb) h.1 h.2

/-- without pruning (`want_unchanged = True`) this holds for EVERY function `H`, collisions included -/
theorem diff_unpruned_sound_complete (H : Bytes → Id) (cts : Bool) (a b : Tree) (ha : a.WF = true) (hb : b.WF = true) :
    applyChanges (treeChanges H ⟨true, false, cts⟩ none (some a) (some b)) a.flatten = b.flatten :=
  diff_sound_complete H true cts a b (fun h => by cases h) ha hb

/-- Pruning identical sub-trees changes nothing that matters: with a hash that separates the sub-trees involved, the
pruned walk installs and removes exactly what the full walk does. -/
theorem prune_identical_same_result (H : Bytes → Id) (cts : Bool) (a b : Tree)
    (hH : IdInjectiveOn H (a :: a.subtrees) (b :: b.subtrees)) (ha : a.WF = true) (hb : b.WF = true) :
    addedEntries (treeChanges H ⟨false, false, cts⟩ none (some a) (some b)) =
      addedEntries (treeChanges H ⟨true, false, cts⟩ none (some a) (some b)) ∧
    removedPaths (treeChanges H ⟨false, false, cts⟩ none (some a) (some b)) =
      removedPaths (treeChanges H ⟨true, false, cts⟩ none (some a) (some b)) := by
  have h1 := diff_exact H false cts a b (fun _ => hH) ha hb
  have h2 := diff_exact H true cts a b (fun h => by cases h) ha hb
  exact ⟨h1.1.trans h2.1.symm, h1.2.trans h2.2.symm⟩

/-- the same from / to "no tree" (`tree_changes(store, None, id)`, `tree_changes(store, id, None)`); no assumption on `H` -/
theorem diff_from_nothing (H : Bytes → Id) (wu cts : Bool) (b : Tree) (hb : b.WF = true) :
    applyChanges (treeChanges H ⟨wu, false, cts⟩ none none (some b)) [] = b.flatten := by
  have h := treeChanges_spec H ⟨wu, false, cts⟩ rfl none (some b) (fun _ _ hs => by cases hs) trivial hb
  exact apply_diff (la := []) List.Pairwise.nil (flatten_sorted hb) h.1 h.2

theorem diff_to_nothing (H : Bytes → Id) (wu cts : Bool) (a : Tree) (ha : a.WF = true) :
    applyChanges (treeChanges H ⟨wu, false, cts⟩ none (some a) none) a.flatten = [] := by
  have h := treeChanges_spec H ⟨wu, false, cts⟩ rfl (some a) none (fun _ _ _ _ hs => by cases hs) ha trivial
  exact apply_diff (lb := []) (flatten_sorted ha) List.Pairwise.nil h.1 h.2

/-- Each path is mentioned at most once: no path is installed twice and no path is removed twice (a type change
reported as delete + add names its path once on each side; with `change_type_same` it is one modify). -/
theorem each_path_once (H : Bytes → Id) (wu cts : Bool) (a b : Tree)
    (hH : wu = false → IdInjectiveOn H (a :: a.subtrees) (b :: b.subtrees)) (ha : a.WF = true) (hb : b.WF = true) :
    ((addedEntries (treeChanges H ⟨wu, false, cts⟩ none (some a) (some b))).map (·.path)).Nodup ∧
    (removedPaths (treeChanges H ⟨wu, false, cts⟩ none (some a) (some b))).Nodup := by
  have h := diff_exact H wu cts a b hH ha hb
  rw [h.1, h.2]
  exact ⟨changed_nodup_paths (flatten_sorted hb), changed_nodup_paths (flatten_sorted ha)⟩

/-- identical trees have an empty diff (the root pair is pruned), whatever the other flags -/
theorem diff_of_equal_trees (H : Bytes → Id) (f : Flags) (hwu : f.wantUnchanged = false) (a : Tree) :
    treeChanges H f none (some a) (some a) = [] :=
  treeChanges_self H f hwu none a

/-! ## rename / copy detection as a post-pass -/

/-- For ANY pairing function (any similarity score, threshold, max_files, copy detection on or off): replacing a
reported (delete p, add q) by rename(p, q), or re-labelling a reported add as a copy, preserves what the change list
does to every sorted listing — provided the input installs no path twice, which `each_path_once` gives for
`treeChanges`. -/
theorem rename_pass_preserves (pairing : List Change → List Pairing) (cs : List Change) (l : List Entry)
    (hs : SortedL l) (hnd : ((addedEntries cs).map (·.path)).Nodup) :
    applyChanges (renamePass pairing cs) l = applyChanges cs l := by
  have h := foldl_renameStep_perm (pairing cs) cs
  exact (applyChanges_congr hs h.1.symm h.2.symm hnd).symm

/-- diff, then any rename pass, still patches `a` into `b` -/
theorem diff_with_renames_sound_complete (H : Bytes → Id) (wu cts : Bool)
    (pairing : List Change → List Pairing) (a b : Tree)
    (hH : wu = false → IdInjectiveOn H (a :: a.subtrees) (b :: b.subtrees)) (ha : a.WF = true) (hb : b.WF = true) :
    applyChanges (renamePass pairing (treeChanges H ⟨wu, false, cts⟩ none (some a) (some b))) a.flatten = b.flatten := by
  rw [rename_pass_preserves pairing _ _ (flatten_sorted ha) (each_path_once H wu cts a b hH ha hb).1]
  exact diff_sound_complete H wu cts a b hH ha hb

/-! ## applying a change list to a tree = rebuilding from the changed listing -/

def ctcResult (r : Except CtcErr Tree) : Option Tree :=
  match r with
  | .ok t => some t
  | .error _ => none

/-- The last clause of C12, "applying a change list to a tree gives the same tree as rebuilding it from the changed
listing", for the diff of two trees (code after the fix "commit_tree_changes applies a change list that replaces a directory
by a file"): the difference computed between two trees, handed to commit_tree_changes as its change list (normal form
`toTChanges`: every path once), turns the first tree into exactly the second — which is also what commit_tree rebuilds
from the patched flat listing.  For all well-formed trees, any nesting, files replaced by directories and directories
by files/gitlinks included; with or without `want_unchanged` / `change_type_same`; the hash assumption only when
identical sub-trees are pruned. -/
theorem apply_diff_equals_rebuild (H : Bytes → Id) (wu cts : Bool) (a b : Tree)
    (hH : wu = false → IdInjectiveOn H (a :: a.subtrees) (b :: b.subtrees)) (ha : a.WF = true) (hb : b.WF = true) :
    commitTreeChanges a (toTChanges (treeChanges H ⟨wu, false, cts⟩ none (some a) (some b))) = .ok b ∧
    commitTree (applyChanges (treeChanges H ⟨wu, false, cts⟩ none (some a) (some b)) a.flatten) = some b := by
  have h := diff_exact H wu cts a b hH ha hb
  constructor
  · exact commitTreeChanges_exact_diff ha hb h.1 h.2
  · rw [diff_sound_complete H wu cts a b hH ha hb]
    exact build_flatten b hb

/-- the same of commit_tree_changes for ANY change list that is an exact diff of the two flat listings (whatever produced it,
in whatever order it lists removals and installations) -/
theorem apply_exact_diff_equals_rebuild (a b : Tree) (cs : List Change) (ha : a.WF = true) (hb : b.WF = true)
    (hA : addedEntries cs = b.flatten.filter (fun e => lookupL a.flatten e.path != some e))
    (hR : removedPaths cs = (a.flatten.filter (fun e => lookupL b.flatten e.path != some e)).map (·.path)) :
    commitTreeChanges a (toTChanges cs) = .ok b :=
  commitTreeChanges_exact_diff ha hb hA hR

/-- General statement for an arbitrary change list (not only a diff): for a well-formed tree and a change list that
installs no path twice, removes only paths the tree holds and whose patched listing is valid, commit_tree_changes
gives the tree commit_tree builds from the patched listing.  Does NOT hold in this generality: when the change list
removes a path twice, the second `del tree_obj[path]` raises KeyError.  With the further hypothesis that no path is
removed twice it is `commitTreeChanges_applyChanges` (Lemmas/TreePatch.lean), of which `apply_equals_rebuild_partial_delete`
below is an instance; the other apply = rebuild theorems know the resulting tree and go through `commitTreeChanges_patch`. -/
def ApplyEqualsRebuildStatement : Prop :=
  ∀ (t : Tree) (cs : List Change), t.WF = true → ((addedEntries cs).map (·.path)).Nodup →
    (∀ p ∈ removedPaths cs, (lookupL t.flatten p).isSome) →
    validListing (applyChanges cs t.flatten) = true →
    ctcResult (commitTreeChanges t (toTChanges cs)) = commitTree (applyChanges cs t.flatten)

def idA : Id := List.replicate 20 0xaa
def idB : Id := List.replicate 20 0xbb

def cexTree : Tree := .dir [0x61] (.file [0x62] ⟨0o100644, idA⟩ .nil) .nil
/-- what tree_changes reports for {a/b} → {a}: add a, delete a/b -/
def cexChanges : List Change :=
  [⟨.add, none, some ⟨[[0x61]], 0o100644, idA⟩⟩, ⟨.delete, some ⟨[[0x61], [0x62]], 0o100644, idA⟩, none⟩]

/-- Regression witness (finding F-C12-ctc-dir-to-file, fixed): on the tree {a/b} the change list [add a, delete a/b]
made the code BEFORE the fix (`commitTreeChangesOld`: direct entries stored before the nested changes) fail — it loaded
the new blob `a` as if it were the old sub-tree — while the code after the fix returns {a}. -/
theorem apply_equals_rebuild_old_counterexample :
    ctcResult (commitTreeChangesOld cexTree (toTChanges cexChanges)) = none ∧
    ctcResult (commitTreeChanges cexTree (toTChanges cexChanges)) = some (.file [0x61] ⟨0o100644, idA⟩ .nil) ∧
    commitTree (applyChanges cexChanges cexTree.flatten) = some (.file [0x61] ⟨0o100644, idA⟩ .nil) := by decide +kernel

/-- the witness really is the diff of the two trees (so it is not an artefact of a hand-made change list) -/
example : treeChanges (fun b => b.take 20) ⟨false, false, false⟩ none (some cexTree)
    (some (.file [0x61] ⟨0o100644, idA⟩ .nil)) = cexChanges := by decide +kernel

/-- Single change, installation: installing ONE entry (a new file anywhere, creating directories as needed, or
overwriting an existing file) with commit_tree_changes gives exactly the tree commit_tree rebuilds from the patched
listing, whenever the entry does not collide with an existing file/directory of the other kind. -/
theorem apply_equals_rebuild_partial (t t1 : Tree) (e : Entry) (hwf : t.WF = true)
    (hmode : isDirMode e.mode = false) (hins : insertEntry t e = some t1) :
    commitTreeChanges t (toTChanges [⟨.add, none, some e⟩]) = .ok t1 ∧
    commitTree (applyChanges [⟨.add, none, some e⟩] t.flatten) = some t1 := by
  obtain ⟨hwf1, _, hf⟩ := insert_spec (l := ⟨e.mode, e.id⟩) hwf hmode hins
  have h1 : applyChanges [⟨.add, none, some e⟩] t.flatten = t1.flatten :=
    hf ▸ congrArg (insertListing e) (List.filter_eq_self.mpr fun _ _ => rfl)
  exact ⟨commitTreeChanges_patch hwf hwf1 (applyChanges_patch (cs := [⟨.add, none, some e⟩]) hwf hwf1
    (List.pairwise_singleton _ _) List.nodup_nil nofun h1.symm), h1 ▸ build_flatten t1 hwf1⟩

/-- Single change, removal: removing ONE existing entry with commit_tree_changes — emptied directories are pruned all
the way up — gives exactly the tree commit_tree rebuilds from the listing without that entry. -/
theorem apply_equals_rebuild_partial_delete (t : Tree) (e : Entry) (hwf : t.WF = true)
    (hmem : lookupL t.flatten e.path = some e) :
    ∃ t', commitTreeChanges t (toTChanges [⟨.delete, some e, none⟩]) = .ok t' ∧
      commitTree (applyChanges [⟨.delete, some e, none⟩] t.flatten) = some t' := by
  have hL : applyChanges [⟨.delete, some e, none⟩] t.flatten = t.flatten.filter (fun x => x.path != e.path) := by
    exact List.filter_congr fun x _ => by by_cases h : x.path = e.path <;> simp [removedPaths, h]
  obtain ⟨t', _, _, hctc, hct⟩ := commitTreeChanges_applyChanges (cs := [⟨.delete, some e, none⟩]) hwf
    List.nodup_nil (List.pairwise_singleton _ _) (fun p hp => by cases List.mem_singleton.mp hp; rw [hmem]; rfl)
    (hL ▸ validListing_filter _ (flatten_validListing hwf))
  exact ⟨t', hctc, hct⟩

/-- deleting the only file below a/b/ prunes both directories -/
example : ctcResult (commitTreeChanges
    (.dir [0x61] (.dir [0x62] (.file [0x63] ⟨0o100644, idA⟩ .nil) .nil) (.file [0x62] ⟨0o100644, idB⟩ .nil))
    [([[0x61], [0x62], [0x63]], none)]) = some (.file [0x62] ⟨0o100644, idB⟩ .nil) := by decide +kernel

example : ∃ t1, insertEntry cexTree ⟨[[0x61], [0x63], [0x64]], 0o100755, idB⟩ = some t1 ∧ cexTree.WF = true := by
  decide +kernel

/-! ## a long-lived RenameDetector is stateless across calls -/

/-- translator obligation: no per-call attribute of RenameDetector can be read before it is (re)assigned on some path
through changes_with_renames (reset set ⊇ read set) -/
theorem detector_reset_before_read : Gen.TreeOps.detStaleReads = [] ∧
    ["_adds", "_deletes", "_changes", "_candidates"].all (Gen.TreeOps.detPerCallAttrs.contains ·) = true := by decide +kernel

/-- Call independence, for the code as written and for ANY phase contents (scores, thresholds, `max_files`, copy
detection, the tree pair): whatever state earlier calls left in the detector — content-rename candidates of another
pair included — the result of `changes_with_renames` is the result a fresh detector gives.  Every branch either
recomputes or clears the per-call fields; in particular the `max_files` cut-off is taken AFTER `_candidates` is cleared. -/
theorem changes_with_renames_stateless (P : DetPhases) (wantUnchanged includeTrees : Bool) (st : DetState) :
    (detRun P wantUnchanged includeTrees st).1 = (detRun P wantUnchanged includeTrees DetState.init).1 := by
  have h : ∀ a, detStale a = false := by
    intro a; simp [detStale, detector_reset_before_read.1]
  simp [detRun, h]

/-- hence any sequence of calls on one detector returns, call by call, what fresh detectors return -/
theorem detector_sequence_stateless (P : DetPhases) (calls : List (Bool × Bool)) (st : DetState) (wu inc : Bool) :
    (detRun P wu inc (calls.foldl (fun s c => (detRun P c.1 c.2 s).2) st)).1 = (detRun P wu inc DetState.init).1 :=
  changes_with_renames_stateless P wu inc _

/-- non-vacuity / what the theorem excludes: with phases whose cut-off trips and whose `choose` appends the candidates,
a detector that kept stale candidates would return them — the clean model returns none -/
example : (detRun { collect := fun _ _ s => s, exact := id, shouldFind := fun _ _ => false, score := fun _ _ => [],
                    choose := fun c s => (s.1, s.2.1, s.2.2 ++ c.map (·.2)), join := id,
                    pruneUnchanged := fun _ d => d, sorted := fun a d c => a ++ d ++ c } false false
      { candidates := [(-100, ⟨.rename, some ⟨[[0x61]], 0o100644, idA⟩, some ⟨[[0x62]], 0o100644, idA⟩⟩)] }).1 = [] := by
  decide +kernel

/-! ## _merge_entries, tree_lookup_path, byte paths -/

/-- The two-pointer merge, right view: on name-ordered inputs the merged pairs that have a right side are exactly
`ys`, in order, each paired with the left entry of the same name if there is one — -/
theorem merge_entries_right {α : Type} (xs ys : List (Name × α)) (hx : NameSorted xs) (hy : NameSorted ys) :
    (mergeEntries xs ys).flatMap (fun k => match k.2.2 with | some y => [(k.1, k.2.1, y)] | none => []) =
      ys.map (fun e => (e.1, assoc xs e.1, e.2)) := by
  unfold mergeEntries
  rw [mergeAux_right (fun n xo yo => match yo with | some y => [(n, xo, y)] | none => []) _ xs ys (by omega) hx hy
    (fun _ _ => rfl)]
  exact List.map_eq_flatMap.symm

/-- — and left view: those with a left side are exactly `xs`, in order, each paired with the right entry of the same
name if there is one.  Together: every name of either side exactly once, matched iff present on both sides. -/
theorem merge_entries_left {α : Type} (xs ys : List (Name × α)) (hx : NameSorted xs) (hy : NameSorted ys) :
    (mergeEntries xs ys).flatMap (fun k => match k.2.1 with | some x => [(k.1, x, k.2.2)] | none => []) =
      xs.map (fun e => (e.1, e.2, assoc ys e.1)) := by
  unfold mergeEntries
  rw [mergeAux_left (fun n xo yo => match xo with | some x => [(n, x, yo)] | none => []) _ xs ys (by omega) hx hy
    (fun _ _ => rfl)]
  exact List.map_eq_flatMap.symm

/-- tree_lookup_path finds every entry of the flat listing at its path, with its mode and id (any hash) -/
theorem lookup_path_agrees (H : Bytes → Id) (t : Tree) (hwf : t.WF = true) (p : Path) (e : Entry)
    (h : lookupL t.flatten p = some e) : t.lookupRel H p = .ok (e.mode, e.id) :=
  lookupRel_of_flatten H hwf h

/-- component paths ↔ dulwich's byte paths: joining valid names with `/` and splitting again is the identity -/
theorem path_bytes_roundtrip (p : Path) (hne : p ≠ []) (hv : p.all validName = true) :
    splitPath (joinPath p) = p :=
  splitPath_joinPath hne hv

example : splitPath (joinPath [[0x61], [0x61, 0x2e, 0x62], [0x61, 0x2d]]) = [[0x61], [0x61, 0x2e, 0x62], [0x61, 0x2d]] := by decide +kernel
example : mergeEntries [([0x61], 1), ([0x61, 0x2e, 0x62], 2), ([0x61, 0x30], 3)] [([0x61, 0x2d], 4), ([0x61, 0x2e, 0x62], 5)] =
    [([0x61], some 1, none), ([0x61, 0x2d], none, some 4), ([0x61, 0x2e, 0x62], some 2, some 5), ([0x61, 0x30], some 3, none)] := by decide +kernel

section Examples
/-- the conflict alphabet of the property: `a/b`, `a.b`, `a-`, `a0`, `b/x/y`, with a symlink and a gitlink -/
def exL : List Entry :=
  [⟨[[0x62], [0x78], [0x79]], 0o100644, idA⟩, ⟨[[0x61, 0x30]], 0o100755, idB⟩, ⟨[[0x61], [0x62]], 0o100644, idA⟩,
   ⟨[[0x61, 0x2e, 0x62]], 0o120000, idB⟩, ⟨[[0x61, 0x2d]], 0o160000, idA⟩]

example : validListing exL = true := by decide +kernel
example : (commitTree exL).map (fun t => t.flatten.map (·.path)) =
    some [[[0x61], [0x62]], [[0x61, 0x2d]], [[0x61, 0x2e, 0x62]], [[0x61, 0x30]], [[0x62], [0x78], [0x79]]] := by decide +kernel
example : ∃ t, commitTree exL = some t ∧ t.WF = true ∧ t.flatten.length = 5 := by
  rcases flatten_build exL (by decide +kernel) with ⟨t, h, hw, hf⟩
  exact ⟨t, h, hw, by rw [hf]; decide +kernel⟩
/-- a = {a/b, a/c (exec), a- (gitlink), d/x, d/y};  b = {a (file: directory replaced), a- (gitlink, new id),
a.b (symlink, new), d/x, d/y (identical sub-tree `d`, pruned)} -/
def exA : Tree :=
  .dir [0x61] (.file [0x62] ⟨0o100644, idA⟩ (.file [0x63] ⟨0o100755, idB⟩ .nil))
    (.file [0x61, 0x2d] ⟨0o160000, idA⟩
      (.dir [0x64] (.file [0x78] ⟨0o100644, idA⟩ (.file [0x79] ⟨0o100644, idB⟩ .nil)) .nil))
def exB : Tree :=
  .file [0x61] ⟨0o100644, idB⟩
    (.file [0x61, 0x2d] ⟨0o160000, idB⟩
      (.file [0x61, 0x2e, 0x62] ⟨0o120000, idA⟩
        (.dir [0x64] (.file [0x78] ⟨0o100644, idA⟩ (.file [0x79] ⟨0o100644, idB⟩ .nil)) .nil)))

/-- non-vacuity of `diff_sound_complete` / `each_path_once` / `diff_with_renames_sound_complete`: all hypotheses hold
on a non-trivial pair (with the identity as "hash"), and the diff has five changes -/
example : exA.WF = true ∧ exB.WF = true ∧ IdInjectiveOn id (exA :: exA.subtrees) (exB :: exB.subtrees) :=
  examplePair_ok
example : (treeChanges id ⟨false, false, false⟩ none (some exA) (some exB)).map (·.type) =
    [.add, .delete, .delete, .modify, .add] := by decide +kernel
example : applyChanges (treeChanges id ⟨false, false, true⟩ none (some exA) (some exB)) exA.flatten = exB.flatten :=
  diff_sound_complete id false true exA exB (fun _ => examplePair_ok.2.2) examplePair_ok.1 examplePair_ok.2.1
/-- a pairing that turns (delete a/b, add a) into a rename and (add a.b) into a copy -/
example : applyChanges (renamePass (fun _ => [.rename ⟨[[0x61], [0x62]], 0o100644, idA⟩ ⟨[[0x61]], 0o100644, idB⟩,
      .copy ⟨[[0x64], [0x78]], 0o100644, idA⟩ ⟨[[0x61, 0x2e, 0x62]], 0o120000, idA⟩])
    (treeChanges id ⟨false, false, false⟩ none (some exA) (some exB))) exA.flatten = exB.flatten :=
  diff_with_renames_sound_complete id false false _ exA exB (fun _ => examplePair_ok.2.2) examplePair_ok.1 examplePair_ok.2.1
/-- with want_unchanged the two entries below `d/` are reported as unchanged -/
example : (treeChanges id ⟨true, false, false⟩ none (some exA) (some exB)).map (·.type) =
    [.add, .delete, .delete, .modify, .add, .unchanged, .unchanged] := by decide +kernel
example : (renamePass (fun _ => [.rename ⟨[[0x61], [0x62]], 0o100644, idA⟩ ⟨[[0x61]], 0o100644, idB⟩])
    (treeChanges id ⟨false, false, false⟩ none (some exA) (some exB))).map (·.type) =
    [.delete, .modify, .add, .rename] := by decide +kernel
example : build_flatten exA (by decide) = build_flatten exA (by decide) := rfl
example : commitTree exA.flatten = some exA := by decide +kernel
/-- non-vacuity of `apply_diff_equals_rebuild` on the pair exA → exB (directory `a` replaced by a file, gitlink bumped,
symlink added, identical sub-tree `d`) -/
example : ctcResult (commitTreeChanges exA (toTChanges (treeChanges id ⟨false, false, false⟩ none (some exA) (some exB)))) =
    some exB := by decide +kernel


/-- the file/directory conflict is outside the hypothesis and reported as such -/
example : commitTree [⟨[[0x61]], 0o100644, idA⟩, ⟨[[0x61], [0x62]], 0o100644, idB⟩] = none := by decide +kernel
end Examples

end Dulwich.Props.C12
