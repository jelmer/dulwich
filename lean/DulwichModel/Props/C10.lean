/-
  C10 — maintenance never loses reachable objects; readers survive concurrent repacks.

  Models: `Model/GC.lean` (logical store + maintenance operations), `Model/Reader.lean` (a reader's lookup /
  iteration as a small-step program interleaved with a repacker's file-system actions).
  Constants, the behaviour switches (does `get_raw` look at the packs again after a loose miss? does `__iter__` rescan
  after the loose listing? is an object's mtime the most recent over its copies? does `_complete_pack` refresh an
  existing pack's mtime?) and the recorded file-system programs of the real `repack` / `pack_loose_objects` /
  `garbage_collect` come from `Gen/GC.lean`, regenerated from the source on every run.

  The positive theorems are about the code AFTER the C10 fix series (the repairs to dulwich that these switches record;
  see DESIGN.md §10.2); the behaviour before it is kept as `decide`d regression witnesses on the old variants
  (`…_old_code`).
-/
import DulwichModel.Model.GC
import DulwichModel.Model.Reader
import DulwichModel.Lemmas.GC
import DulwichModel.Lemmas.Reader

namespace Dulwich.Props.C10
open Dulwich Dulwich.Reader

/-! ## What the source does now (translator output) -/

/-- The source has the repaired behaviours the theorems below are about.  (Against a tree without the fix series this is
the obligation that stops compiling.)  Probe order as in `Gen/GC.lean`: 0 = packs, 1 = loose file, 2 = alternates. -/
theorem source_has_repaired_behaviour :
    Gen.GC.getRawReprobesPacks = true ∧ Gen.GC.containsReprobesPacks = true ∧ Gen.GC.iterRescansAfterLoose = true ∧
    GC.Variant.current = GC.Variant.fixed ∧
    Gen.GC.getRawProbeOrder = [0, 1, 2, 0] ∧ Gen.GC.containsProbeOrder = [0, 1, 2, 0] := by
  decide +kernel

/-- the retry bound found in the source is enough for the theorems below -/
theorem rescan_attempts_sufficient : 3 ≤ Gen.GC.maxPackRescanAttempts := by decide

/-! ## Logical half: maintenance never loses reachable objects

`GC.Reach s G roots x` (defined in `Lemmas/GC.lean`): `x` is a root (value of a ref or HEAD), or a child — tree/parents of
a commit, entry of a tree, target of a tag, as given by `G` — of a reachable object that is present in store `s`.
All theorems hold for every store (any mix of loose objects, packs with duplicates, alternates), every graph `G`,
every set of roots, every clock and mtimes; those that do not mention mtimes hold for both variants of the code. -/

/-- The `reachable` set / `pending` deque worklist of `find_reachable_objects` computes exactly the reachable set
(closure lemma), for every graph — whenever it returns. -/
theorem reach_worklist_complete (s : GC.Store) (G : GC.Id → List GC.Id) (roots : List GC.Id) (fuel : Nat)
    (r : List GC.Id) (h : GC.findReachable s G roots fuel = some r) (x : GC.Id) :
    x ∈ r ↔ GC.Reach s G roots x :=
  GC.findReachable_iff h x

/-- … and it always returns: the loop pops at most (number of roots + number of child slots of present objects) ids. -/
theorem reach_worklist_terminates (s : GC.Store) (G : GC.Id → List GC.Id) (roots : List GC.Id) (fuel : Nat)
    (hf : (roots ++ s.allIds.flatMap G).length ≤ fuel) : (GC.findReachable s G roots fuel).isSome = true :=
  GC.findReachable_total s G roots fuel hf

/-- every maintenance operation is total (given that much fuel for its reachability walk) -/
theorem maintenance_total (v : GC.Variant) (s : GC.Store) (G : GC.Id → List GC.Id) (roots : List GC.Id) (fuel : Nat)
    (op : GC.Op) (hf : (roots ++ s.allIds.flatMap G).length ≤ fuel) : (GC.apply v G roots fuel op s).isSome = true := by
  have := GC.findReachable_total s G roots fuel hf
  cases op <;> simp [GC.apply, this]

/-- For every store, refs and grace periods: every object reachable from refs ∪ HEAD that is present stays present
after any sequence (any order, any number of times) of pack_loose_objects / repack / prune_unreachable_objects /
garbage_collect (prune or not, any grace period incl. 0 and None) / pack_refs / temp-file prune.
(Content is a function of the id in the model; the oracle compares type and bytes on the real code.) -/
theorem gc_preserves_reachable (v : GC.Variant) (G : GC.Id → List GC.Id) (roots : List GC.Id) (fuel : Nat)
    (ops : List GC.Op) (s s' : GC.Store) (h : GC.applyAll v G roots fuel ops s = some s') (x : GC.Id)
    (hr : GC.Reach s G roots x) (hx : s.has x = true) : s'.has x = true := by
  induction ops generalizing s with
  | nil => cases h; exact hx
  | cons op ops ih =>
    obtain ⟨s1, h1, h2⟩ := Option.bind_eq_some_iff.mp h
    exact ih s1 h2 (GC.reach_mono (fun y hy hhy => GC.apply_preserves_reachable h1 hy hhy) hr)
      (GC.apply_preserves_reachable h1 hr hx)

/-- Whatever one operation of the current code makes disappear was unreachable, the operation was a prune / a gc with
prune=True, and the object was older than the grace period in the property's sense: it had a local copy and EVERY copy of
it — each loose file, each pack containing it — was last written at least `grace` seconds before `now`
(`GC.OldEnough`; no condition when the grace period is None). -/
theorem only_old_unreachable_removed (G : GC.Id → List GC.Id) (roots : List GC.Id) (fuel : Nat) (op : GC.Op)
    (s s' : GC.Store) (h : GC.apply GC.Variant.current G roots fuel op s = some s') (x : GC.Id)
    (hx : s.has x = true) (hgone : s'.has x = false) :
    ¬ GC.Reach s G roots x ∧
    ((∃ grace now, op = .prune grace now ∧ GC.OldEnough s grace now x) ∨
     (∃ grace now, op = .gc true grace now ∧ GC.OldEnough s grace now x)) := by
  obtain ⟨_, _, _, hcur, _⟩ := source_has_repaired_behaviour
  have hv : GC.Variant.current.maxMtime = true := hcur ▸ rfl
  obtain ⟨h1, h2⟩ := GC.apply_only_old_unreachable_removed h hx hgone
  exact ⟨h1, (GC.drops_old h2).imp (fun ⟨g, n, ho, hold⟩ => ⟨g, n, ho, hold.all_copies hv⟩)
    fun ⟨g, n, ho, hold⟩ => ⟨g, n, ho, hold.all_copies hv⟩⟩

/-- maintenance never invents or resurrects an object -/
theorem maintenance_adds_nothing (v : GC.Variant) (G : GC.Id → List GC.Id) (roots : List GC.Id) (fuel : Nat)
    (op : GC.Op) (s s' : GC.Store) (h : GC.apply v G roots fuel op s = some s') (x : GC.Id) (hx : s'.has x = true) :
    s.has x = true :=
  ((GC.apply_has h x).mp hx).1

/-- Maintenance from a LONG-LIVED handle: every operation is given its own, arbitrary `view` of the packs (what
`self.packs` returns in that process: cached `Pack` objects, possibly of files another process has removed since, in any
order, followed by whatever a rescan finds) and an arbitrary set of objects of vanished-but-still-mapped packs that the
reachability walk of `prune_unreachable_objects` can still read.  Whether an operation returns or raises
`PackFileDisappeared`, every reachable object that is present stays present — for any sequence of operations and views. -/
theorem maintenance_from_any_cache_preserves_reachable (v : GC.Variant) (G : GC.Id → List GC.Id) (roots : List GC.Id)
    (fuel : Nat) (ops : List (List GC.Pack × List GC.Id × GC.Op)) (s s' : GC.Store)
    (h : GC.applyAllV v G roots fuel ops s = some s') (x : GC.Id)
    (hr : GC.Reach s G roots x) (hx : s.has x = true) : s'.has x = true := by
  induction ops generalizing s with
  | nil => cases h; exact hx
  | cons vo ops ih =>
    obtain ⟨r, h1, h2⟩ := Option.bind_eq_some_iff.mp h
    exact ih r.1 h2 (GC.reach_mono (fun y hy hhy => GC.applyV_preserves_reachable h1 hy hhy) hr)
      (GC.applyV_preserves_reachable h1 hr hx)

/-- Why `_complete_pack` must not take a cached pack's word for it: pack `{1,2}` was removed by another process (say
`git gc --prune=now` after a branch deletion), its objects are back as loose files, and the long-lived handle still has
the pack cached.  The code raises `PackFileDisappeared` and deletes nothing; a test that trusts the cache
(`trustStale`, not the code) "finds the objects already packed", installs nothing and deletes the loose files:
reachable objects 1 and 2 are gone. -/
theorem stale_cached_pack_must_not_count :
    let stale : GC.Pack := { ids := [1, 2], mtime := 50 }
    let s : GC.Store := { loose := [(1, 100), (2, 100)], packs := [{ ids := [3], mtime := 60 }], alts := [] }
    GC.packLooseV GC.Variant.current false [stale, { ids := [3], mtime := 60 }] s 200 = (s, true) ∧
    ((GC.packLooseV GC.Variant.current true [stale, { ids := [3], mtime := 60 }] s 200).1.has 1,
     (GC.packLooseV GC.Variant.current true [stale, { ids := [3], mtime := 60 }] s 200).1.has 2) = (false, false) ∧
    -- with a fresh view the same call packs them
    (GC.packLooseV GC.Variant.current false [{ ids := [3], mtime := 60 }] s 200).1.packs.map (·.ids) = [[3], [1, 2]] := by
  decide +kernel

/-! ### the roots while refs are being packed -/

/-- What the source does when it enumerates the roots and when it packs refs (translator output): `find_reachable_objects`
enumerates with `allkeys()`, which reads the loose tree BEFORE `packed-refs`; `read_ref` reads the loose file before
`packed-refs`; and the recorded `pack_refs(all=True)` renames the new `packed-refs` into place before it unlinks a loose
file.  No model function reads the three flags: they are what entitles one to use the theorem below with `i ≤ j`; the last
conjunct is its hypothesis `hp` for the recorded program and a ref not yet packed. -/
theorem source_reads_loose_refs_first :
    Gen.GC.gcRootsViaAllkeys = true ∧ Gen.GC.allkeysReadsLooseFirst = true ∧ Gen.GC.readRefReadsLooseFirst = true ∧
    GC.packsBeforeUnlink false (Gen.GC.packRefsProgram.map GC.RefAct.ofCode) = true := by
  decide +kernel

/-- For every ref that exists throughout (loose, packed or both at the start), every packer program that writes
`packed-refs` before unlinking the loose file, and EVERY interleaving: if the loose tree is read (state `i`) no later than
`packed-refs` (state `j`), the ref is in the union of the two views — it is a root of the reachability walk. -/
theorem loose_before_packed_sees_every_persistent_ref (s : GC.RefAt) (hs : s.1 = true ∨ s.2 = true)
    (prog : List GC.RefAct) (hp : GC.packsBeforeUnlink s.2 prog = true) (i j : Nat) (hij : i ≤ j)
    (hj : j < (GC.refTrace s prog).length) : GC.rootSeen (GC.refTrace s prog) i j = true := by
  induction prog generalizing s i j with
  | nil =>
    obtain rfl : i = 0 := Nat.le_zero.mp (Nat.le_trans hij (Nat.le_of_lt_succ hj))
    exact GC.rootSeen_zero hs [] hj
  | cons a rest ih =>
    cases i with
    | zero => exact GC.rootSeen_zero hs _ hj
    | succ i =>
      cases j with
      | zero => exact absurd hij (Nat.not_succ_le_zero i)
      | succ j =>
        obtain ⟨hs', hp'⟩ := GC.packsBeforeUnlink_cons hs hp
        exact ih (s.act a) hs' hp' i j (Nat.le_of_succ_le_succ hij) (Nat.lt_of_succ_lt_succ hj)

/-- Negation witness for the opposite read order (NOT the code): a loose-only ref; `packed-refs` is read first (state 0:
not there yet), the packer writes `packed-refs` and unlinks the loose file, the loose tree is read last (state 2: gone).
The ref existed throughout and is in neither view: its closure would be pruned.  Read loose-first it is seen in every
pair of states. -/
theorem packed_before_loose_misses_ref_counterexample :
    let prog : List GC.RefAct := [.writePacked, .unlinkLoose]
    GC.packsBeforeUnlink false prog = true ∧
    GC.rootSeen (GC.refTrace (true, false) prog) 2 0 = false ∧
    (∀ i, i < 3 → ∀ j, j < 3 → i ≤ j → GC.rootSeen (GC.refTrace (true, false) prog) i j = true) := by
  intro prog
  exact ⟨by decide +kernel, by decide +kernel, fun i _ j hj hij =>
    loose_before_packed_sees_every_persistent_ref (true, false) (.inl rfl) prog (by decide +kernel) i j hij hj⟩

/-! ### the grace period as configured -/

/-- What the source does with `gc.pruneExpire` (translator output): the only keyword `get_prune_grace_period` answers itself
means "everything may go"; an unset key gives at least two weeks; an unparsable value raises (no handler turns it into a
grace period); the result is `max(0, now - timestamp)`; `porcelain.gc` and the CLI forward the configured value when no
explicit one is given.  Only the first two conjuncts are used below; the others guard what `graceOf` takes for granted
(`.other` is refused, a date gives `now - t`) and that the configured value reaches `garbage_collect`. -/
theorem source_configured_grace_is_sound :
    GC.tableSound Gen.GC.pruneExpireKeywords = true ∧ 1209600 ≤ Gen.GC.pruneExpireUnsetDefault ∧
    Gen.GC.pruneExpireUnparsableRaises = true ∧ Gen.GC.pruneExpireGraceIsNowMinusTimestamp = true ∧
    Gen.GC.porcelainGcForwardsConfiguredGrace = true ∧ Gen.GC.cliGcDefaultsToConfig = true := by
  decide +kernel

/-- For EVERY configured value: under the grace period the code derives from it, `garbage_collect` removes no object
that has a copy written after the instant the value denotes (`never`: no object at all — the code refuses to run rather
than degrade to "no age check", which it only ever derives from a value meaning "everything may go"). -/
theorem configured_prune_removes_nothing_younger_than_expiry (v : GC.ConfigValue) (now : Nat)
    (G : GC.Id → List GC.Id) (roots : List GC.Id) (fuel : Nat) (s s' : GC.Store) (x : GC.Id) (prune : Bool) (g : Nat)
    (hg : GC.graceOf Gen.GC.pruneExpireKeywords Gen.GC.pruneExpireUnsetDefault now v = .secs g)
    (h : GC.apply GC.Variant.current G roots fuel (.gc prune (some g) now) s = some s')
    (hx : s.has x = true) (hgone : s'.has x = false) :
    ∃ e, GC.expiryOf now v = some e ∧ ∀ t ∈ s.mtimes x, t ≤ e :=
  GC.gc_respects_expiry source_configured_grace_is_sound.1 source_configured_grace_is_sound.2.1
    (source_has_repaired_behaviour.2.2.2.1 ▸ rfl) hg h hx hgone

/-- `never` is refused, not turned into "no age check"; a table that answered `never` (with any grace period, or with the
API's None) would be rejected -/
theorem never_is_not_no_grace :
    GC.graceOf Gen.GC.pruneExpireKeywords Gen.GC.pruneExpireUnsetDefault 1000 (.keyword "never") = .refuse ∧
    GC.tableSound [("now", some 0), ("never", none)] = false ∧ GC.tableSound [("never", some 0)] = false ∧
    GC.expiryOf 1000 (.keyword "never") = some 0 := by
  decide +kernel

/-- Regression witness (code before the series: `get_object_mtime` = the loose file's mtime, else the first pack's):
object 9 is unreachable, its loose copy is 7200 s old, its packed copy 1800 s; `gc(grace 3600)` removed it from the store
altogether.  The repaired code keeps it. -/
theorem younger_copy_pruned_old_code :
    let s : GC.Store := { loose := [(9, 2800)], packs := [{ ids := [1, 2], mtime := 2800 }, { ids := [9], mtime := 8200 }],
                          alts := [] }
    let G : GC.Id → List GC.Id := fun x => if x = 1 then [2] else []
    (GC.apply GC.Variant.old G [1] 10 (.gc true (some 3600) 10000) s).map (fun s' => (s'.has 1, s'.has 2, s'.has 9)) =
      some (true, true, false) ∧ 10000 < 8200 + 3600 ∧
    (GC.apply GC.Variant.fixed G [1] 10 (.gc true (some 3600) 10000) s).map (fun s' => (s'.has 1, s'.has 2, s'.has 9)) =
      some (true, true, true) := by
  decide +kernel

/-- Regression witness (code before the series: `_complete_pack` left an existing identical pack's mtime alone): object 9
sits in an old pack `{9}`; it is re-added (fresh loose copy, 10 s old); `pack_loose_objects` finds that the pack it would
write already exists and only deletes the loose copy; `gc(grace 3600)` then removed object 9, ten seconds after it was
written.  The repaired code refreshes the pack's mtime and keeps it. -/
theorem fresh_copy_dropped_old_code :
    let s : GC.Store := { loose := [(9, 9990)], packs := [{ ids := [1, 2], mtime := 100 }, { ids := [9], mtime := 100 }],
                          alts := [] }
    let G : GC.Id → List GC.Id := fun x => if x = 1 then [2] else []
    (GC.applyAll GC.Variant.old G [1] 10 [.packLoose 10000, .gc true (some 3600) 10000] s).map
        (fun s' => (s'.has 1, s'.has 2, s'.has 9)) = some (true, true, false) ∧ 10000 < 9990 + 3600 ∧
    (GC.applyAll GC.Variant.fixed G [1] 10 [.packLoose 10000, .gc true (some 3600) 10000] s).map
        (fun s' => (s'.has 1, s'.has 2, s'.has 9)) = some (true, true, true) := by
  decide +kernel

/-- non-vacuity of the hypotheses of the logical theorems: a store with loose, packed, duplicated and alternate objects;
gc with the default grace period (from the source) keeps the closure of the root and the young unreachable object, and
removes the old unreachable ones — all of whose copies are old. -/
example :
    let s : GC.Store := { loose := [(3, 100), (7, 100), (8, 5000000)], packs := [{ ids := [1, 2, 3], mtime := 100 },
                          { ids := [3, 6], mtime := 100 }], alts := [4] }
    let G : GC.Id → List GC.Id := fun x => if x = 1 then [2, 3] else if x = 3 then [4, 5] else []
    GC.findReachable s G [1] 20 = some [1, 2, 3, 4, 5] ∧
    (GC.apply GC.Variant.current G [1] 20 (.gc true GC.defaultGrace 5000100) s).map
        (fun s' => ([1, 2, 3, 4, 5, 6, 7, 8].map s'.has, s'.loose, s'.packs.map (·.ids))) =
      some ([true, true, true, true, false, false, false, true], [], [[8, 1, 2, 3]]) ∧
    s.mtimes 6 = [100] ∧ s.mtimes 7 = [100] := by
  decide +kernel

/-! ## Concurrent half -/

/-- is `x` readable in file-system state `f` (loose file present, or in a pack that a directory scan would show) -/
def present (ids : Name → List Id) (f : FS) (x : Id) : Bool :=
  f.loose.contains x || f.visible.any (fun p => (ids p).contains x)

/-- For every interleaving (any schedule) of ONE repacker whose program has the safe shape (`checkProgram`: the new pack
`pstar` is installed — data and index — before any pack file is removed and before any loose object of `prot` is
deleted, and is never removed; `started`: `pstar` was already there) with ANY number of readers, each doing `store[x]`
or `x in store` as the source does it now (with the second look at the packs), from any cache state (empty, stale,
already loaded), for an object of `prot` that exists at the start — in a complete pack OR as a loose file — and is in
`pstar`: no reader ever reports "missing".  Objects that move from loose to packed are included.  The number of passes
is the constant from the source. -/
theorem reader_finds_persistent_object (pstar : Name) (prot : List Id) (started : Bool) (prog : List Act)
    (hprog : checkProgram pstar prot started started prog = true) (f0 : FS)
    (hstart : started = true → f0.complete pstar = true) (readers : List (Cfg × RState))
    (hreaders : ∀ cr ∈ readers, cr.1.maxAttempts = Gen.GC.maxPackRescanAttempts ∧
        cr.1.reprobe = (if cr.1.needData then Gen.GC.getRawReprobesPacks else Gen.GC.containsReprobesPacks) ∧
        cr.1.x ∈ cr.1.ids pstar ∧ cr.1.x ∈ prot ∧
        ((∃ p, f0.complete p = true ∧ cr.1.x ∈ cr.1.ids p) ∨ cr.1.x ∈ f0.loose) ∧
        (∃ cache idxL dataL, cr.2 = RState.init cache idxL dataL))
    (sched : List (Option Nat)) :
    ∀ cr ∈ (Sys.exec { fs := f0, prog := prog, readers := readers } sched).readers,
      ∀ b, cr.2.phase = Phase.done b → b = true := by
  refine sys_readers_never_miss pstar prot started prog hprog f0 hstart readers (fun cr hcr => ?_) sched
  obtain ⟨hN, hre, h⟩ := hreaders cr hcr
  rw [source_has_repaired_behaviour.1, source_has_repaired_behaviour.2.1, ite_self] at hre
  exact ⟨hN ▸ rescan_attempts_sufficient, hre, h⟩

/-- The same against an arbitrary environment (e.g. `git repack -a -d` as another process): any sequence of file-system
states, observed at the reader's steps, in which the object is always in a complete pack or loose, and neither a pack
file nor its loose file is removed before the stable pack is complete (`Rely`). -/
theorem reader_finds_persistent_object_any_environment (c : Cfg) (pstar : Name)
    (hN : c.maxAttempts = Gen.GC.maxPackRescanAttempts) (hre : c.reprobe = true)
    (tr : List (EPhase × FS)) (hrely : Rely c pstar tr)
    (cache idxL dataL : List Name) (b : Bool)
    (hdone : (run c (tr.map (·.2)) (RState.init cache idxL dataL)).phase = Phase.done b) : b = true :=
  reader_never_misses c pstar (by rw [hN]; exact rescan_attempts_sufficient) hre tr hrely cache idxL dataL b hdone

/-- Iteration (`list(store)` as the source does it now: pack scan, packs, loose listing, second pack scan, new packs,
alternates) interleaved by ANY schedule with a repacker of the safe shape: every object of `prot` that exists at the
start — packed or loose — and is in `pstar` is in the result, whatever the iterator's cache. -/
theorem iteration_complete_during_repack (ids : Name → List Id) (alts : List Id) (x : Id) (pstar : Name)
    (prot : List Id) (started : Bool) (prog : List Act)
    (hprog : checkProgram pstar prot started started prog = true) (f0 : FS)
    (hstart : started = true → f0.complete pstar = true) (hx : x ∈ ids pstar) (hprot : x ∈ prot)
    (hex : (∃ p, f0.complete p = true ∧ x ∈ ids p) ∨ x ∈ f0.loose)
    (cache idxL : List Name) (sched : List Bool)
    (hdone : (iexec Gen.GC.iterRescansAfterLoose ids alts f0 prog (IState.init cache idxL) sched).2.2.phase = IPhase.done) :
    x ∈ (iexec Gen.GC.iterRescansAfterLoose ids alts f0 prog (IState.init cache idxL) sched).2.2.acc := by
  obtain ⟨_, _, hiter, _⟩ := source_has_repaired_behaviour
  rw [hiter] at hdone ⊢
  exact iexec_inv (alts := alts) hx hprot sched started started f0 prog (IState.init cache idxL)
    (progInv_start hprog hstart) (envOK_start (c := icfg ids x) hstart hx hex) (.inr trivial) hdone

/-! ### the recorded programs of the real code have the safe shape -/

/-- `repack()`: the consolidated pack is fully installed (data, then index) before any old pack file is removed and
before the loose objects it contains are deleted, and it is never removed.  A reordering in dulwich changes the generated
term and this stops compiling. -/
theorem recorded_repack_order_safe :
    checkProgram Gen.GC.repackNewPack Gen.GC.repackProtected false false (Gen.GC.repackProgram.map Act.ofCode) = true := by
  decide +kernel

theorem recorded_pack_loose_order_safe :
    checkProgram Gen.GC.packLooseNewPack Gen.GC.packLooseProtected false false
      (Gen.GC.packLooseProgram.map Act.ofCode) = true := by
  decide +kernel

theorem recorded_gc_order_safe :
    checkProgram Gen.GC.gcNewPack Gen.GC.gcProtected false false (Gen.GC.gcProgram.map Act.ofCode) = true := by
  decide +kernel

/-- `repack()` and `garbage_collect()` as recorded from the source (pack-directory listings included): after the new pack is
installed the pack directory is not listed again before pack files are removed — the removal loop works off the snapshot
taken before copying.  A removal loop that re-lists the directory is rejected; and the translator finds the loop iterating
the pre-copy variable in the source. -/
theorem recorded_repack_removes_snapshot_only :
    Gen.GC.repackRemovesSnapshotOnly = true ∧
    removesSnapshotOnly Gen.GC.repackNewPack false false (Gen.GC.repackProgramL.map Act.ofCode) = true ∧
    removesSnapshotOnly Gen.GC.gcNewPack false false (Gen.GC.gcProgramL.map Act.ofCode) = true ∧
    -- the recorded programs with the listings dropped are the ones used above
    (Gen.GC.repackProgramL.filter (fun a => a.1 != 6)) = Gen.GC.repackProgram ∧
    (Gen.GC.gcProgramL.filter (fun a => a.1 != 6)) = Gen.GC.gcProgram ∧
    -- what the check rejects: listing the directory between the installation and the removals
    removesSnapshotOnly 1 false false [.listPacks, .installData 1, .installIdx 1, .delLoose 7, .listPacks, .removeData 2,
      .removeIdx 2] = false := by
  decide +kernel

/-- A pack that another writer lands while `repack()` runs survives: the procedure (`mstep`, removal targets = the packs of
the snapshot taken before copying, minus the consolidated pack) interleaved by ANY schedule with ANY adding actions of the
environment never makes incomplete a pack that is complete and not among the packs it may still remove — in particular
any pack that was not in the directory when the snapshot was taken. -/
theorem pack_landed_during_repack_survives (newp : Name) (sched : List (Option Act)) (f : FS) (m : MPhase) (q : Name)
    (henv : ∀ a, some a ∈ sched → a.adds = true) (hm : m ≠ MPhase.start) (hq : q ∉ mayRemove m)
    (hc : f.complete q = true) : (mexec false newp f m sched).1.complete q = true :=
  late_pack_survives newp sched f m q
    (fun a ha => ⟨fun e => (by subst e; cases henv _ ha), fun e => (by subst e; cases henv _ ha)⟩) hm hq hc

/-- Negation witness for the variant whose removal loop lists the directory again (NOT the code): old pack 1, the
repacker snapshots [1] and installs pack 9, another writer lands pack 5, the removal loop re-lists, sees [1, 9, 5] and
removes 1 and 5 — pack 5's objects were never copied.  The real procedure leaves pack 5 alone (and this run is an
instance of the theorem's hypotheses: non-vacuity). -/
theorem relisting_removal_loop_deletes_late_pack :
    let f0 : FS := { idx := [1], data := [1], loose := [] }
    let sched : List (Option Act) := [none, none, some (.installData 5), some (.installIdx 5), none, none, none, none]
    (mexec true 9 f0 .start sched).1.complete 5 = false ∧ (mexec true 9 f0 .start sched).2 = MPhase.done ∧
    (mexec false 9 f0 .start sched).1.complete 5 = true ∧ (mexec false 9 f0 .start sched).1.complete 1 = false ∧
    (mexec false 9 f0 .start sched).1.complete 9 = true ∧
    (mexec false 9 f0 .start (sched.take 2)).2 = MPhase.installed [1] ∧ 5 ∉ mayRemove (MPhase.installed [1]) := by
  decide +kernel

/-- Readers of any of the loose objects that the real `repack()` moves into the new pack
(`repackProtected`; they may have a packed copy as well) survive it, whatever the schedule; the program is the one recorded
from the source on this run.  An object with packed copies only is not in `repackProtected` and not covered here. -/
theorem repack_order_safe (f0 : FS) (readers : List (Cfg × RState))
    (hreaders : ∀ cr ∈ readers, cr.1.maxAttempts = Gen.GC.maxPackRescanAttempts ∧
        cr.1.reprobe = (if cr.1.needData then Gen.GC.getRawReprobesPacks else Gen.GC.containsReprobesPacks) ∧
        cr.1.x ∈ cr.1.ids Gen.GC.repackNewPack ∧ cr.1.x ∈ Gen.GC.repackProtected ∧
        ((∃ p, f0.complete p = true ∧ cr.1.x ∈ cr.1.ids p) ∨ cr.1.x ∈ f0.loose) ∧
        (∃ cache idxL dataL, cr.2 = RState.init cache idxL dataL))
    (sched : List (Option Nat)) :
    ∀ cr ∈ (Sys.exec { fs := f0, prog := Gen.GC.repackProgram.map Act.ofCode, readers := readers } sched).readers,
      ∀ b, cr.2.phase = Phase.done b → b = true :=
  reader_finds_persistent_object _ _ false _ recorded_repack_order_safe f0 (by simp) readers hreaders sched

/-! ### the race of §7-F12, before and after -/

/-- the recorded program of the real `pack_loose_objects()` (two loose objects `1`, `2` go into the new pack) -/
def packLooseProg : List Act := Gen.GC.packLooseProgram.map Act.ofCode

def raceIds : Name → List Id := fun p => if p = Gen.GC.packLooseNewPack then [1, 2] else []

def raceCfg (reprobe : Bool) : Cfg :=
  { ids := raceIds, x := 1, needData := true, alts := [], maxAttempts := Gen.GC.maxPackRescanAttempts, reprobe := reprobe }

def raceStart (reprobe : Bool) : Sys :=
  { fs := { idx := [], data := [], loose := [1, 2] }, prog := packLooseProg,
    readers := [(raceCfg reprobe, RState.init [] [] [])] }

/-- the interleaving: the reader scans the (empty) pack directory; `pack_loose_objects` runs to completion
(install pack, delete both loose files); the reader then probes the loose file, then the alternates, … -/
def raceSchedule : List (Option Nat) := [some 0, none, none, none, none, some 0, some 0, some 0, some 0, some 0, some 0]

/-- Regression witness (code before the series: no second look at the packs): object `1` is readable in every
intermediate state (loose first, then packed) and yet the lookup ended with "missing". -/
theorem loose_to_pack_race_old_code :
    (∀ k, k ≤ raceSchedule.length →
        present raceIds ((raceStart false).exec (raceSchedule.take k)).fs 1 = true) ∧
    ((raceStart false).exec raceSchedule).readers.map (fun cr => cr.2.phase) = [Phase.done false] := by
  decide +kernel

/-- the same interleaving with the lookup as the source does it now: found (an instance of
`reader_finds_persistent_object`, whose hypotheses it satisfies — non-vacuity) -/
theorem loose_to_pack_race_now_found :
    checkProgram Gen.GC.packLooseNewPack Gen.GC.packLooseProtected false false packLooseProg = true ∧
    (1 ∈ raceIds Gen.GC.packLooseNewPack) ∧ (1 ∈ Gen.GC.packLooseProtected) ∧
    ((raceStart Gen.GC.getRawReprobesPacks).exec raceSchedule).readers.map (fun cr => cr.2.phase) = [Phase.done true] := by
  decide +kernel

/-! ### iteration, before and after -/

def iterIds : Name → List Id := fun p => if p = 2 then [1] else if p = 1 then [1, 2] else []

/-- Regression witness (code before the series): `list(store)` against a `repack()` that replaces old pack `2 = {1}` and
loose object `2` by pack `1 = {1,2}`: the reader lists the pack directory (sees pack 2), the repack runs, the reader opens
pack 2's index (gone: evicted, not rescanned), lists loose objects (none left).  Object 1 was in a visible pack
throughout, object 2 was loose then packed; the result was empty.  The current code returns both. -/
theorem iter_during_repack_old_code :
    let f0 : FS := { idx := [2], data := [2], loose := [2] }
    let prog : List Act := [.installData 1, .installIdx 1, .delLoose 2, .removeData 2, .removeIdx 2]
    let sched : List Bool := [false, true, true, true, true, true, false, false, false, false, false, false, false, false]
    present iterIds f0 1 = true ∧ present iterIds (prog.foldl FS.act f0) 1 = true ∧
    (iexec false iterIds [] f0 prog (IState.init [] []) sched).2.2.phase = IPhase.done ∧
    (iexec false iterIds [] f0 prog (IState.init [] []) sched).2.2.acc = [] ∧
    checkProgram 1 [2] false false prog = true ∧
    (iexec Gen.GC.iterRescansAfterLoose iterIds [] f0 prog (IState.init [] []) sched).2.2.phase = IPhase.done ∧
    (iexec Gen.GC.iterRescansAfterLoose iterIds [] f0 prog (IState.init [] []) sched).2.2.acc = [1, 2] := by
  decide +kernel

/-! ### what remains false: the retry bound -/

def retryIds : Name → List Id := fun _ => [1]

/-- KNOWN FINDING (not repaired): successive repacks (packs 1 → 2 → … → 6, each new pack installed before the old one is
removed, object 1 in a visible pack at every instant) defeat a lookup that starts from an empty cache: each of the
`_MAX_PACK_RESCAN_ATTEMPTS` passes of the first look at the packs, and then of the second one, meets a pack that the next
repack has just removed. -/
theorem retry_bound_counterexample :
    let c : Cfg := { ids := retryIds, x := 1, needData := true, alts := [], maxAttempts := Gen.GC.maxPackRescanAttempts,
                     reprobe := Gen.GC.getRawReprobesPacks }
    let f (a b : Name) : FS := { idx := [a, b], data := [a, b], loose := [] }
    let g (a : Name) : FS := { idx := [a], data := [a], loose := [] }
    -- scan (sees 1) | 1 gone | rescan sees 2 | 2 gone | rescan sees 3, passes used up | loose | alts, start over with [3]
    -- | 3 gone | rescan sees 4 | 4 gone | rescan sees 5 | 5 gone | rescan, passes used up
    let tr : List FS := [g 1, g 2, g 2, g 3, g 3, g 3, g 3, g 4, g 4, g 5, g 5, g 6, g 6]
    (∀ fs ∈ [g 1, f 1 2, g 2, f 2 3, g 3, f 3 4, g 4, f 4 5, g 5, f 5 6, g 6], present retryIds fs 1 = true) ∧
    (run c tr (RState.init [] [] [])).phase = Phase.done false := by
  decide +kernel

/-- Regression witness: without the second look, 2 passes were not enough even against a single repack (the bound in the
source is needed) -/
theorem two_attempts_insufficient_old_code :
    let c : Cfg := { ids := retryIds, x := 1, needData := true, alts := [], maxAttempts := 2, reprobe := false }
    let g (a : Name) : FS := { idx := [a], data := [a], loose := [] }
    (run c [g 1, g 2, g 2, g 2, g 2] (RState.init [] [] [])).phase = Phase.done false := by
  decide +kernel

/-- non-vacuity: the hypotheses of `repack_order_safe` hold of the `__contains__` reader of object 2 (loose, in
`repackProtected` and in the new pack 1; stale cache).  The cold `get_raw` reader of object 5 (in old pack 2 and in the new
pack) is outside it: 5 is packed only, not in `repackProtected`.  On the schedule given both lookups finish — with "found". -/
example :
    let ids : Name → List Id := fun p => if p = 1 then [5, 6, 7, 1, 2] else if p = 2 then [5] else if p = 3 then [6] else []
    let c1 : Cfg := { ids := ids, x := 5, needData := true, alts := [], maxAttempts := Gen.GC.maxPackRescanAttempts,
                      reprobe := Gen.GC.getRawReprobesPacks }
    let c2 : Cfg := { ids := ids, x := 2, needData := false, alts := [], maxAttempts := Gen.GC.maxPackRescanAttempts,
                      reprobe := Gen.GC.containsReprobesPacks }
    let f0 : FS := { idx := [2, 3], data := [3, 2], loose := [1, 2] }
    let readers := [(c1, RState.init [] [] []), (c2, RState.init [9, 2] [] [])]
    checkProgram Gen.GC.repackNewPack Gen.GC.repackProtected false false (Gen.GC.repackProgram.map Act.ofCode) = true ∧
    f0.complete 2 = true ∧ (5 ∈ ids 2) ∧ (5 ∈ ids Gen.GC.repackNewPack) ∧ (2 ∈ f0.loose) ∧ (2 ∈ ids Gen.GC.repackNewPack) ∧
    (2 ∈ Gen.GC.repackProtected) ∧
    ((Sys.exec { fs := f0, prog := Gen.GC.repackProgram.map Act.ofCode, readers := readers }
        [some 0, some 1, some 1, some 1, none, none, none, none, none, none, none, none, some 0, some 0, some 0, some 0,
         some 0, some 1, some 1, some 1, some 1, some 1, some 1, some 1]).readers.map (fun cr => cr.2.phase)) =
      [Phase.done true, Phase.done true] := by
  decide +kernel

end Dulwich.Props.C10
