/-
  C08 — `DiskRefsContainer` as a transition system at system-call granularity.

  What is modelled (dulwich/refs.py, dulwich/file.py, dulwich/worktree.py, dulwich/repo.py):

  * the file system seen by the refs code: one optional loose file per ref, one lock file per ref
    (`<ref>.lock`, created with O_EXCL), the `packed-refs` file (identified by a version number that
    stands for its stat identity) and `packed-refs.lock`;
  * every operation is a *program* (`Prog`): a tree whose nodes are system calls (`Call`) and whose
    edges are labelled by the result of the call.  The programs below are transcriptions of the Python
    methods with the calls in exactly the order the code performs them (the order is what the
    scheduler-driven correspondence check compares, call by call, against the real code);
  * any number of actors, each with its own `DiskRefsContainer` (its own packed-refs cache) executing
    a list of operations; one `step` = one system call of one actor (interleaving semantics).

  Not modelled: reflog writes, directory creation/removal (`ensure_dir_exists`, the `rmdir` loop of
  `remove_if_equals`), peeled entries, ref names with more than one directory level.

  Core Lean only.
-/
import DulwichModel.Model.Basic
import DulwichModel.Gen.RefsFS

namespace Dulwich.RefsFS

abbrev Ref := Nat      -- 0 is HEAD; the others live in refs/heads/
abbrev Actor := Nat
abbrev Sha := Nat

/-- contents of a loose ref file -/
inductive Val where
  | sha (n : Sha)
  | sym (r : Ref)      -- `ref: <name>`
  deriving DecidableEq, Repr

/-- contents of packed-refs (names to object ids; never symbolic) -/
abbrev PMap := List (Ref × Sha)

def pmGet (m : PMap) (r : Ref) : Option Sha := m.lookup r
def pmErase (m : PMap) (r : Ref) : PMap := m.filter (fun e => e.1 != r)
def pmSet (m : PMap) (r : Ref) (s : Sha) : PMap := (r, s) :: pmErase m r

/-! ## System calls (the yield points of the scheduler) -/

inductive Call where
  | start                           -- the actor is released for the first time
  | openR (r : Ref)                 -- open(refpath(r), 'rb') and read it
  | statR (r : Ref)                 -- os.path.exists(refpath(r))
  | lstatR (r : Ref)                -- os.path.lexists(refpath(r))
  | openX (r : Ref)                 -- os.open(refpath(r) + '.lock', O_CREAT|O_EXCL)
  | fsyncL (r : Ref)                -- os.fsync(lock file)
  | replaceL (r : Ref) (v : Val)    -- os.replace(r.lock, r); `v` = what was written to the lock file
  | removeL (r : Ref)               -- os.remove(r.lock)      (`_GitFile.abort`)
  | removeR (r : Ref)               -- os.remove(refpath(r))
  | statP                           -- os.stat(packed-refs)
  | openRP                          -- open(packed-refs, 'rb'), read it, fstat
  | openXP                          -- os.open(packed-refs.lock, O_CREAT|O_EXCL)
  | fsyncP
  | replaceP (m : PMap)             -- os.replace(packed-refs.lock, packed-refs)
  | removeLP                        -- os.remove(packed-refs.lock)
  | scan                            -- os.scandir(refs/heads)
  deriving DecidableEq, Repr

/-- result type of each call -/
def ResT : Call → Type
  | .start => Unit
  | .openR _ => Option Val          -- none = FileNotFoundError
  | .statR _ => Bool
  | .lstatR _ => Bool
  | .openX _ => Bool                -- false = FileExistsError (→ FileLocked)
  | .fsyncL _ => Unit
  | .replaceL _ _ => Unit
  | .removeL _ => Unit
  | .removeR _ => Bool              -- false = FileNotFoundError
  | .statP => Option Nat            -- stat identity, none = FileNotFoundError
  | .openRP => Option (Nat × PMap)
  | .openXP => Bool
  | .fsyncP => Unit
  | .replaceP _ => Unit
  | .removeLP => Unit
  | .scan => List Ref

/-! ## File-system state -/

structure FS where
  loose : Ref → Option Val
  lock : Ref → Option Actor         -- `<ref>.lock` exists, created by that actor
  packed : Option (Nat × PMap)      -- (stat identity, contents)
  plock : Option Actor
  nextVer : Nat                     -- identity given to the next packed-refs file renamed in

def upd {α : Type} (f : Ref → α) (r : Ref) (v : α) : Ref → α := fun x => if x = r then v else f x

@[simp] theorem upd_same {α : Type} (f : Ref → α) (r : Ref) (v : α) : upd f r v r = v := by simp [upd]
@[simp] theorem upd_other {α : Type} (f : Ref → α) (r x : Ref) (v : α) (h : x ≠ r) : upd f r v x = f x := by
  simp [upd, h]

/-- the refs living in refs/heads (the universe a directory listing ranges over) -/
structure Env where
  heads : List Ref
  /-- iteration order of a Python `set` of ref names in the process under test -/
  order : List Ref

/-- Execute one system call atomically. -/
def exec (env : Env) (fs : FS) (a : Actor) : (c : Call) → FS × ResT c
  | .start => (fs, ())
  | .openR r => (fs, fs.loose r)
  | .statR r => (fs, (fs.loose r).isSome)
  | .lstatR r => (fs, (fs.loose r).isSome)
  | .openX r =>
    match fs.lock r with
    | some _ => (fs, false)
    | none => ({ fs with lock := upd fs.lock r (some a) }, true)
  | .fsyncL _ => (fs, ())
  | .replaceL r v => ({ fs with loose := upd fs.loose r (some v), lock := upd fs.lock r none }, ())
  | .removeL r => ({ fs with lock := upd fs.lock r none }, ())
  | .removeR r =>
    match fs.loose r with
    | some _ => ({ fs with loose := upd fs.loose r none }, true)
    | none => (fs, false)
  | .statP => (fs, fs.packed.map (·.1))
  | .openRP => (fs, fs.packed)
  | .openXP =>
    match fs.plock with
    | some _ => (fs, false)
    | none => ({ fs with plock := some a }, true)
  | .fsyncP => (fs, ())
  | .replaceP m => ({ fs with packed := some (fs.nextVer, m), plock := none, nextVer := fs.nextVer + 1 }, ())
  | .removeLP => ({ fs with plock := none }, ())
  | .scan => (fs, env.heads.filter (fun r => (fs.loose r).isSome))

/-- The ref map a reader is supposed to see: loose overrides packed. -/
def absVal (fs : FS) (r : Ref) : Option Val :=
  match fs.loose r with
  | some v => some v
  | none => match fs.packed with
    | some (_, m) => (pmGet m r).map Val.sha
    | none => none

/-! ## Programs -/

inductive Exc where
  | locked        -- FileLocked
  | key           -- KeyError
  | symloop       -- SymrefLoop
  | commit        -- CommitError
  | notfound      -- FileNotFoundError (os.remove of a loose file that vanished under the lock)
  deriving DecidableEq, Repr

inductive Outcome where
  | unit                                    -- returned None
  | bool (b : Bool)
  | val (v : Option Val)                    -- what a reader got
  | dict (d : List (Ref × Val))             -- as_dict()
  | keys (l : List Ref)                     -- allkeys()
  | committed (cid : Sha) (parent : Option Sha)
  | exc (e : Exc)
  deriving DecidableEq, Repr

/-- per-container packed-refs cache: `_packed_refs`, `_packed_refs_key` -/
structure Cache where
  loaded : Bool
  key : Option Nat
  map : PMap
  deriving DecidableEq, Repr

def Cache.empty : Cache := ⟨false, none, []⟩

inductive Prog where
  | ret (o : Outcome) (c : Cache)
  | call (c : Call) (k : ResT c → Prog)

namespace Prog
def sStart (k : Unit → Prog) : Prog := .call .start k
def sOpenR (r : Ref) (k : Option Val → Prog) : Prog := .call (.openR r) k
def sStatR (r : Ref) (k : Bool → Prog) : Prog := .call (.statR r) k
def sLstatR (r : Ref) (k : Bool → Prog) : Prog := .call (.lstatR r) k
def sOpenX (r : Ref) (k : Bool → Prog) : Prog := .call (.openX r) k
def sFsyncL (r : Ref) (k : Unit → Prog) : Prog := .call (.fsyncL r) k
def sReplaceL (r : Ref) (v : Val) (k : Unit → Prog) : Prog := .call (.replaceL r v) k
def sRemoveL (r : Ref) (k : Unit → Prog) : Prog := .call (.removeL r) k
def sRemoveR (r : Ref) (k : Bool → Prog) : Prog := .call (.removeR r) k
def sStatP (k : Option Nat → Prog) : Prog := .call .statP k
def sOpenRP (k : Option (Nat × PMap) → Prog) : Prog := .call .openRP k
def sOpenXP (k : Bool → Prog) : Prog := .call .openXP k
def sFsyncP (k : Unit → Prog) : Prog := .call .fsyncP k
def sReplaceP (m : PMap) (k : Unit → Prog) : Prog := .call (.replaceP m) k
def sRemoveLP (k : Unit → Prog) : Prog := .call .removeLP k
def sScan (k : List Ref → Prog) : Prog := .call .scan k
end Prog
open Prog

/-- How the code orders the steps the findings are about; `coded` is regenerated from the source. -/
structure Variant where
  /-- `remove_if_equals`: `os.remove(loose)` before `_remove_packed_ref` (else: lexists, packed entry, loose) -/
  rmLooseFirst : Bool
  /-- `add_packed_refs`: loose files removed before the new packed-refs is renamed in -/
  packRemovesLooseFirst : Bool
  /-- `add_if_new`: the packed-refs re-check under the lock looks up `name`, not `realname` -/
  addChecksName : Bool
  /-- number of times `WorkTree.commit` reads the branch head (the CAS uses the last read) -/
  commitReads : Nat
  /-- `pack_refs`: a loose file is pruned under the ref's own lock and only if it still holds the packed value -/
  packRecheck : Bool := false
  deriving DecidableEq, Repr

def Variant.coded : Variant :=
  { rmLooseFirst := Gen.RefsFS.rmLooseBeforePacked
    packRemovesLooseFirst := Gen.RefsFS.packRemovesLooseBeforeReplace
    addChecksName := Gen.RefsFS.addIfNewChecksName
    commitReads := Gen.RefsFS.worktreeCommitHeadReads
    packRecheck := Gen.RefsFS.packPrunesUnderRefLock }

/-- the repaired orders: packed entry before the loose file in remove_if_equals, loose files pruned after the
rename of packed-refs (under the ref lock, if unchanged), resolved name re-checked, single read in commit -/
def Variant.repaired : Variant :=
  { rmLooseFirst := false, packRemovesLooseFirst := false, addChecksName := false, commitReads := 1,
    packRecheck := true }

/-! ### readers -/

/-- `DiskRefsContainer.get_packed_refs`: stat-validated cache, (re)load on miss. -/
def getPacked (c : Cache) (k : PMap → Cache → Prog) : Prog :=
  let load : Prog := sOpenRP fun r =>
    match r with
    | none => k [] ⟨true, none, []⟩
    | some (ver, m) => k m ⟨true, some ver, m⟩
  if c.loaded then
    sStatP fun cur => if c.key = cur then k c.map c else load
  else load

/-- `RefsContainer.read_ref`: loose first, then packed. -/
def readRef (r : Ref) (c : Cache) (k : Option Val → Cache → Prog) : Prog :=
  sOpenR r fun v =>
    match v with
    | some v => k (some v) c
    | none => getPacked c fun m c => k ((pmGet m r).map Val.sha) c

/-- `RefsContainer.follow`; `none` = SymrefLoop, otherwise (last name in the chain, its sha if any). -/
def followAux : Nat → Ref → Nat → Cache → (Option (Ref × Option Sha) → Cache → Prog) → Prog
  | 0, _, _, c, k => k none c
  | fuel + 1, name, depth, c, k =>
    readRef name c fun v c =>
      match v with
      | none => k (some (name, none)) c
      | some (.sha s) => if depth + 1 > Gen.RefsFS.symrefMaxDepth then k none c else k (some (name, some s)) c
      | some (.sym t) => if depth + 1 > Gen.RefsFS.symrefMaxDepth then k none c else followAux fuel t (depth + 1) c k

def follow (name : Ref) (c : Cache) (k : Option (Ref × Option Sha) → Cache → Prog) : Prog :=
  followAux (Gen.RefsFS.symrefMaxDepth + 2) name 0 c k

/-- `refs[name]` as an `Except`: sha, KeyError or SymrefLoop -/
def getItem (name : Ref) (c : Cache) (k : Except Exc Sha → Cache → Prog) : Prog :=
  follow name c fun fr c =>
    match fr with
    | none => k (.error .symloop) c
    | some (_, none) => k (.error .key) c
    | some (_, some s) => k (.ok s) c

/-! ### writers -/

/-- `DiskRefsContainer.set_if_equals(name, old, new)`; `old = none`: unconditional, `some none`: ZERO_SHA. -/
def setIfEquals (name : Ref) (old : Option (Option Val)) (new : Val) (c : Cache)
    (k : Outcome → Cache → Prog) : Prog :=
  follow name c fun fr c =>
    let real := match fr with
      | some (r, _) => r
      | none => name
    getPacked c fun _ c =>                           -- `_check_packed_conflict(realname)`: names are flat here
    getPacked c fun stale c =>                       -- `packed_refs = self.get_packed_refs()` (outside the lock)
    sOpenX real fun ok =>
      if !ok then k (.exc .locked) c else
      let write (c : Cache) : Prog :=
        sOpenR real fun cur =>                       -- "already has the desired value" shortcut
          let cur := match cur with
            | some v => some v
            | none => (pmGet stale real).map Val.sha -- the dict captured outside the lock
          if cur = some new then sRemoveL real fun _ => k (.bool true) c
          else sFsyncL real fun _ => sReplaceL real new fun _ => k (.bool true) c
      match old with
      | none => write c
      | some o =>
        sOpenR real fun orig =>                      -- re-read while holding the lock
          match orig with
          | some v => if some v = o then write c else sRemoveL real fun _ => k (.bool false) c
          | none => getPacked c fun m c =>
              if (pmGet m real).map Val.sha = o then write c else sRemoveL real fun _ => k (.bool false) c

/-- `DiskRefsContainer.add_if_new(name, v)` -/
def addIfNew (vr : Variant) (name : Ref) (v : Val) (c : Cache) (k : Outcome → Cache → Prog) : Prog :=
  follow name c fun fr c =>
    match fr with
    | none => k (.exc .symloop) c
    | some (_, some _) => k (.bool false) c
    | some (real, none) =>
      getPacked c fun _ c =>                         -- `_check_packed_conflict(realname)`
      sOpenX real fun ok =>
        if !ok then k (.exc .locked) c else
        sStatR real fun ex =>
          if ex then sRemoveL real fun _ => k (.bool false) c else
          getPacked c fun m c =>
            if (pmGet m (if vr.addChecksName then name else real)).isSome then
              sRemoveL real fun _ => k (.bool false) c
            else sFsyncL real fun _ => sReplaceL real v fun _ => k (.bool true) c

/-- `DiskRefsContainer._remove_packed_ref(name)`; `kLocked` is taken when packed-refs.lock is held by
someone else (FileLocked propagates). -/
def removePacked (name : Ref) (c : Cache) (kLocked : Cache → Prog) (k : Cache → Prog) : Prog :=
  getPacked c fun m c =>
    if (pmGet m name).isNone then k c else
    sOpenXP fun ok =>
      if !ok then kLocked c else
      -- cache invalidated, re-read under the lock
      sOpenRP fun r =>
        let m2 : PMap := match r with
          | none => []
          | some (_, m) => m
        if (pmGet m2 name).isNone then sRemoveLP fun _ => k Cache.empty
        else sFsyncP fun _ => sReplaceP (pmErase m2 name) fun _ => k Cache.empty

/-- `DiskRefsContainer.remove_if_equals(name, old)` (does not follow symrefs) -/
def removeIfEquals (vr : Variant) (name : Ref) (old : Option (Option Val)) (c : Cache)
    (k : Outcome → Cache → Prog) : Prog :=
  sOpenX name fun ok =>
    if !ok then k (.exc .locked) c else
    let fail (c : Cache) : Prog := sRemoveL name fun _ => k (.exc .locked) c
    let finish (c : Cache) : Prog := sRemoveL name fun _ => k (.bool true) c
    let rmLoose (c : Cache) (kk : Prog) : Prog :=
      sLstatR name fun found =>
        if found then
          -- `os.remove(filename)`: FileNotFoundError is not caught (the file can vanish: add_packed_refs can
          -- remove loose files without holding the ref lock)
          sRemoveR name fun ok => if ok then kk else sRemoveL name fun _ => k (.exc .notfound) c
        else kk
    let body (c : Cache) : Prog :=
      if vr.rmLooseFirst then rmLoose c (removePacked name c fail finish)     -- lexists; remove loose; packed entry
      else
        -- lexists; packed entry; remove loose (if it was found)
        sLstatR name fun found =>
          removePacked name c fail fun c =>
            if found then
              sStatR name fun _ =>                   -- `os.path.isdir(filename)`: a ref file (or nothing) is not one
              sRemoveR name fun ok => if ok then finish c else sRemoveL name fun _ => k (.exc .notfound) c
            else finish c
    match old with
    | none => body c
    | some o =>
      sOpenR name fun orig =>
        match orig with
        | some v => if some v = o then body c else sRemoveL name fun _ => k (.bool false) c
        | none => getPacked c fun m c =>
            if (pmGet m name).map Val.sha = o then body c else sRemoveL name fun _ => k (.bool false) c

/-- `DiskRefsContainer.set_symbolic_ref(name, other)` -/
def setSymbolicRef (name other : Ref) (c : Cache) (k : Outcome → Cache → Prog) : Prog :=
  getPacked c fun _ c =>                             -- `_check_packed_conflict(name)`
  sOpenX name fun ok =>
    if !ok then k (.exc .locked) c else
    follow name c fun _ c =>                         -- only for the reflog entry; a SymrefLoop is tolerated
      sFsyncL name fun _ => sReplaceL name (.sym other) fun _ => k .unit c

/-- remove the loose files of `rs` one after the other (errors suppressed) -/
def removeLooseAll : List Ref → Prog → Prog
  | [], k => k
  | r :: rs, k => sRemoveR r fun _ => removeLooseAll rs k

/-- the loose files of the refs just written to packed-refs, one after the other: with `recheck`
(`prune_only_if_unchanged`) and a target, `_prune_loose_ref` — take `<ref>.lock` (skip the ref when it is busy),
re-read the loose file, unlink it only if it still holds the packed value, release the lock; otherwise an
unconditional `os.remove` (errors suppressed) -/
def pruneLoose (recheck : Bool) : List (Ref × Option Sha) → Prog → Prog
  | [], k => k
  | (r, some s) :: rest, k =>
    if recheck then
      sOpenX r fun ok =>
        if !ok then pruneLoose recheck rest k else
        sOpenR r fun v =>
          if v = some (Val.sha s) then sRemoveR r fun _ => sRemoveL r fun _ => pruneLoose recheck rest k
          else sRemoveL r fun _ => pruneLoose recheck rest k
    else sRemoveR r fun _ => pruneLoose recheck rest k
  | (r, none) :: rest, k => sRemoveR r fun _ => pruneLoose recheck rest k

/-- `DiskRefsContainer.add_packed_refs(new, prune_only_if_unchanged=recheck)` for a non-empty mapping
(name ↦ sha, or `none` = remove the ref) -/
def addPackedRefs (vr : Variant) (recheck : Bool) (new : List (Ref × Option Sha)) (c : Cache)
    (k : Outcome → Cache → Prog) : Prog :=
  sOpenXP fun ok =>
    if !ok then k (.exc .locked) Cache.empty else
    getPacked c fun m _ =>
      let m' := new.foldl (fun acc e => match e.2 with
        | some s => pmSet acc e.1 s
        | none => pmErase acc e.1) m
      if vr.packRemovesLooseFirst then
        removeLooseAll (new.map (·.1)) (sFsyncP fun _ => sReplaceP m' fun _ => k .unit Cache.empty)
      else
        sFsyncP fun _ => sReplaceP m' fun _ => pruneLoose recheck new (k .unit Cache.empty)

/-- `DiskRefsContainer.allkeys()` (HEAD, loose refs in refs/heads, packed names), in set order -/
def allKeys (env : Env) (c : Cache) (k : List Ref → Cache → Prog) : Prog :=
  sStatR 0 fun headExists =>
    sScan fun ls =>
      getPacked c fun m c =>
        k (env.order.filter fun r => (r == 0 && headExists) || ls.contains r || (pmGet m r).isSome) c

/-- `pack_refs`: `read_ref` every name in turn (no symref following); symbolic and broken refs stay loose -/
def readAll : List Ref → List (Ref × Sha) → Cache → (List (Ref × Sha) → Cache → Prog) → Prog
  | [], acc, c, k => k acc.reverse c
  | r :: rs, acc, c, k =>
    readRef r c fun v c =>
      match v with
      | some (.sha s) => readAll rs ((r, s) :: acc) c k
      | _ => readAll rs acc c k

/-- `DiskRefsContainer.pack_refs(all=True)` -/
def packRefs (env : Env) (vr : Variant) (c : Cache) (k : Outcome → Cache → Prog) : Prog :=
  allKeys env c fun ks c =>
    readAll (ks.filter (· != 0)) [] c fun new c =>
      match new with
      | [] => k .unit c
      | new => addPackedRefs vr vr.packRecheck (new.map fun e => (e.1, some e.2)) c k

/-- `as_dict()`: SymrefLoop and KeyError are both skipped -/
def resolveAllLenient : List Ref → List (Ref × Sha) → Cache → (List (Ref × Sha) → Cache → Prog) → Prog
  | [], acc, c, k => k acc.reverse c
  | r :: rs, acc, c, k =>
    getItem r c fun res c =>
      match res with
      | .ok s => resolveAllLenient rs ((r, s) :: acc) c k
      | .error _ => resolveAllLenient rs acc c k

def insertSorted (e : Ref × Val) : List (Ref × Val) → List (Ref × Val)
  | [] => [e]
  | x :: xs => if e.1 ≤ x.1 then e :: x :: xs else x :: insertSorted e xs

def sortDict (l : List (Ref × Val)) : List (Ref × Val) := l.foldr insertSorted []

def insertNat (e : Nat) : List Nat → List Nat
  | [] => [e]
  | x :: xs => if e ≤ x then e :: x :: xs else x :: insertNat e xs

def sortNat (l : List Nat) : List Nat := l.foldr insertNat []

def asDict (env : Env) (c : Cache) (k : Outcome → Cache → Prog) : Prog :=
  allKeys env c fun ks c =>
    resolveAllLenient ks [] c fun d c => k (.dict (sortDict (d.map fun e => (e.1, Val.sha e.2)))) c

def keysOp (env : Env) (c : Cache) (k : Outcome → Cache → Prog) : Prog :=
  allKeys env c fun ks c => k (.keys (sortNat ks)) c

/-- `WorkTree.commit(ref=…)` reduced to its ref traffic: `reads` reads of the branch head (parents come
from the first, the compare-and-swap uses the last), then `set_if_equals` / `add_if_new`. -/
def commitOp (vr : Variant) (ref : Ref) (cid : Sha) (reads : Nat) (c : Cache)
    (k : Outcome → Cache → Prog) : Prog :=
  getItem ref c fun first c =>
    match first with
    | .error .symloop => k (.exc .symloop) c
    | _ =>
    let parent1 : Option Sha := match first with
      | .ok s => some s
      | .error _ => none
    let finish (last : Except Exc Sha) (c : Cache) : Prog :=
      match last with
      | .error .symloop => k (.exc .symloop) c
      | .ok oldHead =>
        setIfEquals ref (some (some (.sha oldHead))) (.sha cid) c fun o c =>
          match o with
          | .bool true => k (.committed cid parent1) c
          | .bool false => k (.exc .commit) c
          | o => k o c
      | .error _ =>
        -- second read raised KeyError: parents reset, add_if_new
        addIfNew vr ref (.sha cid) c fun o c =>
          match o with
          | .bool true => k (.committed cid none) c
          | .bool false => k (.exc .commit) c
          | o => k o c
    if reads ≤ 1 then finish first c else getItem ref c finish

/-! ## Operations, actors, configurations -/

inductive Op where
  | read (r : Ref)                                   -- read_ref (no symref following)
  | get (name : Ref)                                 -- refs[name]
  | cas (name : Ref) (old : Option (Option Val)) (new : Val)
  | add (name : Ref) (v : Val)
  | rm (name : Ref) (old : Option (Option Val))
  | symref (name other : Ref)
  | pack
  | unpack (r : Ref)                                  -- add_packed_refs({r: None}): remove the ref
  | list
  | keys
  | commit (ref : Ref) (cid : Sha)                   -- WorkTree.commit protocol as coded
  | commit1 (ref : Ref) (cid : Sha)                  -- single-read protocol (MemoryRepo.do_commit shape)
  deriving DecidableEq, Repr

def compile (env : Env) (vr : Variant) (op : Op) (c : Cache) : Prog :=
  let k : Outcome → Cache → Prog := fun o c => .ret o c
  match op with
  | .read r => readRef r c fun v c => k (.val v) c
  | .get name => getItem name c fun res c =>
      match res with
      | .ok s => k (.val (some (.sha s))) c
      | .error .key => k (.val none) c
      | .error e => k (.exc e) c
  | .cas name old new => setIfEquals name old new c k
  | .add name v => addIfNew vr name v c k
  | .rm name old => removeIfEquals vr name old c k
  | .symref name other => setSymbolicRef name other c k
  | .pack => packRefs env vr c k
  | .unpack r => addPackedRefs vr false [(r, none)] c k
  | .list => asDict env c k
  | .keys => keysOp env c k
  | .commit ref cid => commitOp vr ref cid vr.commitReads c k
  | .commit1 ref cid => commitOp vr ref cid 1 c k

structure ActorSt where
  prog : Prog
  todo : List Op
  outs : List Outcome          -- outcomes of the completed operations, oldest first

structure Config where
  fs : FS
  actors : List ActorSt

/-- When an operation has returned, record its outcome and start the next one with the same cache. -/
def settle (env : Env) (vr : Variant) : List Op → Prog → List Outcome → ActorSt
  | [], p, outs =>
    match p with
    | .ret o c => { prog := .ret o c, todo := [], outs := outs ++ [o] }
    | .call c k => { prog := .call c k, todo := [], outs := outs }
  | op :: rest, p, outs =>
    match p with
    | .ret o c => settle env vr rest (compile env vr op c) (outs ++ [o])
    | .call c k => { prog := .call c k, todo := op :: rest, outs := outs }

/-- an actor that has not been released yet -/
def ActorSt.init (env : Env) (vr : Variant) (ops : List Op) : ActorSt :=
  match ops with
  | [] => { prog := .ret .unit Cache.empty, todo := [], outs := [] }
  | op :: rest => { prog := sStart fun _ => compile env vr op Cache.empty, todo := rest, outs := [] }

def ActorSt.finished (st : ActorSt) : Bool :=
  match st.prog with
  | .ret _ _ => true
  | .call _ _ => false

/-- One step of actor `a` = its pending system call.  `none` when the actor does not exist or has finished. -/
def step (env : Env) (vr : Variant) (cfg : Config) (a : Actor) : Option (Config × Call) :=
  match cfg.actors[a]? with
  | none => none
  | some st =>
    match st.prog with
    | .ret _ _ => none
    | .call c k =>
      let (fs', res) := exec env cfg.fs a c
      let st' := settle env vr st.todo (k res) st.outs
      some ({ fs := fs', actors := cfg.actors.set a st' }, c)

/-- Follow a schedule the way `harness/sched.py` does: entries naming a finished actor are skipped. -/
def runSched (env : Env) (vr : Variant) (cfg : Config) : List Actor → Config
  | [] => cfg
  | a :: rest =>
    match step env vr cfg a with
    | some (cfg', _) => runSched env vr cfg' rest
    | none => runSched env vr cfg rest

def FS.init (loose : Ref → Option Val) (packed : Option PMap) : FS :=
  { loose := loose, lock := fun _ => none, packed := packed.map fun m => (0, m), plock := none, nextVer := 1 }

def Config.init (env : Env) (vr : Variant) (fs : FS) (progs : List (List Op)) : Config :=
  { fs := fs, actors := progs.map (ActorSt.init env vr) }

def Config.outs (cfg : Config) (a : Actor) : List Outcome :=
  match cfg.actors[a]? with
  | some st => st.outs
  | none => []

/-! ## The specification: a map from ref names to values, one operation at a time

`specVal` is the map specification restricted to the one ref an operation acts on; a sequential history is a list
of events (actor, operation, returned result) and `specRun` replays it on a map: every event must return what
`specVal` says and changes its ref as `specVal` says; an operation that raised (a loser) changes nothing. -/

def Op.target : Op → Ref
  | .read r => r
  | .get r => r
  | .cas n _ _ => n
  | .add n _ => n
  | .rm n _ => n
  | .symref n _ => n
  | .unpack r => r
  | .commit r _ => r
  | .commit1 r _ => r
  | _ => 0

/-- a loose value that is not a symbolic ref -/
def IsSha : Option Val → Prop
  | some (.sym _) => False
  | _ => True

/-- the operations of the loose fragment: direct reads, conditional/unconditional set, create, delete, all
writing object ids -/
def LooseOp : Op → Prop
  | .read _ => True
  | .cas _ _ (.sha _) => True
  | .add _ (.sha _) => True
  | .rm _ _ => True
  | _ => False

/-- The map specification restricted to the one ref an operation acts on: (new value, result). -/
def specVal : Op → Option Val → Option Val × Outcome
  | .read _, x => (x, .val x)
  | .cas _ none new, _ => (some new, .bool true)
  | .cas _ (some o) new, x => if x = o then (some new, .bool true) else (x, .bool false)
  | .add _ v, x => if x.isSome then (x, .bool false) else (some v, .bool true)
  | .rm _ none, _ => (none, .bool true)
  | .rm _ (some o), x => if x = o then (none, .bool true) else (x, .bool false)
  | _, x => (x, .unit)

structure LinEv where
  actor : Actor
  op : Op
  out : Outcome

def Outcome.isExc : Outcome → Bool
  | .exc _ => true
  | _ => false

/-- One event of the sequential history: a loser (exception) has no effect; otherwise the operation must return
what the specification says and the ref takes the specified value. -/
def specStep (m : Ref → Option Val) (e : LinEv) : Option (Ref → Option Val) :=
  if e.out.isExc then some m
  else if (specVal e.op (m e.op.target)).2 = e.out then
    some (upd m e.op.target (specVal e.op (m e.op.target)).1)
  else none

def specRun (m : Ref → Option Val) : List LinEv → Option (Ref → Option Val)
  | [] => some m
  | e :: es =>
    match specStep m e with
    | some m' => specRun m' es
    | none => none

/-! ## The commit protocol over an atomic compare-and-swap register

One branch as a register holding an optional commit id.  Every access is one atomic step: this is what
`MemoryRepo.do_commit` sees of `DictRefsContainer` (whose methods make no system call), and it is the abstraction
of the disk protocol that `cas_linearizable_loose` justifies.  An actor reads the head `reads` times (parents
come from the first read, the swap is conditioned on the last — `WorkTree.commit` before fix 7e0c6ae has
`reads = 2`; since then it has `reads = 1`, as `MemoryRepo.do_commit`), then swaps. -/
namespace Proto

inductive PC where
  | start                                   -- nothing read yet
  | read1 (p : Option Sha)                  -- parents chosen from the first read; a second read follows
  | ready (parent old : Option Sha)         -- commit object built with `parent`; about to swap `old → cid`
  | done (ok : Bool) (parent : Option Sha)  -- returned the commit id / raised CommitError
  deriving DecidableEq, Repr

structure PActor where
  cid : Sha
  pc : PC
  deriving DecidableEq, Repr

structure PState where
  reg : Option Sha
  actors : List PActor
  /-- successful swaps, newest first: (commit id, parent recorded in the commit object) -/
  log : List (Sha × Option Sha)
  deriving DecidableEq, Repr

inductive PEvent where
  | read | cas (ok : Bool) | add (ok : Bool)
  deriving DecidableEq, Repr

def pstep (reads : Nat) (s : PState) (a : Nat) : Option (PState × PEvent) :=
  match s.actors[a]? with
  | none => none
  | some st =>
    let put (pc : PC) : List PActor := s.actors.set a { st with pc := pc }
    match st.pc with
    | .start =>
      if reads ≤ 1 then some ({ s with actors := put (.ready s.reg s.reg) }, .read)
      else some ({ s with actors := put (.read1 s.reg) }, .read)
    | .read1 p =>
      -- second read; KeyError (no head) resets the parents and falls back to add_if_new
      match s.reg with
      | none => some ({ s with actors := put (.ready none none) }, .read)
      | some v => some ({ s with actors := put (.ready p (some v)) }, .read)
    | .ready parent old =>
      let ev : Bool → PEvent := fun ok => if old.isSome then .cas ok else .add ok
      if s.reg = old then
        some ({ reg := some st.cid, actors := put (.done true parent), log := (st.cid, parent) :: s.log }, ev true)
      else some ({ s with actors := put (.done false parent) }, ev false)
    | .done _ _ => none

def prun (reads : Nat) (s : PState) : List Nat → PState
  | [] => s
  | a :: rest =>
    match pstep reads s a with
    | some (s', _) => prun reads s' rest
    | none => prun reads s rest

def PState.init (reg : Option Sha) (cids : List Sha) : PState :=
  { reg := reg, actors := cids.map fun c => { cid := c, pc := .start }, log := [] }

end Proto

end Dulwich.RefsFS
