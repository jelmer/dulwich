/- `DecidableEq (Except ε α)`, which core Lean does not declare: the `decide`d witnesses and examples on
   `Except`-valued results (Props/C03, C05, C06, C11, C14, C18) need it.  Core Lean only. -/
deriving instance DecidableEq for Except
