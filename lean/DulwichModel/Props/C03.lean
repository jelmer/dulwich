/-
  C03 — Delta codec: apply(create(base,target),base) = target; bad deltas fail cleanly.

  The model is Model/Delta.lean; its loop bounds and limits come from
  Gen/Delta.lean, which the translator regenerates from /repo on every run.
-/
import DulwichModel.Lemmas.Delta
import DulwichModel.Lemmas.ExceptEq
-- No proof needs this import.  The statements of this file, of Props/C02 and of Props/C15 (which import it) were written with
-- it in scope and are kept as they elaborate with it: `2 ^ k` in them reads through ℕ's monoid structure (`Monoid.toNPow`),
-- while the Lemmas files have core's `Nat.pow`.  The two agree by unfolding the instance: `exact` and `omega` take a bound
-- across as it is, `rw`/`simp only` with a Lemmas-side `2 ^ k` do not match it.
import Mathlib.Algebra.Group.Nat.Defs

namespace Dulwich.Props.C03
open Dulwich Dulwich.Delta

theorem size_roundtrip (n : Nat) (rest : Bytes) :
    decodeSize (encodeSize n ++ rest) = some (n, rest) := by
  unfold decodeSize
  rw [decodeSizeAux_encodeSize]
  simp

/-- **apply ∘ create = id.**  For every base of at most 4 GiB and *every* opcode list whose copy
blocks lie inside the base and whose literal blocks are non-empty (difflib's, `similar`'s, git's —
any matcher whatsoever), the Python decoder applied to the emitted delta returns exactly the bytes
the opcode list denotes.  With `opsTarget base ops = target` (checked at run time on every opcode
list the real libraries return) this is `apply_delta(base, create_delta(base, target)) = target`. -/
theorem apply_create (base : Bytes) (ops : List Op)
    (hv : OpsValid base ops) (h32 : base.length ≤ 2 ^ 32)
    (hins : ∀ d, Op.insert d ∈ ops → 0 < d.length) :
    applyDelta base (createDelta base ops) = .ok (opsTarget base ops) := by
  unfold applyDelta createDelta
  rw [List.append_assoc, size_roundtrip]
  simp only
  rw [size_roundtrip]
  simp only [ne_eq, not_true_eq_false, if_false]
  exact apply_emitOps base _ ops [] hv h32 hins (Nat.zero_add _)

example : OpsValid [1, 2, 3, 4, 5] [.copy 1 3, .insert [9, 9], .copy 0 5] ∧
    applyDelta [1, 2, 3, 4, 5] (createDelta [1, 2, 3, 4, 5] [.copy 1 3, .insert [9, 9], .copy 0 5])
      = .ok [2, 3, 4, 9, 9, 1, 2, 3, 4, 5] := by
  refine ⟨by simp [OpsValid], ?_⟩
  rw [apply_create _ _ (by simp [OpsValid]) (by simp) (by simp)]
  simp [opsTarget]

/-- **Bad deltas fail cleanly (Python decoder).**  Whenever `applyDelta` (a total function on all pairs of
byte strings) returns output, the output has exactly the length the delta declares and consists only of
slices of the base and of literal bytes of the delta.  Every other outcome is the delta error: `apply_error_is_delta`. -/
theorem apply_sized_built (base delta out : Bytes) (h : applyDelta base delta = .ok out) :
    declaredDest delta = some out.length ∧ Built base delta out := by
  rcases applyDelta_runOk base delta with ⟨_, he⟩ | ⟨D, hD, hr⟩
  · rw [he] at h; cases h
  · rw [h] at hr
    exact ⟨by rw [hD, hr.1], hr.2.2 Built.nil⟩

/-- The only failure of the Python decoder is the delta error (never `other`: the fuel never runs out). -/
theorem apply_error_is_delta (base delta : Bytes) (e : Err) (h : applyDelta base delta = .error e) :
    e = .delta := by
  rcases applyDelta_runOk base delta with ⟨_, he⟩ | ⟨D, _, hr⟩
  · rw [he] at h; cases h; rfl
  · rwa [h] at hr

/-- **Rust ≡ Python for delta application** (the C15 clause for `apply_delta`).
For every base a 64-bit machine can hold and every byte string offered as a delta whose declared
result size is below 2^64 (a larger result cannot exist either), the Rust decoder as coded returns
exactly what the Python decoder returns: the same bytes, or the delta error in both. -/
theorem rs_equiv_py (src delta : Bytes) (hs : src.length < 2 ^ 64)
    (hd : ∀ n, declaredDest delta = some n → n < 2 ^ 64) :
    applyDeltaRs src delta = applyDelta src delta := by
  unfold applyDeltaRs applyDelta decodeSize
  unfold declaredDest decodeSize at hd
  rcases rsDecodeSizeAux_cases delta 0 0 with h1 | ⟨h1, n1, d1, hp1, hbig⟩
  · rw [h1]
    cases hp1 : decodeSizeAux 0 0 delta with
    | none => rfl
    | some p =>
      obtain ⟨n1, d1⟩ := p
      simp only [hp1] at hd ⊢
      by_cases hne : n1 ≠ src.length
      · rw [if_pos hne]
        cases decodeSizeAux 0 0 d1 with
        | none => rfl
        | some p2 => exact (if_pos hne).symm
      · rw [if_neg hne]
        rcases rsDecodeSizeAux_cases d1 0 0 with h2 | ⟨h2, n2, d2, hp2, hbig⟩
        · rw [h2]
          cases hp2 : decodeSizeAux 0 0 d1 with
          | none => rfl
          | some p2 =>
            simp only [if_neg hne]
            rw [← rsLoop_eq_pyLoop src p2.1 p2.2.length p2.2 [] (Nat.le_refl _)]
            cases rsApplyLoop src p2.1 p2.2.length p2.2 [] <;> rfl
        · have := hd n2 (by rw [hp2]; rfl)
          omega
  · -- Rust rejects the source size; Python compares it with `src.length` and rejects it too
    rw [h1, hp1]
    simp only
    cases decodeSizeAux 0 0 d1 with
    | none => rfl
    | some p2 => exact (if_pos (by omega)).symm

/-- Non-vacuity: both decoders on a delta with a copy and an insert. -/
example : applyDeltaRs [1, 2, 3] [3, 4, 0x91, 1, 2, 2, 7, 8] = .ok [2, 3, 7, 8] ∧
    applyDelta [1, 2, 3] [3, 4, 0x91, 1, 2, 2, 7, 8] = .ok [2, 3, 7, 8] := by decide +kernel

/-- Regression witnesses for two Rust defects that KNOWN_FINDINGS.jsonl records as `fixed`:
an 11-byte size varint and a last opcode that overflows the declared size are plain delta errors. -/
theorem rs_wide_varint_is_error :
    applyDeltaRs [] [0x80, 0x80, 0x80, 0x80, 0x80, 0x80, 0x80, 0x80, 0x80, 0x80, 0x01, 0x00] = .error .delta := by
  decide +kernel

theorem rs_last_op_overflow_is_error :
    applyDeltaRs [] [0x00, 0x00, 0x05] = .error .delta ∧
    applyDeltaRs [0x78] [1, 5, 5, 97, 98, 99, 100, 101, 0x90, 1] = .error .delta := by
  decide +kernel

end Dulwich.Props.C03

