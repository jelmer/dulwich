/- Three-way lexicographic comparison (Rust's `Ord::cmp` on byte slices).  Model/ObjectsTree.lean and Model/RsPy.lean
   each have a `cmpBytes`, by the same recursion with the byte test written two ways, and each models Rust's
   `cmp_with_suffix`, which compares the common-length prefixes of two names and, if these are equal, the rests with
   a suffix chained on.  `take_drop` says that this is the comparison of the whole texts, whatever the length of the
   prefixes.  Stated for any function `cmp` with the two defining equations that matter (`rfl` for both copies).
   Core Lean only. -/

namespace Dulwich.LexCmp

section
variable {α : Type} {lt : α → α → Prop} [DecidableRel lt] {cmp : List α → List α → Ordering}
  (hnil : cmp [] [] = .eq)
  (hcons : ∀ a as b bs, cmp (a :: as) (b :: bs) = if lt a b then .lt else if lt b a then .gt else cmp as bs)
include hnil hcons

theorem append {p p' : List α} (u v : List α) (h : p.length = p'.length) :
    cmp (p ++ u) (p' ++ v) = if cmp p p' = .eq then cmp u v else cmp p p' := by
  induction p generalizing p' with
  | nil =>
    cases p' with
    | nil => rw [hnil, if_pos rfl]; rfl
    | cons => cases h
  | cons a p ih =>
    cases p' with
    | nil => cases h
    | cons b p' =>
      rw [List.cons_append, List.cons_append, hcons, hcons]
      by_cases h1 : lt a b
      · simp [h1]
      · by_cases h2 : lt b a
        · simp [h1, h2]
        · simp only [h1, h2, if_false]
          exact ih (Nat.succ.inj h)

theorem take_drop {a b : List α} (sa sb : List α) {n : Nat} (ha : n ≤ a.length) (hb : n ≤ b.length) :
    (if cmp (a.take n) (b.take n) = .eq then cmp (a.drop n ++ sa) (b.drop n ++ sb) else cmp (a.take n) (b.take n)) =
      cmp (a ++ sa) (b ++ sb) := by
  rw [← append hnil hcons _ _ (by rw [List.length_take_of_le ha, List.length_take_of_le hb]), ← List.append_assoc,
    ← List.append_assoc, List.take_append_drop, List.take_append_drop]

end

/-! The two-way form, `bytes.__lt__`: Model/Index.lean and Model/PackIndex.lean (and, with no lemma about them yet,
Model/Ingest.lean and Model/PackedRefs.lean) each have a `bytesLt`, the byte test written `a < b` or
`a.toNat < b.toNat` (`hlt`).  It is core's lexicographic `<` on `List UInt8`, whose laws (`List.lt_trans`,
`List.lt_asymm`, `List.not_lt`, …) then serve. -/

theorem ltB_iff_lt {ltB : List UInt8 → List UInt8 → Bool} {lt : UInt8 → UInt8 → Prop} [DecidableRel lt]
    (hlt : ∀ x y, lt x y ↔ x < y) (hnn : ltB [] [] = false) (hnc : ∀ b bs, ltB [] (b :: bs) = true)
    (hcn : ∀ a as, ltB (a :: as) [] = false)
    (hcc : ∀ a as b bs, ltB (a :: as) (b :: bs) = if lt a b then true else if lt b a then false else ltB as bs)
    {a b : List UInt8} : ltB a b = true ↔ a < b := by
  induction a generalizing b with
  | nil => cases b <;> simp [hnn, hnc]
  | cons x as ih =>
    cases b with
    | nil => simp [hcn]
    | cons y bs =>
      rw [hcc, List.cons_lt_cons_iff, ← ih]
      simp only [hlt]
      by_cases h1 : x < y
      · simp [h1]
      · by_cases h2 : y < x
        · simp [h1, h2, (UInt8.ne_of_lt h2).symm]
        · simp [UInt8.le_antisymm (UInt8.not_lt.mp h2) (UInt8.not_lt.mp h1)]

end Dulwich.LexCmp
