/- Core's `List.lookup` read as a statement about the list: what it finds is a pair of the list, and it finds
   something for every key of the list.  Used for the tag map and the stores of Lemmas/Missing.lean, for the status list
   a push is answered with (Lemmas/ReceivePack.lean, Props/C06.lean) and for the loose objects of Lemmas/GC.lean.
   Core Lean only. -/

namespace Dulwich.Assoc

variable {κ ν : Type} [BEq κ] [LawfulBEq κ] {l : List (κ × ν)} {k : κ}

theorem mem_of_lookup {v : ν} (h : l.lookup k = some v) : (k, v) ∈ l := by
  obtain ⟨l₁, l₂, rfl, _⟩ := List.lookup_eq_some_iff.mp h
  exact List.mem_append_right l₁ (.head l₂)

theorem lookup_of_mem_keys (h : k ∈ l.map (·.1)) : ∃ v, l.lookup k = some v ∧ (k, v) ∈ l := by
  obtain ⟨p, hp, rfl⟩ := List.mem_map.mp h
  obtain ⟨v, hv⟩ := Option.isSome_iff_exists.mp (List.lookup_isSome_iff.mpr ⟨p, hp, beq_self_eq_true _⟩)
  exact ⟨v, hv, mem_of_lookup hv⟩

end Dulwich.Assoc
