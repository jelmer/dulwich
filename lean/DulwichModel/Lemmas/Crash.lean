/-
  Helper lemmas for C09: soundness of the checker of Model/Crash.lean.  What finite knowledge `K` tells about
  every file system that `Agrees` with it; what each clause of `safeStep` yields; the invariant `Inv`, kept by an
  accepted step (`inv_step`), hence by every prefix of an accepted program (`go_sound`) and of its recorded re-runs
  after a crash (`retry_sound`).  Last the closed world, where a listing IS the state (`toFS`): the recorded start
  states satisfy `Pre` (`pre_of_preK`), and the means by which Props/C09 refutes `Recoverable` on such a state.
-/
import DulwichModel.Model.Crash

namespace Dulwich.Crash

variable {spec : Spec} {G GP : Nat → List Nat} {s0 s : FS} {K0 K K' : Known}

/-! ### finite knowledge vs. the real file system -/

theorem lk_cons (q : Path) (c : Option Content) (K : Known) (p : Path) :
    lk ((q, c) :: K) p = if q = p then some c else lk K p := rfl

theorem upd_ne {p q : Path} {c : Option Content} (h : q ≠ p) : upd s p c q = s q := if_neg h

theorem agrees_upd (h : Agrees s K) (p : Path) (c : Option Content) :
    Agrees (upd s p c) ((p, c) :: K) := by
  intro q d hq
  rw [lk_cons] at hq
  by_cases e : p = q
  · subst e
    rw [if_pos rfl] at hq
    exact (if_pos rfl).trans (Option.some.inj hq)
  · rw [if_neg e] at hq
    exact (upd_ne (Ne.symm e)).trans (h q d hq)

theorem step_frame (c : Call) (s : FS) (p : Path) (h : p ∉ touched c) : step c s p = s p := by
  cases c with
  | rename a b =>
    have ⟨ha, hb⟩ : p ≠ a ∧ p ≠ b := by
      simpa only [touched, List.mem_cons, List.not_mem_nil, or_false, not_or] using h
    simp only [step]
    cases s a with
    | none => rfl
    | some d => exact (upd_ne hb).trans (upd_ne ha)
  | skip o ev => rfl
  | _ => exact upd_ne (by simpa only [touched, List.mem_singleton] using h)

/-- A pack is read through its two files (`Vis`, `PairedAt`). -/
theorem pair_frame (c : Call) (s : FS) (p : Nat) :
    (∃ t ∈ touched c, t = .pack p ∨ t = .idx p) ∨
      step c s (.pack p) = s (.pack p) ∧ step c s (.idx p) = s (.idx p) := by
  by_cases h1 : Path.pack p ∈ touched c
  · exact .inl ⟨_, h1, .inl rfl⟩
  · by_cases h2 : Path.idx p ∈ touched c
    · exact .inl ⟨_, h2, .inr rfl⟩
    · exact .inr ⟨step_frame c s _ h1, step_frame c s _ h2⟩

theorem shal_frame (c : Call) (s : FS) (h : Path.shallow ∉ touched c) : shal (step c s) = shal s :=
  congrArg shalOf (step_frame c s _ h)

theorem stepK_agrees {c : Call} (h : Agrees s K) (hk : stepK c K = some K') :
    Agrees (step c s) K' := by
  cases c with
  | rename a b =>
    simp only [stepK] at hk
    split at hk
    · rename_i d hd
      cases hk
      simp only [step, h a _ hd]
      exact agrees_upd (agrees_upd h a none) b (some d)
    · cases hk
  | skip o ev => cases hk; exact h
  | _ => cases hk; exact agrees_upd h _ _

theorem packObjsK_sound (h : Agrees s K) {p : Nat} {objs : List Nat}
    (hp : packObjsK K p = some objs) :
    ∃ k, s (.pack p) = some (.packData k) ∧ s (.idx p) = some (.idxData k objs) := by
  unfold packObjsK at hp
  split at hp
  · rename_i k k' objs' h1 h2
    split at hp
    · cases hp
      exact ⟨k, h _ _ h1, ‹k = k'› ▸ h _ _ h2⟩
    · cases hp
  · cases hp

theorem visK_sound (h : Agrees s K) {o : Nat} (hv : visK K o = true) :
    Vis s o := by
  unfold visK at hv
  rcases (Bool.or_eq_true _ _).mp hv with hv | hv
  · split at hv
    · rename_i o' hl
      cases beq_iff_eq.mp hv
      exact .inl (h _ _ hl)
    · cases hv
  · obtain ⟨e, _, he⟩ := List.any_eq_true.mp hv
    split at he
    · rename_i p _
      split at he
      · rename_i objs hp
        obtain ⟨k, h1, h2⟩ := packObjsK_sound h hp
        exact .inr ⟨p, k, objs, h1, h2, List.contains_iff_mem.mp he⟩
      · cases he
    · cases he

theorem rawRefK_sound (h : Agrees s K) {r : Nat} {v : Option RefV}
    (hr : rawRefK K r = some v) : rawRef s r = v := by
  unfold rawRefK at hr
  unfold rawRef
  split at hr
  · rename_i c hc
    cases hr
    rw [h _ _ hc]
  · rename_i hc
    rw [h _ _ hc]
    split at hr
    · rename_i pc hpc
      cases hr
      rw [h _ _ hpc]
    · cases hr
  · cases hr

theorem shalK_sound (h : Agrees s K) {S : List Nat} (hs : shalK K = some S) :
    shal s = S := by
  obtain ⟨c, hl, rfl⟩ := Option.map_eq_some_iff.mp hs
  exact congrArg shalOf (h _ _ hl)

/-! ### closures and the shallow set -/

theorem nodeOK_sound {edges : List (Nat × List Nat × List Nat)} {S c : List Nat} {o : Nat}
    (h : nodeOK edges S c o = true) :
    ∃ ds ps, edges.lookup o = some (ds, ps) ∧ (∀ d ∈ ds, d ∈ c) ∧ (o ∈ S ∨ ∀ p ∈ ps, p ∈ c) := by
  unfold nodeOK at h
  split at h
  · simp only [Bool.and_eq_true, Bool.or_eq_true, List.all_eq_true, List.contains_iff_mem] at h
    exact ⟨_, _, ‹_›, h⟩
  · cases h

theorem reach_mem_of_closed {edges : List (Nat × List Nat × List Nat)} {S c : List Nat}
    (hg : ∀ o ds ps, edges.lookup o = some (ds, ps) → G o = ds ∧ GP o = ps)
    (hall : ∀ x ∈ c, nodeOK edges S c x = true)
    {a o : Nat} (hr : ReachFrom G GP S a o) : a ∈ c → o ∈ c := by
  induction hr with
  | refl a => exact id
  | @dep a b _ hb _ ih =>
    intro ha
    obtain ⟨ds, ps, hl, hd, _⟩ := nodeOK_sound (hall a ha)
    exact ih (hd b ((hg a ds ps hl).1 ▸ hb))
  | @par a b _ hs hb _ ih =>
    intro ha
    obtain ⟨ds, ps, hl, _, hp⟩ := nodeOK_sound (hall a ha)
    exact ih (hp.resolve_left hs b ((hg a ds ps hl).2 ▸ hb))

theorem reach_split {S S' : List Nat} {v o : Nat}
    (h : ReachFrom G GP S' v o) :
    ReachFrom G GP S v o ∨
      ∃ a, a ∈ S ∧ a ∉ S' ∧ ReachFrom G GP S v a ∧ ReachFrom G GP S' a o := by
  induction h with
  | refl a => exact Or.inl (.refl a)
  | @dep a b c hb hr ih =>
    exact ih.imp (.dep hb) fun ⟨x, hx, hx', h1, h2⟩ => ⟨x, hx, hx', .dep hb h1, h2⟩
  | @par a b c hs hb hr ih =>
    by_cases ha : a ∈ S
    · exact Or.inr ⟨a, ha, hs, .refl a, .par hs hb hr⟩
    · exact ih.imp (.par ha hb) fun ⟨x, hx, hx', h1, h2⟩ => ⟨x, hx, hx', .par ha hb h1, h2⟩

theorem closedVis_sound (hg : ∀ o ds ps, spec.edges.lookup o = some (ds, ps) → G o = ds ∧ GP o = ps)
    (h : Agrees s K) {v : Nat} (hc : closedVis spec K v = true) {o : Nat}
    (hr : ReachFrom G GP (shal s) v o) : Vis s o ∧ o ∉ spec.garbage := by
  unfold closedVis at hc
  split at hc
  · rename_i S hS
    rw [shalK_sound h hS] at hr
    simp only [closedOK, Bool.and_eq_true, List.all_eq_true, List.contains_iff_mem] at hc
    have := hc.2 o (reach_mem_of_closed hg hc.1.2 hr hc.1.1)
    exact ⟨visK_sound h this.1, by simpa using this.2⟩
  · cases hc

/-! ### `safeStep` clause by clause -/

/-- What `safeStep` asks of one touched path. -/
structure PathOK (spec : Spec) (K0 K K' : Known) (t : Path) : Prop where
  typed : typedOK K' t = true
  objs : objsOK spec K K' t = true
  refs : refsOK spec K0 K K' t = true
  plain : plainOK spec K0 K' t = true
  pair : pairOK K' t = true
  shallow : shallowOK spec K K' t = true

theorem safeStep_iff {c : Call} :
    safeStep spec K0 K K' c = true ↔ skipOK K c = true ∧ ∀ t ∈ touched c, PathOK spec K0 K K' t := by
  simp only [safeStep, Bool.and_eq_true, List.all_eq_true, and_assoc]
  exact and_congr_right fun _ => forall₂_congr fun _ _ =>
    ⟨fun ⟨a, b, c, d, e, f⟩ => ⟨a, b, c, d, e, f⟩, fun h => ⟨h.typed, h.objs, h.refs, h.plain, h.pair, h.shallow⟩⟩

theorem typedOK_sound (h : Agrees s K') {t : Path} (ok : typedOK K' t = true)
    {d : Content} (hd : s t = some d) : typedB t d = true := by
  unfold typedOK at ok
  split at ok
  · rename_i d' hd'
    cases (h _ _ hd').symm.trans hd
    exact ok
  · rename_i hd'
    cases (h _ _ hd').symm.trans hd
  · cases ok

theorem plainOK_sound (h0 : Agrees s0 K0) (h : Agrees s K')
    {n : Nat} (ok : plainOK spec K0 K' (.plain n) = true) : PlainOldOrNew spec s0 s n := by
  simp only [plainOK] at ok
  split at ok
  · rename_i d hd
    rcases (Bool.or_eq_true _ _).mp ok with h1 | h1
    · exact .inl ((h _ _ hd).trans (h0 _ _ (beq_iff_eq.mp h1)).symm)
    · exact .inr ⟨(n, d), List.contains_iff_mem.mp h1, rfl, h _ _ hd⟩
  · cases ok

theorem pairOK_sound (h : Agrees s K') {p : Nat} {t : Path}
    (ht : t = .pack p ∨ t = .idx p) (ok : pairOK K' t = true) : PairedAt s p := by
  intro k k' objs h1 h2
  -- the model's branches for `.pack p` and `.idx p` are the same text
  have e : pairOK K' t = pairOK K' (.pack p) := by rcases ht with rfl | rfl <;> rfl
  rw [e] at ok
  simp only [pairOK] at ok
  split at ok
  · rename_i a b objs' ha hb
    cases (h _ _ ha).symm.trans h1
    cases (h _ _ hb).symm.trans h2
    exact beq_iff_eq.mp ok
  · rename_i a b hnot ha hb
    exact (hnot k k' objs ((h _ _ ha).symm.trans h1) ((h _ _ hb).symm.trans h2)).elim
  · cases ok

theorem shallowOK_sound {s' : FS} (h : Agrees s K) (h' : Agrees s' K')
    (ok : shallowOK spec K K' .shallow = true) {a : Nat} (ha : a ∈ shal s) (ha' : a ∉ shal s') :
    closedVis spec K' a = true := by
  simp only [shallowOK] at ok
  split at ok
  · rename_i Sa Sb hSa hSb
    rw [shalK_sound h hSa] at ha
    rw [shalK_sound h' hSb] at ha'
    exact List.all_eq_true.mp ok a (List.mem_filter.mpr ⟨ha, by simpa using ha'⟩)
  · cases ok

/-! `objsOK`: what a step can make invisible -/

theorem mayLose_pack (hK : Agrees s K) {p k : Nat} {objs l : List Nat} {t : Path}
    (h1 : s (.pack p) = some (.packData k)) (h2 : s (.idx p) = some (.idxData k objs))
    (ht : t = .pack p ∨ t = .idx p) (hl : mayLose K t = some l) : l = objs := by
  have e : mayLose K t = mayLose K (.pack p) := by rcases ht with rfl | rfl <;> rfl  -- as in `pairOK_sound`
  rw [e] at hl
  simp only [mayLose] at hl
  split at hl
  · rename_i a b ha hb
    cases (hK _ _ ha).symm.trans h1
    cases (hK _ _ hb).symm.trans h2
    simpa [packObjsK, ha, hb] using hl.symm
  · cases hl

theorem objsOK_sound {s' : FS} (h' : Agrees s' K') {t : Path} (ok : objsOK spec K K' t = true) {o : Nat}
    (hl : ∀ l, mayLose K t = some l → o ∈ l) : Vis s' o ∨ o ∈ spec.garbage := by
  unfold objsOK at ok
  split at ok
  · rename_i l hl'
    exact ((Bool.or_eq_true _ _).mp (List.all_eq_true.mp ok o (hl l hl'))).imp (visK_sound h')
      List.contains_iff_mem.mp
  · cases ok

theorem vis_step {c : Call} (hK : Agrees s K) (hK' : Agrees (step c s) K')
    (hok : ∀ t ∈ touched c, objsOK spec K K' t = true) {o : Nat} (hv : Vis s o) :
    Vis (step c s) o ∨ o ∈ spec.garbage := by
  rcases hv with hv | ⟨p, k, objs, h1, h2, h3⟩
  · by_cases ht : Path.loose o ∈ touched c
    · exact objsOK_sound hK' (hok _ ht) fun l hl => by cases hl; exact List.mem_singleton_self o
    · exact .inl (.inl ((step_frame c s _ ht).trans hv))
  · rcases pair_frame c s p with ⟨t, ht, htp⟩ | ⟨e1, e2⟩
    · exact objsOK_sound hK' (hok _ ht) fun l hl => mayLose_pack hK h1 h2 htp hl ▸ h3
    · exact .inl (.inr ⟨p, k, objs, e1.trans h1, e2.trans h2, h3⟩)

/-! `refsOK`: which values a step can change -/

theorem packedLk_none {pc : Option Content} {r : Nat} (h : r ∉ keysOf pc) : packedLk pc r = none := by
  unfold packedLk
  split
  · rw [List.lookup_eq_none_iff.mpr fun p hp => bne_iff_ne.mpr fun e => h (List.mem_map.mpr ⟨p, hp, e.symm⟩)]
    rfl
  · rfl

theorem mem_keysOf {pc : Option Content} {r : Nat} {v : RefV} (h : packedLk pc r = some v) : r ∈ keysOf pc :=
  Decidable.byContradiction fun hn => by rw [packedLk_none hn] at h; cases h

theorem refsOK_sound {t : Path} (ok : refsOK spec K0 K K' t = true) {r : Nat}
    (hl : ∀ l, mayChange K K' t = some l → r ∈ l) : refOK spec K0 K K' r = true := by
  unfold refsOK at ok
  split at ok
  · rename_i l hl'
    exact List.all_eq_true.mp ok r (hl l hl')
  · cases ok

theorem refOK_of_changed {c : Call} (hK : Agrees s K) (hK' : Agrees (step c s) K')
    (hok : ∀ t ∈ touched c, refsOK spec K0 K K' t = true) {r : Nat}
    (hne : rawRef (step c s) r ≠ rawRef s r) : refOK spec K0 K K' r = true := by
  by_cases ht : Path.ref r ∈ touched c
  · exact refsOK_sound (hok _ ht) fun l hl => by cases hl; exact List.mem_singleton_self r
  · by_cases hp : Path.packedRefs ∈ touched c
    · refine refsOK_sound (hok _ hp) fun l hl => ?_
      simp only [mayChange] at hl
      split at hl
      · rename_i a b ha hb
        cases hl
        -- a ref that is neither loose nor a key of the old or the new packed-refs reads as before
        refine Decidable.byContradiction fun hnot => hne ?_
        rw [List.mem_append, not_or] at hnot
        unfold rawRef
        rw [step_frame c s _ ht, hK _ _ ha, hK' _ _ hb]
        cases s (.ref r) with
        | some d => rfl
        | none => exact (packedLk_none hnot.2).trans (packedLk_none hnot.1).symm
      · cases hl
    · refine absurd ?_ hne
      unfold rawRef
      rw [step_frame c s _ ht, step_frame c s _ hp]

theorem refOK_sound (h : Agrees s K') {r : Nat} (ok : refOK spec K0 K K' r = true) :
    (rawRefK K r = some (rawRef s r) ∨ rawRefK K0 r = some (rawRef s r) ∨ (r, rawRef s r) ∈ spec.newRefs) ∧
      ∀ v, rawRef s r = some (.sha v) → closedVis spec K' v = true := by
  unfold refOK at ok
  split at ok
  · rename_i v' hv'
    simp only [Bool.and_eq_true, Bool.or_eq_true, beq_iff_eq, List.contains_iff_mem, or_assoc] at ok
    rw [rawRefK_sound h hv']
    exact ⟨ok.1, fun v e => by subst e; exact ok.2⟩
  · cases ok

/-! ### the invariant -/

/-- `Recoverable`, strengthened to be inductive: nothing reachable from a ref is in `spec.garbage`
(the checker lets garbage objects disappear, `objsOK`). -/
structure Inv (spec : Spec) (G GP : Nat → List Nat) (s0 s : FS) : Prop where
  refs : ∀ r, RefOldOrNew spec s0 s r
  kept : ∀ o, Reach G GP s0 o → Vis s o
  cons : ∀ o, Reach G GP s o → Vis s o ∧ o ∉ spec.garbage
  plain : ∀ n, PlainOldOrNew spec s0 s n
  typed : ∀ p c, s p = some c → typedB p c = true
  paired : ∀ p, PairedAt s p

theorem inv_init (hp : Pre spec G GP s) :
    Inv spec G GP s s where
  refs := fun _ => Or.inl rfl
  kept := hp.consistent
  cons := fun o h => ⟨hp.consistent o h, fun hg => hp.garbage o hg h⟩
  plain := fun _ => Or.inl rfl
  typed := hp.typed
  paired := hp.paired

theorem inv_recoverable (h : Inv spec G GP s0 s) : Recoverable spec G GP s0 s :=
  { h with consistent := fun o ho => (h.cons o ho).1 }

theorem inv_step {c : Call} (hp : Pre spec G GP s0) (hK : Agrees s K) (hK' : Agrees (step c s) K')
    (hsafe : safeStep spec spec.known K K' c = true) (h : Inv spec G GP s0 s) :
    Inv spec G GP s0 (step c s) := by
  -- `skipOK` is dropped: a skip changes no file, so no field of `Inv` depends on what it observed
  obtain ⟨-, ok⟩ := safeStep_iff.mp hsafe
  have changed : ∀ r, rawRef (step c s) r ≠ rawRef s r → refOK spec spec.known K K' r = true :=
    fun r => refOK_of_changed hK hK' fun t ht => (ok t ht).refs
  have keepVis : ∀ o, Vis s o → o ∉ spec.garbage → Vis (step c s) o := fun o hv hg =>
    (vis_step hK hK' (fun t ht => (ok t ht).objs) hv).resolve_right hg
  refine ⟨fun r => ?_, fun o ho => keepVis o (h.kept o ho) fun hg => hp.garbage o hg ho, ?_, fun n => ?_,
    fun p d hpd => ?_, fun p => ?_⟩
  · by_cases hne : rawRef (step c s) r = rawRef s r
    · exact (h.refs r).imp hne.trans fun ⟨e, he, h1, h2⟩ => ⟨e, he, h1, hne.trans h2⟩
    · rcases (refOK_sound hK' (changed r hne)).1 with h1 | h1 | h1
      · exact absurd (rawRefK_sound hK h1).symm hne
      · exact .inl (rawRefK_sound hp.agrees h1).symm
      · exact .inr ⟨_, h1, rfl, rfl⟩
  · intro o ⟨r, v, hr, hreach⟩
    by_cases hne : rawRef (step c s) r = rawRef s r
    · have viaOld : ∀ o', ReachFrom G GP (shal s) v o' → Vis (step c s) o' ∧ o' ∉ spec.garbage := by
        intro o' ho'
        have := h.cons o' ⟨r, v, hne ▸ hr, ho'⟩
        exact ⟨keepVis o' this.1 this.2, this.2⟩
      by_cases hsh : Path.shallow ∈ touched c
      · -- the shallow set moved: split the path at the first commit that stopped being a graft point
        rcases reach_split (S := shal s) hreach with h1 | ⟨a, ha, ha', _, h2⟩
        · exact viaOld o h1
        · exact closedVis_sound hp.graph hK' (shallowOK_sound hK hK' (ok _ hsh).shallow ha ha') h2
      · exact viaOld o (shal_frame c s hsh ▸ hreach)
    · exact closedVis_sound hp.graph hK' ((refOK_sound hK' (changed r hne)).2 v hr) hreach
  · by_cases ht : Path.plain n ∈ touched c
    · exact plainOK_sound hp.agrees hK' (ok _ ht).plain
    · unfold PlainOldOrNew
      rw [step_frame c s _ ht]
      exact h.plain n
  · by_cases ht : p ∈ touched c
    · exact typedOK_sound hK' (ok _ ht).typed hpd
    · exact h.typed p d ((step_frame c s _ ht).symm.trans hpd)
  · rcases pair_frame c s p with ⟨t, ht, htp⟩ | ⟨e1, e2⟩
    · exact pairOK_sound hK' htp (ok _ ht).pair
    · exact fun k k' objs h1 h2 => h.paired p k k' objs (e1.symm.trans h1) (e2.symm.trans h2)

theorem go_sound (hp : Pre spec G GP s0) {p : List Call} (hK : Agrees s K) (hi : Inv spec G GP s0 s)
    (hgo : go spec spec.known K p = true) (k : Nat) : Inv spec G GP s0 (run (p.take k) s) := by
  induction p generalizing s K k with
  | nil => simpa [run] using hi
  | cons c cs ih =>
    cases k with
    | zero => exact hi
    | succ k =>
      simp only [go] at hgo
      split at hgo
      · rw [Bool.and_eq_true] at hgo
        have hK' := stepK_agrees hK ‹_›
        exact ih hK' (inv_step hp hK hK' hgo.1 hi) hgo.2 k
      · cases hgo

/-! ### retry after a crash -/

theorem runK_agrees {p : List Call} (h : Agrees s K) (hk : runK p K = some K') : Agrees (run p s) K' := by
  induction p generalizing s K with
  | nil => cases hk; exact h
  | cons c cs ih =>
    simp only [runK] at hk
    split at hk
    · exact ih (stepK_agrees h ‹_›) hk
    · cases hk

theorem retry_sound (hp : Pre spec G GP s0)
    {p : List Call} (hc : checkProgram spec p = true) {qs : List (List Call)}
    (hq : retryOK spec p qs = true) (k j : Nat) :
    Inv spec G GP s0 (run ((qs.getD k []).take j) (run (p.take k) s0)) := by
  have hi := go_sound hp hp.agrees (inv_init hp) hc k
  by_cases hk : k < qs.length
  · unfold retryOK at hq
    rw [List.all_eq_true] at hq
    have := hq k (by simpa using hk)
    split at this
    · rename_i Kk hKk
      exact go_sound hp (runK_agrees hp.agrees hKk) hi this j
    · cases this
  · rw [List.getD_eq_getElem?_getD, List.getElem?_eq_none (Nat.le_of_not_lt hk), Option.getD_none, List.take_nil]
    exact hi

/-! ### closed-world start states -/

theorem agrees_toFS (K : Known) : Agrees (toFS K) K := fun p c h => by simp [toFS, h]

theorem lk_of_toFS {p : Path} {c : Content} (h : toFS K p = some c) : lk K p = some (some c) := by
  unfold toFS at h
  cases hk : lk K p with
  | none => rw [hk] at h; cases h
  | some oc => rw [hk] at h; exact congrArg some h

theorem lk_mem {p : Path} {c : Option Content} (h : lk K p = some c) : (p, c) ∈ K := by
  induction K with
  | nil => cases h
  | cons e K ih =>
    rw [lk_cons] at h
    split at h
    · cases h
      exact ‹e.1 = p› ▸ List.mem_cons_self
    · exact List.mem_cons_of_mem _ (ih h)

theorem rawRef_toFS (K : Known) (r : Nat) : rawRef (toFS K) r = rawRefC K r := by
  unfold rawRef rawRefC toFS
  rcases lk K (.ref r) with _ | _ | c <;> rcases lk K .packedRefs with _ | pc <;> rfl

theorem rawRefC_mem {r : Nat} {v : RefV} (h : rawRefC K r = some v) : r ∈ refIds K := by
  unfold rawRefC at h
  unfold refIds
  rw [List.mem_flatMap]
  split at h
  · rename_i c hc
    exact ⟨(.ref r, some c), lk_mem hc, List.mem_singleton_self r⟩
  · split at h
    · rename_i pc hpc
      refine ⟨(.packedRefs, pc), lk_mem hpc, ?_⟩
      have hm := mem_keysOf h
      unfold keysOf at hm
      split at hm
      · exact hm
      · cases hm
    · cases h

theorem pre_of_preK (h : preK spec = true) :
    Pre spec (graphOf spec) (parentsOf spec) (toFS spec.known) := by
  unfold preK at h
  simp only [Bool.and_eq_true, List.all_eq_true] at h
  -- `preK`'s first conjunct (the `shallow` path is listed) is not needed: `closedVis` asks again where it matters
  obtain ⟨⟨⟨_, hrefs⟩, htyped⟩, hpair⟩ := h
  have hg : ∀ o ds ps, spec.edges.lookup o = some (ds, ps) →
      graphOf spec o = ds ∧ parentsOf spec o = ps := by
    intro o ds ps ho; simp only [graphOf, parentsOf, ho, Option.getD_some, and_self]
  have closed : ∀ r v, rawRef (toFS spec.known) r = some (.sha v) →
      ∀ o, ReachFrom (graphOf spec) (parentsOf spec) (shal (toFS spec.known)) v o →
        Vis (toFS spec.known) o ∧ o ∉ spec.garbage := by
    intro r v hr o ho
    rw [rawRef_toFS] at hr
    have := hrefs r (rawRefC_mem hr)
    rw [hr] at this
    exact closedVis_sound hg (agrees_toFS _) this ho
  refine ⟨agrees_toFS _, hg, ?_, ?_, ?_, ?_⟩
  · intro o ⟨r, v, hr, hreach⟩
    exact (closed r v hr o hreach).1
  · intro o ho ⟨r, v, hr, hreach⟩
    exact (closed r v hr o hreach).2 ho
  · intro p c hpc
    have hl := lk_of_toFS hpc
    have := htyped (p, some c) (lk_mem hl)
    simp only [hl] at this
    exact this
  · intro p k k' objs h1 h2
    have := hpair _ (lk_mem (lk_of_toFS h1))
    simp only [pairC] at this
    unfold toFS at h1 h2
    rw [h1, h2] at this
    exact beq_iff_eq.mp this

/-! In the closed world the knowledge IS the state: `stepK` mirrors `step` exactly and `visK` misses nothing. -/

theorem toFS_cons (p : Path) (c : Option Content) (K : Known) : toFS ((p, c) :: K) = upd (toFS K) p c := by
  funext q
  unfold toFS upd
  rw [lk_cons]
  by_cases e : p = q
  · rw [if_pos e, if_pos e.symm]; rfl
  · rw [if_neg e, if_neg (Ne.symm e)]

theorem stepK_toFS {c : Call} (hk : stepK c K = some K') : step c (toFS K) = toFS K' := by
  cases c with
  | rename a b =>
    simp only [stepK] at hk
    split at hk
    · rename_i d hd
      cases hk
      simp only [step, agrees_toFS K a _ hd, toFS_cons]
    · cases hk
  | skip o ev => cases hk; rfl
  | _ => cases hk; exact (toFS_cons _ _ _).symm

theorem run_toFS {p : List Call} (hk : runK p K = some K') : run p (toFS K) = toFS K' := by
  induction p generalizing K with
  | nil => cases hk; rfl
  | cons c cs ih =>
    simp only [runK] at hk
    split at hk
    · exact (congrArg (run cs) (stepK_toFS ‹_›)).trans (ih hk)
    · cases hk

theorem visK_of_vis_toFS {o : Nat} (hv : Vis (toFS K) o) : visK K o = true := by
  unfold visK
  rcases hv with hv | ⟨p, k, objs, h1, h2, h3⟩
  · simp [lk_of_toFS hv]
  · have hp : packObjsK K p = some objs := by simp [packObjsK, lk_of_toFS h1, lk_of_toFS h2]
    exact (Bool.or_eq_true _ _).mpr (.inr (List.any_eq_true.mpr ⟨_, lk_mem (lk_of_toFS h1), by simp [hp, h3]⟩))

/-- How the counterexamples of Props/C09 refute visibility: run the program on the listing and look the object up. -/
theorem not_vis_run_toFS {p : List Call} {o : Nat} (h : (runK p K).map (visK · o) = some false) :
    ¬ Vis (run p (toFS K)) o := fun hv => by
  obtain ⟨K', hr, hf⟩ := Option.map_eq_some_iff.mp h
  rw [run_toFS hr] at hv
  exact Bool.noConfusion ((visK_of_vis_toFS hv).symm.trans hf)

theorem counterexample_of_closed {f : FS → FS} (hpre : preK spec = true)
    (h : ¬ Recoverable spec (graphOf spec) (parentsOf spec) (toFS spec.known) (f (toFS spec.known))) :
    ∃ G GP s, Pre spec G GP s ∧ ¬ Recoverable spec G GP s (f s) :=
  ⟨_, _, _, pre_of_preK hpre, h⟩
end Dulwich.Crash
