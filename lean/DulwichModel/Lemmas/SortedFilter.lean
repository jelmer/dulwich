/- Filtering a sorted list: in a list sorted along `R`, the elements with a property that `R` carries downwards form a
   prefix, so their number is the position where they end.  Every cumulative fan-out table counts such a prefix ("ids
   whose first byte is below / at most `b`"): used for `PackIndex.countLt` (Lemmas/PackIndex.lean, pack index) and
   for `Midx.writeFanout` (Props/C14.lean, multi-pack index).  Core Lean only. -/

namespace Dulwich

theorem lt_length_filter_iff {α : Type} {R : α → α → Prop} {p : α → Prop} [DecidablePred p]
    (hp : ∀ a b, R a b → p b → p a) : ∀ {l : List α}, l.Pairwise R → ∀ {i : Nat} (hi : i < l.length),
      i < (l.filter (fun a => decide (p a))).length ↔ p l[i]
  | a :: l, hs, i, hi => by
    have ⟨ha, hl⟩ := List.pairwise_cons.mp hs
    by_cases h : p a
    · rw [List.filter_cons_of_pos (p := fun a => decide (p a)) (decide_eq_true h)]
      cases i with
      | zero => exact ⟨fun _ => h, fun _ => Nat.succ_pos _⟩
      | succ i => exact Nat.succ_lt_succ_iff.trans (lt_length_filter_iff hp hl (Nat.lt_of_succ_lt_succ hi))
    · -- nothing after `a` has the property either
      have hnone : ∀ b ∈ l, ¬ p b := fun b hb hpb => h (hp a b (ha b hb) hpb)
      rw [List.filter_cons_of_neg (p := fun a => decide (p a)) (by rwa [decide_eq_true_eq]),
        List.filter_eq_nil_iff.mpr fun b hb => by rw [decide_eq_true_eq]; exact hnone b hb]
      refine ⟨fun hlt => absurd hlt (Nat.not_lt_zero _), fun hpi => ?_⟩
      cases i with
      | zero => exact absurd hpi h
      | succ i => exact absurd hpi (hnone _ (List.getElem_mem _))

end Dulwich
