/-
  C07 — lock files give mutual exclusion and all-or-nothing replacement.

  The lemmas are in Lemmas/Lock.lean, the transition system in Model/Lock.lean (+ Model/LockFS.lean).  The
  `_GitFile` *program* the theorems talk about, `gitFile`, is assembled from Gen/Lock.lean, which
  the translator re-derives from the AST of dulwich/file.py on every run: an edit of the protocol
  (dropping O_EXCL, a guard, the `_closed = True` after the rename, the unlink in abort(), moving
  the file-object close after the rename …) changes the generated program, `gitFile_wellBehaved`
  stops evaluating to `true`, and the theorems that rest on it (`mutex` … `failed_write_releases_lock_now`)
  stop compiling.

  Reading guide.  `State` = directory (`fs.target`, `fs.lock`) + one `Actor` per natural number
  (unboundedly many).  `Reach P s0 s`: `s` is reachable from `s0` by ANY schedule — any
  interleaving of any actors at system-call granularity, any call failing with an injected
  error; the parent directory of `f`/`f.lock` may be missing and may be removed (while empty) and
  re-created by other actors.  `Initial s0`: no lock file, `f` absent or the initial file, every
  actor an arbitrary caller script (or a directory pruner) that has not done anything yet.
  `(s.actors i).owns` is the ghost "actor i is between its successful open(O_EXCL) and its own
  rename/unlink of `f.lock`".
-/
import DulwichModel.Lemmas.Lock

namespace Dulwich.Props.C07
open Dulwich Dulwich.Lock

/-! ## 0. the program read off the source passes the (proved-sound) check -/

theorem gitFile_wellBehaved : gitFile.wellBehaved = true := by decide +kernel

/-- Soundness of the checker, once and for all programs: whatever `_GitFile` program the translator
extracts, if `wellBehaved` evaluates to `true` on it then the invariant holds in every state
reachable under every schedule of any number of actors with any injected failures. -/
theorem check_sound (P : Program) (hP : P.wellBehaved = true) {s0 s : State} (h0 : Initial s0)
    (h : Reach P s0 s) : Inv s :=
  reach_Inv (WB.of_bool hP) h0 h

/-! ## 1. mutual exclusion -/

/-- `mutex`.  In every reachable state of the program as it is now: an actor that holds the lock
has ITS lock file in place (nobody removed or renamed it), a lock file that exists was created by
an actor that still holds it, and therefore at most one actor holds the lock. -/
theorem mutex {s0 s : State} (h0 : Initial s0) (h : Reach gitFile s0 s) :
    (∀ i, (s.actors i).owns = true → s.fs.lock = some i) ∧
    (∀ i, s.fs.lock = some i → (s.actors i).owns = true) ∧
    (∀ i j, (s.actors i).owns = true → (s.actors j).owns = true → i = j) := by
  have hinv := check_sound gitFile gitFile_wellBehaved h0 h
  refine ⟨hinv.ownerHasLock, hinv.lockHasOwner, fun i j hi hj => ?_⟩
  have e1 := hinv.ownerHasLock i hi
  have e2 := hinv.ownerHasLock j hj
  rw [e1] at e2; exact Option.some.inj e2

/-- The ghost `owns` is not an arbitrary label: it coincides with what the code itself records —
the handle exists (`__init__` returned) and `_closed` is still False. -/
theorem holder_iff_handle_open {s0 s : State} (h0 : Initial s0) (h : Reach gitFile s0 s) (i : Nat) :
    (s.actors i).owns = ((s.actors i).opened && !(s.actors i).closed) := by
  rcases (check_sound gitFile gitFile_wellBehaved h0 h).actors i with hn | hr
  · rw [hn.opened, hn.owns]; rfl
  · rw [hr.opened, hr.1.owns_eq]; rfl

/-- No actor ever removes or renames a lock file it did not create: whenever a transition of actor
`i` unlinks or renames `f.lock`, the file at that name is the one `i` created (and `i` holds it). -/
theorem no_foreign_disturb {s0 s : State} (h0 : Initial s0) (h : Reach gitFile s0 s) (i : Nat)
    (f : Bool)
    (he : (actorStep gitFile (s.actors i) s.fs.lock.isSome s.fs.dir s.fs.isEmpty f).2.1 = .replace ∨
          (actorStep gitFile (s.actors i) s.fs.lock.isSome s.fs.dir s.fs.isEmpty f).2.1 = .remove) :
    s.fs.lock = some i ∧ (s.actors i).owns = true := by
  have hinv := check_sound gitFile gitFile_wellBehaved h0 h
  have hls := step_lockStep (WB.of_bool gitFile_wellBehaved) hinv i f
  -- a call that renames or unlinks the lock file is a `commit` resp. `release`: made by its holder
  have hl : s.fs.lock = some i := by
    rcases he with he | he <;> rw [he] at hls <;> rcases hls with ⟨⟨⟩⟩ | _ | ⟨hl⟩ | ⟨hl⟩ <;> exact hl
  exact ⟨hl, hinv.lockHasOwner i hl⟩

/-- While one writer holds the lock no other writer can obtain it: whichever open of `__init__` an
acquiring actor is about to make (the first, or a retry after re-creating a vanished parent
directory), it fails with `FileExistsError` (→ `FileLocked`) and changes nothing in the directory. -/
theorem open_fails_while_held {s0 s : State} (h0 : Initial s0) (h : Reach gitFile s0 s) (i j : Nat)
    (hj : (s.actors j).owns = true) (hi : (s.actors i).pc = .start) {e : Bool} {r : List Bool}
    (ha : (s.actors i).acqNow gitFile = .open e r) :
    stepOut gitFile s i false = .exists ∧ (step gitFile s i false).fs = s.fs ∧
      ((step gitFile s i false).actors i).owns = false := by
  have hP := WB.of_bool gitFile_wellBehaved
  have hinv := check_sound gitFile gitFile_wellBehaved h0 h
  have hl : s.fs.lock.isSome = true := by rw [hinv.ownerHasLock j hj]; rfl
  have hd : s.fs.dir = true := reach_lock_in_dir hP h0 h hl
  have hn := ((hinv.actors i).noHandle_of_start hi)
  have he : e = true := by
    have := acqNow_ok hP hn.acqOk
    rw [ha] at this; exact this.1
  subst he
  have key : actorStep gitFile (s.actors i) s.fs.lock.isSome s.fs.dir s.fs.isEmpty false =
      ({ s.actors i with pc := .done, todo := [] }, .none, .exists) := by
    simp [actorStep, hi, acquireStep, ha, hl, hd]
  refine ⟨?_, ?_, ?_⟩
  · rw [stepOut, key]
  · rw [step_fs, key]; rfl
  · rw [step_actor_self, key]; exact hn.owns

/-- The lock is only ever ACQUIRED exclusively, on every path through `__init__`: a transition
that creates `f.lock` for actor `i` happens in a state without a lock file and without any holder,
with the parent directory in place.  (This is where `wellBehaved` needs EVERY `os.open` of the lock
path — retries after ENOENT included — to carry O_EXCL; see
`retry_without_excl_counterexample`.) -/
theorem acquisition_is_exclusive {s0 s : State} (h0 : Initial s0) (h : Reach gitFile s0 s) (i : Nat)
    (f : Bool)
    (he : (actorStep gitFile (s.actors i) s.fs.lock.isSome s.fs.dir s.fs.isEmpty f).2.1 = .create) :
    s.fs.lock = none ∧ s.fs.dir = true ∧ ∀ j, (s.actors j).owns = false := by
  have hP := WB.of_bool gitFile_wellBehaved
  have hinv := check_sound gitFile gitFile_wellBehaved h0 h
  have hls := step_lockStep hP hinv i f
  rw [he] at hls
  rcases hls with ⟨⟨⟩⟩ | ⟨hl, hd⟩
  refine ⟨hl, hd, fun j => ?_⟩
  cases ho : (s.actors j).owns with
  | false => rfl
  | true => exact nomatch hl.symm.trans (hinv.ownerHasLock j ho)

/-! ## 2. all-or-nothing replacement -/

/-- `atomic_replace`.  In every reachable state the content of `f` is the content of the initial
state, or it is exactly what some actor had written through its handle at the moment its rename
succeeded (`committed`) — never a mixture, never a file somebody is still writing to. -/
theorem atomic_replace {s0 s : State} (h0 : Initial s0) (h : Reach gitFile s0 s) (init : Bytes) :
    content s init = content s0 init ∨
      ∃ i c, (s.actors i).committed = some c ∧ content s init = some c ∧
        (s.actors i).fopen = false := by
  rcases reach_TargetOk (WB.of_bool gitFile_wellBehaved) h0 h with ht | ⟨i, h1, h2, h3⟩
  · left
    rcases h0.targetInit with e | e <;> simp [content, ht, e]
  · right; exact ⟨i, _, h2, by simp [content, h1], h3⟩

/-- A `with GitFile(f,"wb") as h: for d in ds: h.write(d)` caller that renames at all renames the
COMPLETE content `ds.flatten`.  It is `reach_with` (Lemmas/Lock.lean) at `gitFile`, read through
`Phase.committed`; what the caller renames does not depend on the other actors, so `h0` is not used (kept as
first written). -/
theorem with_commit_complete {s0 s : State} (h0 : Initial s0) (i : Nat) {mk fs pm fin : Bool}
    {ds : List Bytes} (hi : s0.actors i = withCaller mk fs pm ds fin) (h : Reach gitFile s0 s)
    {c : Bytes} (hc : (s.actors i).committed = some c) : c = ds.flatten := by
  rcases (reach_with (WB.of_bool gitFile_wellBehaved) i hi h).committed with h5 | h5 <;> rw [h5] at hc
  · cases hc
  · exact (Option.some.inj hc).symm

/-- Readers only ever see the complete old or a complete new content: if every actor is a
with-caller, the content of `f` is the initial one or the whole intended content of one of them. -/
theorem readers_see_old_or_complete_new {s0 s : State} (h0 : Initial s0)
    (mk fs pm fin : Nat → Bool) (ds : Nat → List Bytes)
    (hall : ∀ i, s0.actors i = withCaller (mk i) (fs i) (pm i) (ds i) (fin i))
    (h : Reach gitFile s0 s) (init : Bytes) :
    content s init = content s0 init ∨ ∃ i, content s init = some (ds i).flatten := by
  rcases atomic_replace h0 h init with h1 | ⟨i, c, h1, h2, _⟩
  · exact Or.inl h1
  · exact Or.inr ⟨i, by rw [h2, with_commit_complete h0 i (hall i) h h1]⟩

/-! ## 3. a write that fails leaves the old content in place and the lock released -/

/-- `withCaller_done_releases` (Lemmas/Lock.lean) for the program as it is now and a finalised handle,
its first clause only, with both provisos of that theorem: no unlink made to fail (`hrm`), no failed
file-object close inside abort() (`hfc`).  For `gitFile` neither the finalisation nor `hfc` is needed:
`failed_write_releases_lock_now`. -/
theorem with_done_releases {s0 s : State} (h0 : Initial s0) (i : Nat) {mk fs pm : Bool}
    {ds : List Bytes} (hi : s0.actors i = withCaller mk fs pm ds true) (h : Reach gitFile s0 s)
    (hd : (s.actors i).pc = .done) (hrm : (s.actors i).rmFailed = false)
    (hfc : (s.actors i).fcFailed = false) :
    (s.actors i).owns = false :=
  (withCaller_done_releases (WB.of_bool gitFile_wellBehaved) h0 i hi h (.inl rfl) hd hrm hfc).1

/-- `failed_write_keeps_old`.  A with-caller `i` one of whose calls — the open, a write, or a call of
close() up to and including the rename — fails (injected ENOSPC/EIO/EPERM/KeyboardInterrupt,
`FileLocked`, …) never renames anything into place afterwards, under any continuation of the
schedule: `f` is not touched by it.  And once it is done, with its handle finalised (`fin`: CPython
has run `__del__`, i.e. abort()) and neither an unlink nor the file-object close inside abort() made to
fail, its lock is released: `withCaller_done_releases`, which asks no failure.  (For the program as it is
now that needs neither the finalisation nor `fcFailed = false`: `failed_write_releases_lock_now`.) -/
theorem failed_write_keeps_old {s0 s : State} (h0 : Initial s0) (i : Nat) {mk fs pm fin : Bool}
    {ds : List Bytes} (hi : s0.actors i = withCaller mk fs pm ds fin) (h : Reach gitFile s0 s)
    (f : Bool) (hfail : Out.isFailure (s.actors i).pc (stepOut gitFile s i f) = true)
    {s' : State} (h' : Reach gitFile (step gitFile s i f) s') :
    (s'.actors i).committed = none ∧
    (∀ g, (actorStep gitFile (s'.actors i) s'.fs.lock.isSome s'.fs.dir s'.fs.isEmpty g).2.1 ≠ .replace) ∧
    ((s'.actors i).pc = .done → fin = true → (s'.actors i).rmFailed = false →
        (s'.actors i).fcFailed = false →
        (s'.actors i).owns = false ∧ s'.fs.lock ≠ some i) := by
  have hP := WB.of_bool gitFile_wellBehaved
  have hreach : ∀ t, Reach gitFile (step gitFile s i f) t → Reach gitFile s0 t :=
    fun t ht => Reach.trans (Reach.step s i f h) ht
  -- the failing step puts the failure on record, and there it stays
  have hnone : ∀ t, Reach gitFile (step gitFile s i f) t → (t.actors i).committed = none :=
    fun t ht => (reach_with_failed hP i hi h f hfail ht).committed_none
  refine ⟨hnone s' h', fun g heq => ?_, fun hd hfin hrm hfc =>
    withCaller_done_releases hP h0 i hi (hreach s' h') (.inl hfin) hd hrm hfc⟩
  -- a rename would set `committed`, but in the successor state it is still `none`
  have h1 := hnone _ (Reach.step s' i g h')
  have hls := step_lockStep hP (check_sound gitFile gitFile_wellBehaved h0 (hreach s' h')) i g
  rw [heq] at hls
  rcases hls with ⟨⟨⟩⟩ | _ | ⟨_, _, _, hcm⟩ | _
  rw [hcm] at h1; cases h1

/-- `withCaller_done_releases` in its second alternative: for ANY program that passes the check and in
addition aborts on every failure inside close() (`abortsOnAnyCloseFailure`: the rename AND the
flush/fsync/chmod before it inside `try … finally: self.abort()`), a with-caller that is done
holds no lock — whether or not its handle was ever finalised — unless an unlink was made to fail
or closing the file object inside abort() raised before the unlink (`fcFailed`).  (The premise fails
for `gitFilePreOutsideTry`, see `with_close_fault_leaves_lock_counterexample`; it holds for `gitFile`:
`gitFile_abortsOnAnyCloseFailure`.) -/
theorem close_failure_releases_lock (P : Program) (hP : P.wellBehaved = true)
    (hA : P.abortsOnAnyCloseFailure = true) {s0 s : State} (h0 : Initial s0) (i : Nat)
    {mk fs pm fin : Bool} {ds : List Bytes} (hi : s0.actors i = withCaller mk fs pm ds fin)
    (h : Reach P s0 s) (hd : (s.actors i).pc = .done) (hrm : (s.actors i).rmFailed = false)
    (hfc : (s.actors i).fcFailed = false) :
    (s.actors i).owns = false ∧ s.fs.lock ≠ some i :=
  withCaller_done_releases (WB.of_bool hP) h0 i hi h (.inr hA) hd hrm hfc

/-- the premises of `close_failure_releases_lock` are satisfiable: the program with the calls of
close() moved inside the try passes both checks -/
example : let P : Program := { gitFile with closePre := gitFile.closePre.map (fun p => (p.1, true)) }
    P.wellBehaved = true ∧ P.abortsOnAnyCloseFailure = true := by decide +kernel

/-- the program as it is now aborts on every failure inside close() -/
theorem gitFile_abortsOnAnyCloseFailure : gitFile.abortsOnAnyCloseFailure = true := by decide +kernel

/-- `close_failure_releases_lock` at `gitFile`, with its proviso `fcFailed = false` kept (where it
matters: finding F-C07-abort-file-close-error-skips-unlink,
`persistent_fault_abort_skips_unlink_counterexample`).  `gitFile` does not need it:
`failed_write_releases_lock_now`. -/
theorem close_failure_releases_lock_now {s0 s : State} (h0 : Initial s0) (i : Nat)
    {mk fs pm fin : Bool} {ds : List Bytes} (hi : s0.actors i = withCaller mk fs pm ds fin)
    (h : Reach gitFile s0 s) (hd : (s.actors i).pc = .done)
    (hrm : (s.actors i).rmFailed = false) (hfc : (s.actors i).fcFailed = false) :
    (s.actors i).owns = false ∧ s.fs.lock ≠ some i :=
  close_failure_releases_lock gitFile gitFile_wellBehaved gitFile_abortsOnAnyCloseFailure h0 i hi h
    hd hrm hfc

/-- … and for any program that in addition has `try: self._file.close() finally: <unlink>` in
abort() (`abortCloseInTry`) the `fcFailed` proviso disappears (`reach_fcFailed`): only a failing unlink
can keep the lock. -/
theorem abort_close_in_try_releases_lock (P : Program) (hP : P.wellBehaved = true)
    (hA : P.abortsOnAnyCloseFailure = true) (hT : P.abortCloseInTry = true) {s0 s : State}
    (h0 : Initial s0) (i : Nat) {mk fs pm fin : Bool} {ds : List Bytes}
    (hi : s0.actors i = withCaller mk fs pm ds fin) (h : Reach P s0 s)
    (hd : (s.actors i).pc = .done) (hrm : (s.actors i).rmFailed = false) :
    (s.actors i).owns = false ∧ s.fs.lock ≠ some i :=
  close_failure_releases_lock P hP hA h0 i hi h hd hrm (reach_fcFailed hT h0 h i)

/-- the program as it is now unlinks in abort() even when closing the file object raises -/
theorem gitFile_abortCloseInTry : gitFile.abortCloseInTry = true := by decide +kernel

/-- HEADLINE for "a write that fails or is aborted leaves … the lock released", for the program as it is
now (`abort_close_in_try_releases_lock` at `gitFile`; no failure is asked for): in every state reachable under every schedule of any number
of actors and any sequence of failing calls — a persistent ENOSPC included: flush fails, the file
object's close inside abort() fails again — a `with GitFile(...)` caller (and the repaired
`Index.write`, `index_write_now_is_with_caller`) that is done holds no lock and `f.lock` is not
its file, whether or not its handle was ever finalised.  The only proviso left is an `os.remove`
that was itself made to fail, about which the code can do nothing. -/
theorem failed_write_releases_lock_now {s0 s : State} (h0 : Initial s0) (i : Nat)
    {mk fs pm fin : Bool} {ds : List Bytes} (hi : s0.actors i = withCaller mk fs pm ds fin)
    (h : Reach gitFile s0 s) (hd : (s.actors i).pc = .done)
    (hrm : (s.actors i).rmFailed = false) :
    (s.actors i).owns = false ∧ s.fs.lock ≠ some i :=
  abort_close_in_try_releases_lock gitFile gitFile_wellBehaved gitFile_abortsOnAnyCloseFailure
    gitFile_abortCloseInTry h0 i hi h hd hrm

/-! ## 4. concrete schedules, evaluated by the kernel: what each repair of dulwich changed -/

def A : Bytes := [65]
def B : Bytes := [66]
def C : Bytes := [67]

/-- three `with GitFile(f,"wb") as h: h.write(X)` callers, fsync on, no shared_perm -/
def three : State :=
  State.ofList true [withCaller false true false [A] false, withCaller false true false [B] false,
                     withCaller false true false [C] false]

/-- corpus/C07/three_actor_foreign_lock_removed*.json: actor 0 runs up to and including its rename
(open, write, flush, fsync, file close, rename); actor 1 opens (the lock is free); actor 0's next step; actor 2
opens. -/
def oldDefectSchedule : Sched :=
  [(0, false), (0, false), (0, false), (0, false), (0, false), (0, false), (1, false), (0, false),
   (2, false)]

/-- The program BEFORE commit dd7ffc5 (no `_closed = True` after the rename) violates the
invariant on that schedule: actor 0's `finally: abort()` unlinks the lock file actor 1 created,
actor 2 then obtains the lock while actor 1 still holds it — two holders, and the lock file on
disk is not actor 1's.  (This is what the check reports if the fix is ever reverted.) -/
theorem old_program_mutex_counterexample :
    let s := run gitFileOld three oldDefectSchedule
    (s.actors 1).owns = true ∧ (s.actors 2).owns = true ∧ s.fs.lock = some 2 ∧
      -- the step that did it: actor 0 unlinking a lock file created by actor 1
      (let s6 := run gitFileOld three (oldDefectSchedule.take 7)
       s6.fs.lock = some 1 ∧ (s6.actors 0).owns = false ∧
       (actorStep gitFileOld (s6.actors 0) s6.fs.lock.isSome s6.fs.dir s6.fs.isEmpty false).2.1 = .remove) := by
  decide +kernel

/-- The old program also breaks all-or-nothing replacement: continuing that schedule, actor 1's
rename installs the lock file of actor 2 — while actor 2 has written nothing yet — as `f`. -/
theorem old_program_atomicity_counterexample :
    let s := run gitFileOld three
      (oldDefectSchedule ++ [(1, false), (1, false), (1, false), (1, false), (1, false)])
    s.fs.target = some (.of 2) ∧ (s.actors 2).committed = none ∧ (s.actors 2).fopen = true := by
  decide +kernel

/-- The same schedule on the program as it is now is harmless: actor 0 has nothing left to do and
actor 2's open fails while actor 1 holds the lock. -/
theorem old_schedule_harmless_now :
    let s := run gitFile three oldDefectSchedule
    (s.actors 1).owns = true ∧ (s.actors 2).owns = false ∧ s.fs.lock = some 1 ∧
      stepOut gitFile (run gitFile three (oldDefectSchedule.take 8)) 2 false = .exists := by
  decide +kernel

/-- F-C07-close-fault-before-rename-leaves-lock (fixed by 37a7ef3): with flush/fsync/chmod of
close() BEFORE the `try … finally: self.abort()`
(`gitFilePreOutsideTry`, the program before that commit), a single
`with GitFile(...)` caller whose fsync fails is done — the exception has left the `with` block —
and still holds the lock; only finalisation of the handle (`fin = true` in
`failed_write_keeps_old`) releases it. -/
theorem with_close_fault_leaves_lock_counterexample :
    let s := run gitFilePreOutsideTry (State.ofList true [withCaller false true false [A] false])
      [(0, false), (0, false), (0, false), (0, true)]
    (s.actors 0).pc = .done ∧ (s.actors 0).owns = true ∧ s.fs.lock = some 0 ∧
      (s.actors 0).rmFailed = false := by
  decide +kernel

/-- … and the program as it is now (37a7ef3: those calls INSIDE the try) ends the same run with the
lock released although the handle was never finalised: fsync fails, abort() closes the file object
and unlinks. -/
theorem with_close_fault_releases_now :
    let s := run gitFile (State.ofList true [withCaller false true false [A] false])
      [(0, false), (0, false), (0, false), (0, true), (0, false), (0, false)]
    (s.actors 0).pc = .done ∧ (s.actors 0).owns = false ∧ s.fs.lock = none ∧
      content s [0] = some [0] := by
  decide +kernel

/-- F-C07-abort-file-close-error-skips-unlink (found after 37a7ef3, fixed by eda3035): abort()
closing the file object BEFORE and OUTSIDE the try around the unlink
(`gitFileAbortCloseOutsideTry`, the program before that commit).  When a write error PERSISTS (disk
full), the flush in close() fails, the `finally: self.abort()` closes the file object, whose
implicit flush fails again, and that exception leaves abort() — and close() — before the unlink:
the caller is done, not finalised, and still holds the lock. -/
theorem persistent_fault_abort_skips_unlink_counterexample :
    let s := run gitFileAbortCloseOutsideTry (State.ofList true [withCaller false true false [A] false])
      [(0, false), (0, false), (0, true), (0, true)]
    (s.actors 0).pc = .done ∧ (s.actors 0).owns = true ∧ s.fs.lock = some 0 ∧
      (s.actors 0).rmFailed = false ∧ (s.actors 0).fcFailed = true ∧ content s [0] = some [0] := by
  decide +kernel

/-- … and the program as it is now (eda3035) ends the same fault sequence with the lock released. -/
theorem persistent_fault_releases_now :
    let s := run gitFile (State.ofList true [withCaller false true false [A] false])
      [(0, false), (0, false), (0, true), (0, true), (0, false)]
    (s.actors 0).pc = .done ∧ (s.actors 0).owns = false ∧ s.fs.lock = none ∧
      (s.actors 0).fcFailed = false ∧ content s [0] = some [0] := by
  decide +kernel

/-- (the same with `abortCloseInTry` set by hand, whatever the source says of it) -/
theorem persistent_fault_releases_when_abort_close_in_try :
    let P : Program := { gitFile with abortCloseInTry := true }
    let s := run P (State.ofList true [withCaller false true false [A] false])
      [(0, false), (0, false), (0, true), (0, true), (0, false)]
    P.wellBehaved = true ∧ (s.actors 0).pc = .done ∧ (s.actors 0).owns = false ∧
      s.fs.lock = none ∧ content s [0] = some [0] := by
  decide +kernel

/-- F-C07-index-write-error-path-renames (DESIGN §7 F7, fixed by 3b15974): a caller whose error
handler calls close() instead of abort() — `Index.write`'s `except: f.close(); raise` before that
commit — renames a truncated file into place when its second write fails: `f` ends up with the
first chunk only. -/
theorem index_write_counterexample :
    let s := run gitFile (State.ofList true [indexWriteCaller true false [A, B]])
      [(0, false), (0, false), (0, true), (0, false), (0, false), (0, false), (0, false)]
    (s.actors 0).pc = .done ∧ content s [0] = some A ∧ [A, B].flatten ≠ A := by
  decide +kernel

/-- `Index.write` as the source says it is NOW is a with-caller (handler `f.abort()`, for the writes
and for the close alike), so `with_commit_complete`, `failed_write_keeps_old`,
`close_failure_releases_lock_now` apply to it … -/
theorem index_write_now_is_with_caller (fs pm : Bool) (ds : List Bytes) :
    indexWriteCallerNow fs pm ds = withCaller false fs pm ds true := by
  simp [indexWriteCallerNow, withCaller, Gen.Lock.indexWriteErrCloses,
    Gen.Lock.exitAbortsOnException, Gen.Lock.delAborts, Actor.init]

/-- … and on the schedule of `index_write_counterexample` (second write fails) it leaves the old
content in place and the lock released. -/
theorem index_write_now_keeps_old :
    let s := run gitFile (State.ofList true [indexWriteCallerNow true false [A, B]])
      [(0, false), (0, false), (0, true), (0, false), (0, false)]
    (s.actors 0).pc = .done ∧ content s [0] = some [0] ∧ s.fs.lock = none ∧
      (s.actors 0).owns = false := by
  decide +kernel

/-- LOCK ACQUISITION WHEN THE PARENT DIRECTORY IS MISSING.  A program whose `__init__` retries the
open WITHOUT O_EXCL after ENOENT and re-creating the directory (`opens = [true, false]`) does not
pass the check, and violates mutual exclusion: the directory is absent; actor 0's exclusive open
fails with ENOENT; actor 1 (whose caller does `ensure_dir_exists`) creates the directory and takes
the lock; actor 0 re-creates the directory (it exists: fine) and its non-exclusive retry succeeds
— two holders. -/
theorem retry_without_excl_counterexample :
    let P : Program := { gitFile with opens := [true, false] }
    let s := run P (State.ofList false [withCaller false true false [A] false,
                                        withCaller true true false [B] false] false)
      [(0, false), (1, false), (1, false), (0, false), (0, false)]
    P.wellBehaved = false ∧ (s.actors 0).owns = true ∧ (s.actors 1).owns = true := by
  decide +kernel

/-- The same schedule on the program as it is now: actor 0's only open fails (FileNotFoundError
reaches its caller, it never gets a handle), actor 1 holds the lock alone. -/
theorem missing_directory_schedule_harmless_now :
    let s := run gitFile (State.ofList false [withCaller false true false [A] false,
                                              withCaller true true false [B] false] false)
      [(0, false), (1, false), (1, false), (0, false), (0, false)]
    (s.actors 0).pc = .done ∧ (s.actors 0).opened = false ∧ (s.actors 0).owns = false ∧
      (s.actors 1).owns = true ∧ s.fs.lock = some 1 ∧ s.fs.dir = true := by
  decide +kernel

/-! ## 5. non-vacuity -/

/-- the hypotheses of the theorems are satisfiable: `three` is an initial state made of
with-callers, and a non-trivial state (actor 1 holding the lock after actor 0 committed) is
reachable from it -/
example : Initial three ∧ three.actors 1 = withCaller false true false [B] false ∧
    Reach gitFile three (run gitFile three oldDefectSchedule) :=
  ⟨State.ofList_initial _ _ _ (by
      intro a ha
      simp only [List.mem_cons, List.not_mem_nil, or_false] at ha
      rcases ha with rfl | rfl | rfl <;> exact Actor.init_fresh _ _ _ _ _ _),
   rfl, reach_run _ _ _⟩

/-- pruners exist and matter: from a state with the directory present a pruner removes it (it is
empty), after which a writer whose caller does not re-create it cannot even open -/
example :
    let s := run gitFile (State.ofList false [Actor.pruner, withCaller false true false [A] false])
      [(0, false), (1, false)]
    s.fs.dir = false ∧ (s.actors 1).pc = .done ∧ (s.actors 1).opened = false := by
  decide +kernel

/-- a failing call exists in a reachable state (hypothesis `hfail` of `failed_write_keeps_old`):
the fsync of actor 0 made to fail -/
example : Out.isFailure ((run gitFile three [(0, false), (0, false), (0, false)]).actors 0).pc
    (stepOut gitFile (run gitFile three [(0, false), (0, false), (0, false)]) 0 true) = true := by
  decide +kernel

/-- a committed, complete write is reachable (hypothesis `hc` of `with_commit_complete`) -/
example : ((run gitFile three oldDefectSchedule).actors 0).committed = some A := by decide +kernel

end Dulwich.Props.C07
