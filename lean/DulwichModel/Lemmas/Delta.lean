/- Lemmas for the delta codec (C03); the property theorems are in Props/C03.lean.  `OpsValid` and `Built`, the
predicates those theorems are stated with, are defined here because the lemmas about the opcode loop speak of them.
The opcode loop `applyLoop` is run on what the emitters write (`apply_emitOps`) and on any delta (`RunOk`, what a run may
end in; Rust's loop = Python's).

The `show Gen.x = k from rfl` steps are where a constant of dulwich's source enters a proof: when the translator
regenerates `Gen/Delta.lean` with another value the proof stops compiling, which is the intended signal. -/
import DulwichModel.Model.Delta
-- for `u8_toNat_ofNat`
import DulwichModel.Lemmas.BigEndian

namespace Dulwich.Props.C03
open Dulwich Dulwich.Delta

/-- Hypothesis on an opcode list (what difflib / `similar` / git guarantee and what the harness
checks on every list the real libraries return): copy blocks lie inside the base. -/
def OpsValid (base : Bytes) : List Op → Prop
  | [] => True
  | .copy off len :: ops => off + len ≤ base.length ∧ OpsValid base ops
  | .insert _ :: ops => OpsValid base ops

/-- `out` is a concatenation of slices of `base` and slices of `delta`. -/
inductive Built (base delta : Bytes) : Bytes → Prop
  | nil : Built base delta []
  | base (out : Bytes) (off n : Nat) : Built base delta out → off + n ≤ base.length →
      Built base delta (out ++ (base.drop off).take n)
  | lit (out : Bytes) (i n : Nat) : Built base delta out → i + n ≤ delta.length →
      Built base delta (out ++ (delta.drop i).take n)

end Dulwich.Props.C03

namespace Dulwich.Delta
open Dulwich Dulwich.Props.C03

/-! ### size varint -/

theorem decodeSizeAux_encodeSize (n : Nat) : ∀ (shift acc : Nat) (rest : Bytes),
    decodeSizeAux shift acc (encodeSize n ++ rest) = some (acc + n * 2 ^ shift, rest) := by
  induction n using Nat.strongRecOn with
  | _ n ih =>
    intro shift acc rest
    rw [encodeSize]
    split
    · rename_i h
      rw [List.singleton_append, decodeSizeAux, u8_toNat_ofNat (by omega), if_pos h, Nat.mod_eq_of_lt h]
    · -- `n % 128 * 2 ^ s + n / 128 * 2 ^ (s + 7) = n * 2 ^ s`
      rw [List.cons_append, decodeSizeAux, u8_toNat_ofNat (by omega), if_neg (by omega), ih (n / 128) (by omega),
        Nat.add_mod_right, Nat.mod_mod, Nat.add_assoc, Nat.pow_add, ← Nat.mul_assoc,
        Nat.mul_right_comm, ← Nat.add_mul, show (2 : Nat) ^ 7 = 128 from rfl, Nat.mod_add_div']

theorem decodeSizeAux_some : ∀ (d : Bytes) (s a : Nat) {n : Nat} {r : Bytes},
    decodeSizeAux s a d = some (n, r) → a ≤ n ∧ ∃ m, d = m ++ r
  | [], _, _, _, _, h => nomatch h
  | b :: d, s, a, n, r, h => by
    rw [decodeSizeAux] at h
    split at h
    · cases h
      exact ⟨Nat.le_add_right _ _, [b], rfl⟩
    · obtain ⟨h1, m, hm⟩ := decodeSizeAux_some d _ _ h
      exact ⟨Nat.le_trans (Nat.le_add_right _ _) h1, b :: m, by rw [hm]; rfl⟩

theorem rsDecodeSizeAux_cases : ∀ (d : Bytes) (s a : Nat),
    rsDecodeSizeAux s a d = decodeSizeAux s a d ∨
      rsDecodeSizeAux s a d = none ∧ ∃ n r, decodeSizeAux s a d = some (n, r) ∧ 2 ^ 64 ≤ n
  | [], _, _ => .inl rfl
  | b :: d, s, a => by
    rw [rsDecodeSizeAux, decodeSizeAux]
    simp only [usizeMod, show Gen.rsUsizeBits = 64 from rfl]
    by_cases hbig : b.toNat % 128 ≠ 0 ∧ (s ≥ 64 ∨ b.toNat % 128 * 2 ^ s ≥ 2 ^ 64)
    · -- Rust refuses this group: alone it is 2^64 or more, and Python's value only grows from there
      rw [if_pos hbig]
      have hge : 2 ^ 64 ≤ b.toNat % 128 * 2 ^ s := by
        rcases hbig.2 with h64 | h
        · calc 2 ^ 64 ≤ 2 ^ s := Nat.pow_le_pow_right (by decide) h64
            _ ≤ b.toNat % 128 * 2 ^ s := Nat.le_mul_of_pos_left _ (Nat.pos_of_ne_zero hbig.1)
        · exact h
      by_cases hlt : b.toNat < 128
      · rw [if_pos hlt]
        exact .inr ⟨rfl, _, _, rfl, by omega⟩
      · rw [if_neg hlt]
        cases hp : decodeSizeAux (s + 7) (a + b.toNat % 128 * 2 ^ s) d with
        | none => exact .inl rfl
        | some p => exact .inr ⟨rfl, p.1, p.2, rfl, by have := (decodeSizeAux_some _ _ _ hp).1; omega⟩
    · rw [if_neg hbig]
      by_cases hlt : b.toNat < 128
      · rw [if_pos hlt, if_pos hlt]
        exact .inl rfl
      · rw [if_neg hlt, if_neg hlt]
        exact rsDecodeSizeAux_cases d _ _

/-! ### copy operation -/

theorem emitLE_flags_length (k n : Nat) : (emitLE k n).1.length = k := by
  induction k generalizing n with
  | zero => simp [emitLE]
  | succ k ih => simp only [emitLE]; split <;> simp [ih]

theorem readLE_emitLE (k : Nat) : ∀ (n : Nat) (r : Bytes), n < 256 ^ k →
    readLE (emitLE k n).1 ((emitLE k n).2 ++ r) = some (n, r) := by
  induction k with
  | zero => intro n r h; simp at h; simp [emitLE, readLE, h]
  | succ k ih =>
    intro n r h
    have hq : n / 256 < 256 ^ k := by
      rw [Nat.pow_succ] at h
      exact Nat.div_lt_of_lt_mul (by rw [Nat.mul_comm]; exact h)
    simp only [emitLE]
    split
    · simp only [readLE, ih (n / 256) r hq, Option.map_some]
      congr 2; omega
    · have hb : (UInt8.ofNat (n % 256)).toNat = n % 256 := u8_toNat_ofNat (Nat.mod_lt _ (by decide))
      simp only [List.cons_append, readLE, ih (n / 256) r hq, Option.map_some, hb]
      congr 2; omega

theorem readLE_append_false (fl : List Bool) (d : Bytes) :
    readLE (fl ++ [false]) d = readLE fl d := by
  induction fl generalizing d with
  | nil => simp [readLE]
  | cons b fl ih =>
    cases b with
    | false => simp [readLE, ih]
    | true =>
      cases d with
      | nil => simp [readLE]
      | cons x d => simp [readLE, ih]

theorem bitsVal_append_false (fl : List Bool) : bitsVal (fl ++ [false]) = bitsVal fl := by
  induction fl with
  | nil => rfl
  | cons b fl ih => simp [bitsVal, ih]

theorem bitsVal_lt (fl : List Bool) : bitsVal fl < 2 ^ fl.length := by
  induction fl with
  | nil => simp [bitsVal]
  | cons b fl ih => simp only [bitsVal, List.length_cons, Nat.pow_succ]; split <;> omega

/-- `m` stands for the bits of `x` above the `k` that `bitsOf` looks at. -/
theorem bitsOf_of_eq : ∀ (fl : List Bool) {k x : Nat} (m : Nat), fl.length = k → x = bitsVal fl + 2 ^ k * m →
    bitsOf k x = fl
  | [], _, _, _, rfl, _ => rfl
  | b :: fl, _, x, m, rfl, h => by
    rw [List.length_cons, Nat.pow_succ, Nat.mul_right_comm, bitsVal] at h
    have hx : x / 2 = bitsVal fl + 2 ^ fl.length * m ∧ decide (x % 2 = 1) = b := by
      generalize 2 ^ fl.length * m = P at h
      cases b <;> simp at h ⊢ <;> omega
    rw [List.length_cons, bitsOf, bitsOf_of_eq fl m rfl hx.1, hx.2]

theorem readLE_suffix : ∀ {fl : List Bool} {d r : Bytes} {v : Nat}, readLE fl d = some (v, r) → ∃ m, d = m ++ r
  | [], d, r, v, h => ⟨[], by cases h; rfl⟩
  | false :: fl, d, r, v, h => by
    obtain ⟨⟨v', r'⟩, h1, h2⟩ := Option.map_eq_some_iff.mp h
    cases h2
    exact readLE_suffix h1
  | true :: fl, x :: d, r, v, h => by
    obtain ⟨⟨v', r'⟩, h1, h2⟩ := Option.map_eq_some_iff.mp h
    cases h2
    obtain ⟨m, rfl⟩ := readLE_suffix h1
    exact ⟨x :: m, rfl⟩

/-- `decodeCopy` is given the opcode as `applyLoop` gives it, `cmd.toNat` apart from the argument bytes.  A zero length is
written with no length byte and read back as `Gen.copyZeroSize` (0x10000), as in git; `emitCopy` never writes one. -/
theorem copy_roundtrip (off len : Nat) (r : Bytes) (ho : off < 2 ^ 32) (hl : len < 2 ^ 16) :
    ∃ cmd args, encodeCopy off len = cmd :: args ∧ 128 ≤ cmd.toNat ∧
      decodeCopy cmd.toNat (args ++ r) = some (off, (if len = 0 then Gen.copyZeroSize else len), r) := by
  have e4 : Gen.copyOffsetBytes = 4 := rfl
  have e2 : Gen.copyLengthBytes = 2 := rfl
  have a4 : Gen.applyOffsetBytes = 4 := rfl
  have a3 : Gen.applySizeBytes = 3 := rfl
  have lo := emitLE_flags_length 4 off
  have ll := emitLE_flags_length 2 len
  have bo := bitsVal_lt (emitLE 4 off).1
  have bl := bitsVal_lt (emitLE 2 len).1
  rw [lo] at bo; rw [ll] at bl
  refine ⟨_, _, rfl, ?_⟩
  rw [e4, e2, u8_toNat_ofNat (by omega)]
  refine ⟨by omega, ?_⟩
  unfold decodeCopy
  rw [a4, a3]
  -- bits 0-3 of the opcode are the offset flags; above them sit the length flags and bit 7, i.e. `8 + …`
  have h1 : bitsOf 4 (128 + bitsVal (emitLE 4 off).1 + 16 * bitsVal (emitLE 2 len).1) = (emitLE 4 off).1 :=
    bitsOf_of_eq _ (8 + bitsVal (emitLE 2 len).1) lo (by omega)
  -- the encoder sets two length flags, the decoder looks at three size flags (bits 4-6): the third is `false`,
  -- and bit 7 is the `* 1` above them
  have h2 : bitsOf 3 ((128 + bitsVal (emitLE 4 off).1 + 16 * bitsVal (emitLE 2 len).1) / 16)
      = (emitLE 2 len).1 ++ [false] :=
    bitsOf_of_eq _ 1 (by rw [List.length_append, ll]; rfl) (by rw [bitsVal_append_false]; omega)
  rw [h1, h2, List.append_assoc, readLE_emitLE 4 off _ (by omega)]
  simp only [readLE_append_false]
  rw [readLE_emitLE 2 len r (by omega)]

/-! ### the opcode loop

What the emitters write (`applyLoop_encodeCopy` … `apply_emitOps`) is run with the fuel `applyDelta` passes, the length of
what is left of the delta; `applyLoop_fuel` brings any other sufficient fuel to that. -/

theorem decodeCopy_suffix {cmd : Nat} {rest r2 : Bytes} {off sz : Nat}
    (h : decodeCopy cmd rest = some (off, sz, r2)) : ∃ m, rest = m ++ r2 := by
  unfold decodeCopy at h
  split at h
  · cases h
  · rename_i off' r1 h1
    split at h
    · cases h
    · rename_i sz0 r2' h2
      simp only [Option.some.injEq, Prod.mk.injEq] at h
      obtain ⟨_, _, rfl⟩ := h
      obtain ⟨m1, rfl⟩ := readLE_suffix h1
      obtain ⟨m2, rfl⟩ := readLE_suffix h2
      exact ⟨m1 ++ m2, (List.append_assoc ..).symm⟩

theorem applyLoop_copy_none {src : Bytes} {D f : Nat} {cmd : UInt8} {rest out : Bytes} (hc : cmd.toNat ≥ 128)
    (hdc : decodeCopy cmd.toNat rest = none) : applyLoop src D (f + 1) (cmd :: rest) out = .error .delta := by
  rw [applyLoop, if_pos hc, hdc]

theorem applyLoop_copy {src : Bytes} {D f : Nat} {cmd : UInt8} {rest out r2 : Bytes} {off sz : Nat}
    (hc : cmd.toNat ≥ 128) (hdc : decodeCopy cmd.toNat rest = some (off, sz, r2)) :
    applyLoop src D (f + 1) (cmd :: rest) out =
      if off + sz > src.length ∨ sz > D then (if r2.isEmpty then finish D out else .error .delta)
      else applyLoop src D f r2 (out ++ (src.drop off).take sz) := by
  rw [applyLoop, if_pos hc, hdc]

theorem applyLoop_insert {src : Bytes} {D f : Nat} {cmd : UInt8} {rest out : Bytes} (hc : ¬ cmd.toNat ≥ 128) :
    applyLoop src D (f + 1) (cmd :: rest) out =
      if cmd.toNat ≠ 0 then
        if cmd.toNat > rest.length then .error .delta
        else applyLoop src D f (rest.drop cmd.toNat) (out ++ rest.take cmd.toNat)
      else .error .delta := by
  rw [applyLoop, if_neg hc]

theorem applyLoop_fuel (src : Bytes) (D : Nat) : ∀ (f g : Nat) (d out : Bytes), d.length ≤ f → d.length ≤ g →
    applyLoop src D f d out = applyLoop src D g d out
  | _, _, [], _, _, _ => by rw [applyLoop, applyLoop]
  | f + 1, g + 1, cmd :: rest, out, hf, hg => by
    rw [List.length_cons, Nat.add_le_add_iff_right] at hf hg
    by_cases hc : cmd.toNat ≥ 128
    · cases hdc : decodeCopy cmd.toNat rest with
      | none => rw [applyLoop_copy_none hc hdc, applyLoop_copy_none hc hdc]
      | some p =>
        obtain ⟨off, sz, r2⟩ := p
        obtain ⟨m, hm⟩ := decodeCopy_suffix hdc
        rw [hm, List.length_append] at hf hg
        rw [applyLoop_copy hc hdc, applyLoop_copy hc hdc, applyLoop_fuel src D f g r2 _ (by omega) (by omega)]
    · rw [applyLoop_insert hc, applyLoop_insert hc, applyLoop_fuel src D f g (rest.drop cmd.toNat) _
        (by rw [List.length_drop]; omega) (by rw [List.length_drop]; omega)]

theorem applyLoop_encodeCopy (src : Bytes) (D off n : Nat) (rest out : Bytes)
    (ho : off < 2 ^ 32) (hn0 : 0 < n) (hn : n < 2 ^ 16) (hs : off + n ≤ src.length) (hD : n ≤ D) :
    applyLoop src D (encodeCopy off n ++ rest).length (encodeCopy off n ++ rest) out
      = applyLoop src D rest.length rest (out ++ (src.drop off).take n) := by
  obtain ⟨cmd, args, he, h128, hdc⟩ := copy_roundtrip off n rest ho hn
  rw [he, List.cons_append, List.length_cons, applyLoop_copy h128 hdc, if_neg (Nat.ne_of_gt hn0), if_neg (by omega)]
  exact applyLoop_fuel src D _ _ rest _ (by rw [List.length_append]; omega) (Nat.le_refl _)

theorem applyLoop_emitCopy (src : Bytes) (D : Nat) : ∀ (fuel off len : Nat) (rest out : Bytes),
    len < fuel → off + len ≤ src.length → off + len ≤ 2 ^ 32 → len ≤ D →
    applyLoop src D (emitCopy fuel off len ++ rest).length (emitCopy fuel off len ++ rest) out
      = applyLoop src D rest.length rest (out ++ (src.drop off).take len)
  | fuel + 1, off, len, rest, out, hl, hs, h32, hD => by
    rw [emitCopy]
    split
    · rename_i h0
      rw [h0, List.take_zero, List.append_nil, List.nil_append]
    · generalize hn : min len Gen.maxCopyLen = n
      have hn' : 0 < n ∧ n ≤ len ∧ n < 2 ^ 16 := by rw [← hn, show Gen.maxCopyLen = 65535 from rfl]; omega
      rw [List.append_assoc, applyLoop_encodeCopy src D off n _ out (by omega) hn'.1 hn'.2.2 (by omega) (by omega),
        applyLoop_emitCopy src D fuel (off + n) (len - n) rest _ (by omega) (by omega) (by omega) (by omega),
        List.append_assoc, ← List.drop_drop, ← List.take_add, Nat.add_sub_cancel' hn'.2.1]

theorem applyLoop_insertChunk (src : Bytes) (D : Nat) (data rest out : Bytes)
    (h0 : 0 < data.length) (h127 : data.length ≤ 127) :
    applyLoop src D (UInt8.ofNat data.length :: data ++ rest).length (UInt8.ofNat data.length :: data ++ rest) out
      = applyLoop src D rest.length rest (out ++ data) := by
  have ht : (UInt8.ofNat data.length).toNat = data.length := u8_toNat_ofNat (by omega)
  rw [List.cons_append, List.length_cons, applyLoop_insert (by omega), ht, if_pos (Nat.ne_of_gt h0),
    if_neg (by rw [List.length_append]; omega), List.drop_left, List.take_left]
  exact applyLoop_fuel src D _ _ rest _ (by rw [List.length_append]; omega) (Nat.le_refl _)

theorem applyLoop_emitInsert (src : Bytes) (D : Nat) : ∀ (fuel : Nat) (data rest out : Bytes),
    data.length < fuel → 0 < data.length →
    applyLoop src D (emitInsert fuel data ++ rest).length (emitInsert fuel data ++ rest) out
      = applyLoop src D rest.length rest (out ++ data)
  | fuel + 1, data, rest, out, hl, h0 => by
    rw [emitInsert, show Gen.maxInsertLen = 127 from rfl]
    split
    · have hlt : (data.take 127).length = 127 := by rw [List.length_take]; omega
      have hdl := List.length_drop (i := 127) (l := data)
      rw [show (UInt8.ofNat 127 : UInt8) = UInt8.ofNat (data.take 127).length by rw [hlt], List.append_assoc,
        applyLoop_insertChunk src D (data.take 127) _ out (by omega) (by omega),
        applyLoop_emitInsert src D fuel (data.drop 127) rest _ (by omega) (by omega), List.append_assoc,
        List.take_append_drop]
    · exact applyLoop_insertChunk src D data rest out h0 (by omega)

theorem apply_emitOps (src : Bytes) (D : Nat) : ∀ (ops : List Op) (out : Bytes),
    OpsValid src ops → src.length ≤ 2 ^ 32 →
    (∀ d, Op.insert d ∈ ops → 0 < d.length) →
    out.length + (opsTarget src ops).length = D →
    applyLoop src D (emitOps ops).length (emitOps ops) out = .ok (out ++ opsTarget src ops)
  | [], out, _, _, _, hD => by
    rw [emitOps, opsTarget, List.append_nil, applyLoop, finish, if_pos (by simpa [opsTarget] using hD)]
  | .copy off len :: ops, out, hv, h32, hins, hD => by
    have htl : ((src.drop off).take len).length = len := by rw [List.length_take, List.length_drop]; have := hv.1; omega
    rw [opsTarget, List.length_append, htl] at hD
    rw [emitOps, applyLoop_emitCopy src D (len + 1) off len (emitOps ops) out (Nat.lt_succ_self _) hv.1
      (by have := hv.1; omega)
      (by omega), apply_emitOps src D ops _ hv.2 h32 (fun d hd => hins d (List.mem_cons_of_mem _ hd))
      (by rw [List.length_append, htl]; omega), opsTarget, List.append_assoc]
  | .insert data :: ops, out, hv, h32, hins, hD => by
    rw [opsTarget, List.length_append] at hD
    rw [emitOps, applyLoop_emitInsert src D (data.length + 1) data (emitOps ops) out (Nat.lt_succ_self _)
      (hins data List.mem_cons_self), apply_emitOps src D ops _ hv h32 (fun d hd => hins d (List.mem_cons_of_mem _ hd))
      (by rw [List.length_append]; omega), opsTarget, List.append_assoc]

/-- What `applyLoop src D f d out` may return, `out` being the output so far on entry: the delta error, or a result of the
declared length `D`, built from slices if `out` was.  `out.length ≤ res.length` is there for `applyLoop_overflow`. -/
def RunOk (src delta : Bytes) (D : Nat) (out : Bytes) : Except Err Bytes → Prop
  | .ok res => res.length = D ∧ out.length ≤ res.length ∧ (Built src delta out → Built src delta res)
  | .error e => e = .delta

theorem finish_runOk (src delta : Bytes) (D : Nat) (out : Bytes) : RunOk src delta D out (finish D out) := by
  rw [finish]
  split
  · exact ⟨‹_›, Nat.le_refl _, id⟩
  · exact rfl

theorem RunOk.mono {src delta : Bytes} {D : Nat} {out out' : Bytes} {r : Except Err Bytes}
    (h : RunOk src delta D out' r) (hl : out.length ≤ out'.length) (hb : Built src delta out → Built src delta out') :
    RunOk src delta D out r := by
  cases r with
  | ok res => exact ⟨h.1, Nat.le_trans hl h.2.1, fun b => h.2.2 (hb b)⟩
  | error e => exact h

theorem applyLoop_runOk (src delta : Bytes) (D : Nat) : ∀ (f : Nat) (d out pre : Bytes),
    delta = pre ++ d → d.length ≤ f → RunOk src delta D out (applyLoop src D f d out)
  | _, [], out, _, _, _ => by rw [applyLoop]; exact finish_runOk ..
  | f + 1, cmd :: rest, out, pre, hpre, hf => by
    rw [List.length_cons, Nat.add_le_add_iff_right] at hf
    by_cases hc : cmd.toNat ≥ 128
    · cases hdc : decodeCopy cmd.toNat rest with
      | none => rw [applyLoop_copy_none hc hdc]; exact rfl
      | some p =>
        obtain ⟨off, sz, r2⟩ := p
        obtain ⟨m, hm⟩ := decodeCopy_suffix hdc
        rw [applyLoop_copy hc hdc]
        by_cases hbrk : off + sz > src.length ∨ sz > D
        · rw [if_pos hbrk]
          split
          · exact finish_runOk ..
          · exact rfl
        · rw [if_neg hbrk]
          exact (applyLoop_runOk src delta D f r2 _ (pre ++ cmd :: m) (by rw [hpre, hm, List.append_assoc]; rfl)
            (by rw [hm, List.length_append] at hf; omega)).mono (by rw [List.length_append]; omega)
            fun hb => Built.base out off sz hb (by omega)
    · rw [applyLoop_insert hc]
      by_cases h0 : cmd.toNat ≠ 0
      · rw [if_pos h0]
        by_cases hlen : cmd.toNat > rest.length
        · rw [if_pos hlen]; exact rfl
        · rw [if_neg hlen]
          refine (applyLoop_runOk src delta D f (rest.drop cmd.toNat) _ (pre ++ cmd :: rest.take cmd.toNat)
            (by rw [hpre, List.append_assoc, List.cons_append, List.take_append_drop])
            (by rw [List.length_drop]; omega)).mono (by rw [List.length_append]; omega) fun hb => ?_
          have : rest.take cmd.toNat = (delta.drop (pre.length + 1)).take cmd.toNat := by rw [hpre]; simp
          rw [this]
          exact Built.lit out (pre.length + 1) cmd.toNat hb (by
            rw [hpre, List.length_append, List.length_cons]; omega)
      · rw [if_neg h0]; exact rfl

theorem applyDelta_runOk (src delta : Bytes) :
    declaredDest delta = none ∧ applyDelta src delta = .error .delta ∨
      ∃ D, declaredDest delta = some D ∧ RunOk src delta D [] (applyDelta src delta) := by
  unfold applyDelta declaredDest
  cases h1 : decodeSize delta with
  | none => exact .inl ⟨rfl, rfl⟩
  | some p1 =>
    obtain ⟨s, d1⟩ := p1
    simp only
    cases h2 : decodeSize d1 with
    | none => exact .inl ⟨rfl, rfl⟩
    | some p2 =>
      obtain ⟨D, d2⟩ := p2
      simp only [Option.map_some]
      by_cases hne : s ≠ src.length
      · rw [if_pos hne]
        exact .inr ⟨D, rfl, rfl⟩
      · obtain ⟨m1, hm1⟩ := (decodeSizeAux_some _ _ _ h1).2
        obtain ⟨m2, hm2⟩ := (decodeSizeAux_some _ _ _ h2).2
        rw [if_neg hne]
        exact .inr ⟨D, rfl, applyLoop_runOk src delta D d2.length d2 [] (m1 ++ m2) (by rw [hm1, hm2, List.append_assoc])
          (Nat.le_refl _)⟩

/-- Rust's `Option` as Python's result, the way `applyDeltaRs` reads its loop: `none` is the delta error. -/
def ofRs : Option Bytes → Except Err Bytes
  | some r => .ok r
  | none => .error .delta

theorem applyLoop_overflow (src : Bytes) (D f : Nat) (d out : Bytes) (hf : d.length ≤ f) (hov : D < out.length) :
    applyLoop src D f d out = .error .delta := by
  -- only the length part of `RunOk` is wanted, so `d`, what is left of the delta, stands for the whole (`pre := []`)
  have := applyLoop_runOk src d D f d out [] rfl hf
  cases h : applyLoop src D f d out with
  | ok res => rw [h] at this; obtain ⟨h1, h2, _⟩ := this; omega
  | error e => rw [h] at this; rw [show e = .delta from this]

/-- Rust checks the output bound before each write and stops; Python writes on and fails at the end, which
`applyLoop_overflow` turns into the same error. -/
theorem rsLoop_eq_pyLoop (src : Bytes) (D : Nat) : ∀ (f : Nat) (d out : Bytes), d.length ≤ f →
    ofRs (rsApplyLoop src D f d out) = applyLoop src D f d out
  | _, [], out, _ => by rw [rsApplyLoop, applyLoop, finish]; split <;> rfl
  | f + 1, cmd :: rest, out, hf => by
    rw [List.length_cons, Nat.add_le_add_iff_right] at hf
    rw [rsApplyLoop, applyLoop, decodeCopy]
    simp only [show Gen.rsApplyOffsetBytes = Gen.applyOffsetBytes from rfl,
      show Gen.rsApplySizeBytes = Gen.applySizeBytes from rfl, show Gen.rsCopyZeroSize = Gen.copyZeroSize from rfl]
    by_cases hc : cmd.toNat ≥ 128
    · rw [if_pos hc, if_pos hc]
      cases h1 : readLE (bitsOf Gen.applyOffsetBytes cmd.toNat) rest with
      | none => rfl
      | some p1 =>
        obtain ⟨off, r1⟩ := p1
        simp only
        cases h2 : readLE (bitsOf Gen.applySizeBytes (cmd.toNat / 16)) r1 with
        | none => rfl
        | some p2 =>
          obtain ⟨sz0, r2⟩ := p2
          have hl : r2.length ≤ f := by
            obtain ⟨m1, rfl⟩ := readLE_suffix h1
            obtain ⟨m2, rfl⟩ := readLE_suffix h2
            simp only [List.length_append] at hf
            omega
          simp only
          generalize (if sz0 = 0 then Gen.copyZeroSize else sz0) = sz
          by_cases hbrk : off + sz > src.length ∨ sz > D
          · rw [if_pos (by omega), if_pos hbrk, finish]
            split
            · split <;> rfl
            · rfl
          · rw [if_neg (by omega), if_neg hbrk]
            by_cases hov : out.length > D - sz
            · rw [if_pos hov, applyLoop_overflow src D f r2 _ hl (by
                rw [List.length_append, List.length_take, List.length_drop]; omega)]
              rfl
            · rw [if_neg hov]
              exact rsLoop_eq_pyLoop src D f r2 _ hl
    · rw [if_neg hc, if_neg hc]
      by_cases h0 : cmd.toNat ≠ 0
      · have hd : (rest.drop cmd.toNat).length ≤ f := by rw [List.length_drop]; omega
        rw [if_pos h0, if_pos h0]
        by_cases hlen : cmd.toNat > rest.length
        · rw [if_pos hlen, if_pos hlen]
          split
          · rfl
          · split <;> rfl
        · rw [if_neg hlen, if_neg hlen]
          by_cases hov : cmd.toNat > D ∨ out.length + cmd.toNat > D
          · rw [applyLoop_overflow src D f _ _ hd (by rw [List.length_append, List.length_take]; omega)]
            split
            · rfl
            · rw [if_pos (by omega)]; rfl
          · rw [if_neg (by omega), if_neg (by omega)]
            exact rsLoop_eq_pyLoop src D f _ _ hd
      · rw [if_neg h0, if_neg h0]; rfl

end Dulwich.Delta
