/- A stream handed over in chunks.  `foldl_chunks_inv` lifts what one step keeps to the fold over all chunks.
`trailer_step` is such a step: `PackStreamReader._read` is modelled twice, by `Pack.feed` (C02) and by
`PktLine.trailerStep` (C19), over two structures with the same two fields; what one call does is stated here about the
fields, so that both models get it by unfolding. -/
import DulwichModel.Model.Basic

namespace Dulwich

theorem foldl_chunks_inv {σ : Type} (step : σ → Bytes → σ) (I : σ → Bytes → Prop)
    (hstep : ∀ s P c, I s P → I (step s c) (P ++ c)) :
    ∀ (cs : List Bytes) (s : σ) (P : Bytes), I s P → I (cs.foldl step s) (P ++ cs.flatten)
  | [], _, _, h => by rw [List.flatten_nil, List.append_nil]; exact h
  | c :: cs, s, P, h => by
    rw [List.flatten_cons, ← List.append_assoc]
    exact foldl_chunks_inv step I hstep cs _ _ (hstep s P c h)

/-- One `_read` that returned `data`, with hash size `h`.  The `let`s are the code's `to_pop`, `to_add`,
`data[-to_add:]` and `data[:-to_add]` (for `to_add = 0` Python's `-0` makes these `data` and `b""`). -/
theorem trailer_step (h : Nat) (hh : 0 < h) (hashed trailer total data : Bytes)
    (h1 : hashed ++ trailer = total) (h2 : trailer.length = min h total.length) :
    let toPop := if data.length ≥ h then trailer.length else data.length + trailer.length - h
    let toAdd := if data.length ≥ h then h else data.length
    let keep := if toAdd = 0 then data else data.drop (data.length - toAdd)
    let upd := if toAdd = 0 then [] else data.take (data.length - toAdd)
    (hashed ++ trailer.take toPop ++ upd) ++ (trailer.drop toPop ++ keep) = total ++ data ∧
      (trailer.drop toPop ++ keep).length = min h (total ++ data).length := by
  subst h1
  rw [List.length_append] at h2
  dsimp only
  by_cases hn : data.length ≥ h
  · simp [hn, Nat.ne_of_gt hh]
    rw [Nat.sub_sub_self hn, Nat.min_eq_left (by omega)]
  · simp [hn]
    exact ⟨by rw [← List.append_assoc, List.take_append_drop], by omega⟩

end Dulwich
