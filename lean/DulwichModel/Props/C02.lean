/-
  C02 — pack and pack-index round trip, internally consistent.

  The models are Model/Pack.lean and Model/PackIndex.lean; their masks, shifts, type numbers, magics and
  table offsets come from Gen/Pack.lean, which the translator regenerates from /repo on every run.
-/
import DulwichModel.Lemmas.Pack
import DulwichModel.Lemmas.PackIndex
import DulwichModel.Props.C03

namespace Dulwich.Props.C02
open Dulwich Dulwich.Pack Dulwich.Delta Dulwich.PackIndex

/-! ## 0. the shape the model assumes of the code (regenerated constants that are not numeric parameters) -/

/-- `raw[0]`, `raw[1:]`, `raw[-1]`, `ret.insert(0, …)`, `(start + end) // 2`, `i + 1`, `i - 1`,
`while start <= end`, `== 0`: positions and steps the model hard-wires as list patterns. -/
theorem shape_constants :
    [Gen.Pack.dhFirst, Gen.Pack.dhFirst2, Gen.Pack.dhRestFrom, Gen.Pack.doLast, Gen.Pack.doFirst,
      Gen.Pack.doRestFrom, Gen.Pack.doZero, Gen.Pack.ofsInsertPos, Gen.Pack.bisectDiv, Gen.Pack.bisectUp,
      Gen.Pack.bisectDown, Gen.Pack.bisectInclusive]
      = [0, 0, 1, 1, 0, 1, 0, 0, 2, 1, 1, 1] := by decide +kernel

/-! ## 1. object header: type + size varint, any trailing bytes -/

/-- `_decode_object_header(take_msb_bytes(pack_object_header(ty, size) ++ rest)) = (ty, size)`, leaving
exactly `rest`: every type number that fits the 3-bit field, every size (no upper bound). -/
theorem objheader_roundtrip (ty size : Nat) (rest : Bytes) (hty : ty < 8) :
    decodeObjHeader (encodeObjHeader ty size ++ rest) = some (ty, size, rest) := by
  simp only [decodeObjHeader, takeMsb_encodeObjHeader ty size rest hty, decodeObjHeaderRaw_encodeObjHeader ty size hty]

/-- Non-vacuity / boundary instances: sizes 15/16 (4-bit group), 2047/2048 (first 7-bit group), 65536. -/
example : encodeObjHeader 3 15 = [0x3f] ∧ encodeObjHeader 3 16 = [0xb0, 0x01]
    ∧ encodeObjHeader 3 2047 = [0xbf, 0x7f] ∧ encodeObjHeader 3 2048 = [0xb0, 0x80, 0x01]
    ∧ decodeObjHeader (encodeObjHeader 7 65536 ++ [0xff, 0x80]) = some (7, 65536, [0xff, 0x80]) := by
  refine ⟨by decide +kernel, by decide +kernel, by decide +kernel, by decide +kernel, ?_⟩
  exact objheader_roundtrip 7 65536 _ (by decide)

/-! ## 2. OFS_DELTA distance: the +1-biased base-128 code, all n > 0, any trailing bytes -/

theorem ofs_roundtrip (n : Nat) (rest : Bytes) (hn : 0 < n) :
    decodeOfs (encodeOfs n ++ rest) = some (.ok n, rest) := by
  simp only [decodeOfs, takeMsb_encodeOfs n rest, decodeOfsRaw_encodeOfs, if_neg (Nat.pos_iff_ne_zero.mp hn)]

/-- Why `n > 0`: distance 0 is encodable but the decoder refuses it (`ApplyDeltaError`). -/
theorem ofs_zero_rejected (rest : Bytes) : decodeOfs (encodeOfs 0 ++ rest) = some (.error .delta, rest) := by
  simp only [decodeOfs, takeMsb_encodeOfs 0 rest, decodeOfsRaw_encodeOfs, if_true]

/-- Boundary instances of the bias: 127/128 (one/two bytes), 16511/16512 (two/three bytes). -/
example : encodeOfs 127 = [0x7f] ∧ encodeOfs 128 = [0x80, 0x00] ∧ encodeOfs 16511 = [0xff, 0x7f]
    ∧ encodeOfs 16512 = [0x80, 0x80, 0x00] ∧ decodeOfs (encodeOfs 16512 ++ [0x80]) = some (.ok 16512, [0x80]) := by
  refine ⟨by decide +kernel, by decide +kernel, by decide +kernel, by decide +kernel, ?_⟩
  exact ofs_roundtrip 16512 _ (by decide)

/-! ## 3. trailer tracking under every chunking (`PackStreamReader._read`) -/

/-- Whatever way a stream `D` is cut into the chunks the read callbacks return (empty chunks included),
after feeding them all the running hash has been given exactly `D` minus its last `hs` bytes and the
deque holds exactly those last `hs` bytes (all of `D` while it is shorter than `hs`). -/
theorem trailer_tracking (hs : Nat) (hhs : 0 < hs) (chunks : List Bytes) :
    feedAll hs chunks
      = ⟨chunks.flatten.take (chunks.flatten.length - hs), chunks.flatten.drop (chunks.flatten.length - hs)⟩ := by
  obtain ⟨h1, h2⟩ := foldl_feed_invariant hs hhs chunks ⟨[], []⟩ [] rfl (Nat.zero_le _ |> Nat.min_eq_right).symm
  -- a state whose parts make up `D` and whose deque has `min hs |D|` bytes is the split of `D` at `|D| - hs`
  rw [feedAll]
  generalize chunks.foldl (feed hs) ⟨[], []⟩ = s at h1 h2
  generalize chunks.flatten = D at h1 h2
  obtain ⟨hashed, trailer⟩ := s
  rw [List.nil_append] at h1 h2
  change hashed ++ trailer = D at h1
  subst h1
  rw [show (hashed ++ trailer).length - hs = hashed.length by
    change trailer.length = _ at h2; rw [List.length_append] at h2 ⊢; omega, List.take_left, List.drop_left]

example : feedAll 3 [[1, 2], [], [3], [4, 5]] = ⟨[1, 2], [3, 4, 5]⟩ := by decide +kernel

/-! ## 4. pack framing: what `write_pack_data` writes is what the readers read -/

/-- **Sequential round trip.**  With zlib as a parameter (`inflate (deflate x ++ rest) = some (x, rest)`) and a
trailer hash of `hs > 0` bytes, the pack `write_pack_data` produces for *any* list of well-formed records —
full objects, deltas whose base was written earlier (emitted as OFS_DELTA with the +1-biased distance) and
deltas whose base was not (emitted as REF_DELTA) — is accepted by `PackData` and `iter_unpacked` yields, in
order, exactly the entries the writer meant: same offsets, same pack types, same base references, same
payload bytes. -/
theorem pack_sequential_roundtrip (deflate : Bytes → Bytes) (inflate : Bytes → Option (Bytes × Bytes))
    (H : Bytes → Bytes) (hs : Nat) (recs : List Rec)
    (hz : ZlibOk deflate inflate) (hhs : 0 < hs) (hH : ∀ x, (H x).length = hs)
    (hwf : ∀ r ∈ recs, wfRec hs r = true) (hn : recs.length < 2 ^ 32) :
    readPackSeq inflate hs (writePack deflate H recs).1 = .ok (layoutRecs deflate 12 [] recs) := by
  rw [writePack_fst]
  generalize hT : H _ = T
  have hTl : T.length = hs := hT ▸ hH _
  have hTne : T ≠ [] := List.ne_nil_of_length_pos (hTl ▸ hhs)
  have hpl := packHeader_length recs.length
  unfold readPackSeq
  rw [if_neg (by simp only [List.length_append, hpl, hTl, Gen.Pack.packHeaderSize]; omega),
    readPackHeader_packHeader recs.length hn]
  simp only
  rw [List.drop_left' (show _ = Gen.Pack.packHeaderSize from hpl),
    parseEntries_writeRecs deflate inflate hz hs T hTne recs 12 _ [] hwf (by simp) (by rw [List.length_append, hpl])]

/-- **Offsets and CRC ranges are consistent.**  Every `(name, offset, raw)` the writer records (the index is
written from these; the CRC-32 is taken over `raw`) satisfies `pack[offset : offset + len raw] = raw`. -/
theorem crc_ranges_consistent (deflate : Bytes → Bytes) (H : Bytes → Bytes) (recs : List Rec) :
    ∀ e ∈ (writePack deflate H recs).2,
      slice (writePack deflate H recs).1 e.offset e.raw.length = e.raw := by
  intro e he
  rw [writePack_snd] at he
  rw [writePack_fst]
  exact (writeRecs_ranges deflate recs 12 [] (packHeader recs.length) _ (packHeader_length _) e he).resolve_left
    List.not_mem_nil

/-- **Random access round trip (bases precede).**  If the record list denotes objects `objs`
(`objectsOf recs = .ok objs`: every delta names a base that occurs *earlier* in the list — so the writer
emits it as OFS_DELTA — and applies to it), then in the written pack every recorded entry, resolved by
`Pack.resolve_object` from its recorded offset (walk down the OFS chain of any depth, apply the deltas
back up), yields exactly the type and content the list denotes; fuel `= number of records` suffices, so
the walk terminates.  `lookup` (the index, used for REF_DELTA only) is arbitrary. -/
theorem pack_random_access (deflate : Bytes → Bytes) (inflate : Bytes → Option (Bytes × Bytes))
    (H : Bytes → Bytes) (hs : Nat) (recs : List Rec) (objs : List (Bytes × Nat × Bytes))
    (lookup : Bytes → Except Err Nat)
    (hz : ZlibOk deflate inflate) (hhs : 0 < hs) (hH : ∀ x, (H x).length = hs)
    (hwf : ∀ r ∈ recs, wfRec hs r = true) (hobj : objectsOf recs = .ok objs) :
    List.Forall₂
      (fun e a => e.name = a.1 ∧
        resolveAt inflate hs lookup (writePack deflate H recs).1 recs.length e.offset = .ok (a.2.1, a.2.2))
      (writePack deflate H recs).2 objs := by
  rw [writePack_fst, writePack_snd]
  generalize hT : H _ = T
  have hparse := parseAt_layout deflate inflate hz hs T (List.ne_nil_of_length_pos (hT ▸ hH _ ▸ hhs)) recs 12 []
    (packHeader recs.length) (packHeader_length _) hwf (by simp)
  exact resolve_layout deflate inflate hs lookup _ recs 12 0 [] [] objs hparse (fun _ _ => .nil) (Nat.le_refl _)
    (by simp) hobj _ (Nat.le_of_eq (Nat.zero_add _))

/-- **Deltified records denote their targets** (the link to C03).  A record whose payload is
`create_delta(base content, target)` — for *any* opcode list that stays inside the base, as C03 proves
for difflib's, `similar`'s and git's — contributes the target, with the base's type, to `objectsOf`. -/
theorem deltified_record_denotes_target (acc : List (Bytes × Nat × Bytes)) (rs : List Rec)
    (name bname : Bytes) (ty : Nat) (a : Bytes × Nat × Bytes) (ops : List Op)
    (hfind : acc.find? (fun x => x.1 = bname) = some a)
    (hv : Dulwich.Props.C03.OpsValid a.2.2 ops) (h32 : a.2.2.length ≤ 2 ^ 32)
    (hins : ∀ d, Op.insert d ∈ ops → 0 < d.length) :
    resolveRecs acc (⟨name, ty, some bname, createDelta a.2.2 ops⟩ :: rs)
      = resolveRecs ((name, a.2.1, opsTarget a.2.2 ops) :: acc) rs := by
  simp only [resolveRecs, hfind, Dulwich.Props.C03.apply_create a.2.2 ops hv h32 hins]

/-- Non-vacuity: a blob, an OFS delta on it, and a delta on the delta (chain depth 2), with a toy "zlib"
(`deflate x = len x :: x`).  All hypotheses of `pack_sequential_roundtrip` / `pack_random_access` hold and
random access to the last entry gives the twice-patched content. -/
example :
    let deflate : Bytes → Bytes := fun x => UInt8.ofNat x.length :: x
    let inflate : Bytes → Option (Bytes × Bytes) := fun b =>
      match b with | [] => none | n :: r => some (r.take n.toNat, r.drop n.toNat)
    let H : Bytes → Bytes := fun _ => [0xaa]
    let base : Bytes := [1, 2, 3, 4, 5]
    let recs : List Rec := [⟨[1], 3, none, base⟩,
      ⟨[2], 3, some [1], createDelta base [.copy 1 3, .insert [9]]⟩,
      ⟨[3], 3, some [2], createDelta [2, 3, 4, 9] [.insert [7], .copy 0 4]⟩]
    (∀ r ∈ recs, wfRec 1 r = true) ∧
      objectsOf recs = .ok [([3], 3, [7, 2, 3, 4, 9]), ([2], 3, [2, 3, 4, 9]), ([1], 3, base)] ∧
      (layoutRecs deflate 12 [] recs).map (fun p => (p.1, p.2.ty, p.2.base))
        = [(12, 3, .none), (19, 6, .ofs 7), (29, 6, .ofs 10)] ∧
      resolveAt inflate 1 (fun _ => .error .key) (writePack deflate H recs).1 3 29 = .ok (3, [7, 2, 3, 4, 9]) := by
  refine ⟨by decide +kernel, by decide +kernel, by decide +kernel, by decide +kernel⟩

/-! ## 4b. the CRC range of an entry does not depend on how the reader slices its input -/

/-- **Slice-size independence of `read_zlib_chunks_at`.**  Whatever the slice size `B > 0` — in particular
when the zlib stream ends *exactly* at the end of a slice, `L = k·B` — the bytes fed to the CRC (and kept as
`comp_chunks` with `include_comp`) are exactly the `L` bytes of the stream and the reported end offset is
`L`; at least one byte must follow the stream (the pack trailer does). -/
theorem crc_range_independent_of_slicing (B L : Nat) (buf : Bytes) (hB : 0 < B) (hL : L < buf.length) :
    zlibWalkAt 1 B L buf (L + 1) 0 [] = some (buf.take L, L) :=
  zlibWalkAt_spec B L buf hB hL (L + 1) 0 [] (Nat.zero_le _) (Nat.le_refl _) rfl

/-- The same for the code as it is: its loop-ending condition and its slice size (`_ZLIB_BUFSIZE`) are read
from the source.  A loop that ends on `decomp_obj.eof` makes `Gen.Pack.zlibAtEndsOnUnused = 0` and this proof
fail. -/
theorem crc_range_at_default_slice (L : Nat) (buf : Bytes) (hL : L < buf.length) :
    zlibWalkAt Gen.Pack.zlibAtEndsOnUnused Gen.Pack.zlibBufSize L buf (L + 1) 0 [] = some (buf.take L, L) :=
  crc_range_independent_of_slicing Gen.Pack.zlibBufSize L buf (by decide) hL

/-- With the entry header in front (its CRC is taken byte by byte in `take_msb_bytes_at`): the CRC input of the
entry at `off`, whose zlib stream starts at `s0` and is `L` bytes long, is exactly `pack[off : s0 + L]` — the
range up to the next entry's offset — for every slice size. -/
theorem entry_crc_range (B L off s0 : Nat) (pack : Bytes) (hB : 0 < B) (hoff : off ≤ s0) (hL : s0 + L < pack.length) :
    ∃ fed, zlibWalkAt 1 B L (pack.drop s0) (L + 1) 0 [] = some (fed, L) ∧
      slice pack off (s0 - off) ++ fed = slice pack off (s0 + L - off) := by
  refine ⟨(pack.drop s0).take L, crc_range_independent_of_slicing B L _ hB (by simp; omega), ?_⟩
  simp only [slice]
  have e : s0 + L - off = (s0 - off) + L := by omega
  rw [e, List.take_add, List.drop_drop]
  congr 3
  omega

/-- **Negation witness for the `eof` variant**: a loop that ends on `decomp_obj.eof`, with a 4-byte stream read in
4-byte slices, feeds *nothing* of the last slice to the CRC (`left = 0`, and Python's `add[:-0]` is empty) while still
reporting the right end. -/
theorem crc_eof_variant_counterexample :
    zlibWalkAt 0 4 4 [1, 2, 3, 4, 9] 5 0 [] = some ([], 4) ∧
    zlibWalkAt 1 4 4 [1, 2, 3, 4, 9] 5 0 [] = some ([1, 2, 3, 4], 4) := by decide +kernel

/-- **Chunking independence of the streaming reader `read_zlib_chunks`.**  However `read_some` cuts the data
into non-empty chunks (also when a chunk ends exactly with the stream), the CRC input / `comp_chunks` are
exactly the `L` stream bytes and the `unused` bytes handed back are the non-empty continuation. -/
theorem stream_walk_independent_of_chunking (L : Nat) (chunks : List Bytes)
    (hne : ∀ c ∈ chunks, c ≠ []) (hL : L < chunks.flatten.length) :
    ∃ u tail, zlibWalkStream L chunks 0 [] = some (chunks.flatten.take L, u) ∧
      chunks.flatten = chunks.flatten.take L ++ u ++ tail ∧ u ≠ [] :=
  zlibWalkStream_spec L chunks 0 [] hne rfl (Nat.zero_le _) hL

example : zlibWalkStream 4 [[1, 2], [3, 4], [9, 8]] 0 [] = some ([1, 2, 3, 4], [9, 8]) := by decide +kernel

/-! ## 5. pack index: write → load → lookup is sound and complete (versions 2, 3 and 1) -/

/-- **Index v2 round trip.**  For every strictly sorted (hence duplicate-free) entry list with names of the
hash length (20 or 32), 32-bit CRCs and offsets below 2^64 (so also the ones ≥ 2^31 that go through the
64-bit table), the file `write_pack_index_v2` writes loads with `len = #entries` and
`fan_out[b] = #{names with first byte ≤ b}`, and `_object_offset(sha)` returns the offset of the entry named
`sha`, or `KeyError` when there is none — for **every** probe `sha` of the hash length.  (With the old call
site, `lookupWith 0 0`, the byte string after the name table can be found as a name:
`index_old_bound_phantom_counterexample`.) -/
theorem index_v2_lookup (H : Bytes → Bytes) (es : List IdxEntry) (cs sha : Bytes) (hs : Nat)
    (hhs : hs = 20 ∨ hs = 32) (hcs : cs.length = hs) (hnames : ∀ e ∈ es, e.name.length = hs)
    (hsha : sha.length = hs) (hsorted : Sorted es) (hn : es.length < 2 ^ 31)
    (hfield : ∀ e ∈ es, e.crc < 2 ^ 32 ∧ e.offset < 2 ^ 64) :
    ∃ file x, writeIndexV2 H es cs = .ok file ∧ loadIndex hs file = .ok x ∧ x.n = es.length ∧
      (∀ b, b < 256 → x.fan[b]? = some (countLe es b)) ∧
      x.lookup sha = match es.find? (fun e => decide (e.name = sha)) with
                     | some e => .ok e.offset
                     | none => .error .key := by
  have hx := facts_of_tabled _ es hs _ _ (v2Idx_tabled H es cs hs) hnames hn (fun e he => (hfield e he).2)
  -- `hn` keeps the fan-out counts and the words `2^31 + k` of the offset table within 32 bits
  -- `x.lookup` is `x.lookupWith Gen.Pack.lookupEndSlack Gen.Pack.lookupEmptyGroupIsKeyError`; `lookup_correct` is about
  -- `lookupWith 1 1` and applies because the translator reads 1 and 1 from the call site in `_object_offset`
  exact ⟨v2File H es cs, v2Idx H es cs hs, write_v2_ok H es cs hs hhs hcs hnames hfield, load_v2 H es cs hs hn, rfl,
    hx.fan_get, lookup_correct _ es hs sha hx hsha hsorted⟩

/-- **Index v3 round trip** (SHA-1: `write_pack_index_v3` implements `hash_format = 1` only). -/
theorem index_v3_lookup (H : Bytes → Bytes) (es : List IdxEntry) (cs sha : Bytes)
    (hcs : cs.length = 20) (hnames : ∀ e ∈ es, e.name.length = 20)
    (hsha : sha.length = 20) (hsorted : Sorted es) (hn : es.length < 2 ^ 31)
    (hfield : ∀ e ∈ es, e.crc < 2 ^ 32 ∧ e.offset < 2 ^ 64) :
    ∃ file x, writeIndexV3 H es cs 1 = .ok file ∧ loadIndex 20 file = .ok x ∧ x.version = 3 ∧ x.n = es.length ∧
      (∀ b, b < 256 → x.fan[b]? = some (countLe es b)) ∧
      x.lookup sha = match es.find? (fun e => decide (e.name = sha)) with
                     | some e => .ok e.offset
                     | none => .error .key := by
  have hx := facts_of_tabled _ es 20 _ _ (v3Idx_tabled H es cs) hnames hn (fun e he => (hfield e he).2)
  exact ⟨v3File H es cs, v3Idx H es cs, write_v3_ok H es cs hcs hnames hfield, load_v3 H es cs hn, rfl, rfl,
    hx.fan_get, lookup_correct _ es 20 sha hx hsha hsorted⟩

/-- **Index v1 round trip**: 20-byte names, offsets below 2^32 (the writer refuses larger ones), no CRCs. -/
theorem index_v1_lookup (H : Bytes → Bytes) (es : List IdxEntry) (cs sha : Bytes)
    (hcs : cs.length = 20) (hnames : ∀ e ∈ es, e.name.length = 20)
    (hsha : sha.length = 20) (hsorted : Sorted es) (hn : es.length < 2 ^ 31)
    (hoff : ∀ e ∈ es, e.offset < 2 ^ 32) :
    ∃ file x, writeIndexV1 H es cs = .ok file ∧ loadIndex 20 file = .ok x ∧ x.version = 1 ∧ x.n = es.length ∧
      (∀ b, b < 256 → x.fan[b]? = some (countLe es b)) ∧
      x.lookup sha = match es.find? (fun e => decide (e.name = sha)) with
                     | some e => .ok e.offset
                     | none => .error .key := by
  have hx := v1_facts H es cs hnames hoff
  exact ⟨v1File H es cs, v1Idx H es cs, write_v1_ok H es cs hcs hnames hoff, load_v1 H es cs hn, rfl, rfl,
    hx.fan_get, lookup_correct _ es 20 sha hx hsha hsorted⟩

/-- Non-vacuity: two entries, one with an offset ≥ 2^32 (64-bit table); present and absent probes, in every
version that can hold them. -/
example :
    let es : List IdxEntry := [⟨List.replicate 20 1, 12, 7⟩, ⟨List.replicate 20 2, 2 ^ 32 + 5, 9⟩]
    let es1 : List IdxEntry := [⟨List.replicate 20 1, 12, 7⟩, ⟨List.replicate 20 2, 2 ^ 32 - 1, 9⟩]
    let cs : Bytes := List.replicate 20 0xab
    let H : Bytes → Bytes := fun _ => List.replicate 20 0
    Sorted es ∧
      (v2Idx H es cs 20).lookup (List.replicate 20 2) = .ok (2 ^ 32 + 5) ∧
      (v3Idx H es cs).lookup (List.replicate 20 2) = .ok (2 ^ 32 + 5) ∧
      (v1Idx H es1 cs).lookup (List.replicate 20 2) = .ok (2 ^ 32 - 1) ∧
      (v2Idx H es cs 20).lookup (List.replicate 20 3) = .error .key := by
  intro es es1 cs H
  have hs : Sorted es := by decide
  have h2 := facts_of_tabled _ es 20 _ _ (v2Idx_tabled H es cs 20) (by decide) (by decide) (by decide)
  have h3 := facts_of_tabled _ es 20 _ _ (v3Idx_tabled H es cs) (by decide) (by decide) (by decide)
  have h1 := v1_facts H es1 cs (by decide) (by decide)
  exact ⟨hs, (lookup_correct _ es 20 _ h2 rfl hs).trans (by decide),
    (lookup_correct _ es 20 _ h3 rfl hs).trans (by decide),
    (lookup_correct _ es1 20 _ h1 rfl (by decide)).trans (by decide),
    (lookup_correct _ es 20 _ h2 rfl hs).trans (by decide)⟩

/-- What index `len(index)` of the name table holds: the `hs` bytes that follow it — the beginning of the CRC
table, or for an empty index the pack checksum itself. -/
theorem index_phantom_is_after_names (H : Bytes → Bytes) (es : List IdxEntry) (cs : Bytes) (hs : Nat)
    (hnames : ∀ e ∈ es, e.name.length = hs) :
    (v2Idx H es cs hs).nameAt es.length
      = (crcTable es ++ (ofsWords 0 es ++ (largeWords es ++ (cs ++ H (v2Body es cs))))).take hs :=
  nameAt_tabled_phantom _ es hs _ _ (v2Idx_tabled H es cs hs) hnames

/-- **Regression witness for DESIGN §7-F3.**  With the *old* call
site — `bisect_find_sha(start, end, …)`, i.e. `lookupWith 0 0` — the index of the empty pack (pack checksum
`029d0882…`) finds the pack checksum *as an object name*, at offset `0x029d0882`, although it has no
entries: the inclusive bisection over `[0, 0]` probes the 20 bytes after the empty name table.  The call
site of the working tree (`lookup`) answers `KeyError`. -/
theorem index_old_bound_phantom_counterexample :
    let cs : Bytes := [0x02, 0x9d, 0x08, 0x82, 0x3b, 0xd8, 0xa8, 0xea, 0xb5, 0x10, 0xad, 0x6a, 0xc7, 0x5c, 0x82,
      0x3c, 0xfd, 0x3e, 0xd3, 0x1e]
    let H : Bytes → Bytes := fun _ => List.replicate 20 0
    (v2Idx H [] cs 20).lookupWith 0 0 cs = .ok 0x029d0882 ∧
      ([] : List IdxEntry).find? (fun e => decide (e.name = cs)) = none ∧
      (v2Idx H [] cs 20).lookup cs = .error .key := by
  intro cs H
  have hx := v2Idx_tabled H [] cs 20
  refine ⟨?_, rfl, lookup_correct _ [] 20 cs
    (facts_of_tabled _ [] 20 _ _ hx (by decide) (by decide) (by decide)) rfl .nil⟩
  generalize v2Idx H [] cs 20 = x at hx
  -- slot 0 of the empty name table is the pack checksum, and the word at the empty offset table is its first 4 bytes
  have hname : x.nameAt 0 = cs :=
    (nameAt_tabled_phantom x [] 20 _ _ hx (fun _ h => nomatch h)).trans (by decide +kernel)
  have hofs : x.offsetAt 0 = .ok 0x029d0882 := by
    rw [Idx.offsetAt, if_neg hx.version, offsetAtV2_of_word (v := 0x029d0882), if_pos (by decide)]
    rw [hx.c, Idx.ofsOff, Idx.crcOff, hx.nameOff, hx.hs, hx.n]
    exact beAt_of_slice ((tabled_ofs v2Pre [] _ 20 (fun _ h => nomatch h) 0 4).trans (by decide +kernel)) (by decide)
  have hf1 : x.fan[1]? = some 0 := hx.fan ▸ fan_get [] 1 (by decide)
  have hf2 : x.fan[2]? = some 0 := hx.fan ▸ fan_get [] 2 (by decide)
  simp [Idx.lookupWith, hx.hs, cs, firstByte, hf1, hf2, bisect, hname, bytesLt_iff_lt, List.lt_irrefl, hofs, Gen.Pack.bisectInclusive,
    Gen.Pack.bisectDiv]

end Dulwich.Props.C02
