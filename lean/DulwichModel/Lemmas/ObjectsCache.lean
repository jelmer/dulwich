/- The `ShaFile` cache machine of Model/Objects.lean (C01).  The invariant `Inv` has two halves, `CacheOk` and `AliasOk`;
every operation of an admissible history (`Op.invalidating`) keeps each half on its own (`KeepsInv`, the `_inv` lemmas),
and under `CacheOk` alone the id returned is the hash of the content (`shaStep_fst`).  The two results are
`id_is_hash_of_cacheOk` and, with `run_reads`, `id_after_dirty_setter`. -/
import DulwichModel.Model.Objects

namespace Dulwich.Objects
open Dulwich

variable {F : Type}

/-- The hash a correct `id` must return for content `b`. -/
def nameOf (H : Bytes → Bytes) (C : Cls F) (b : Bytes) : Option Bytes := (hashInput C.typeNum b).map H

/-- A cached id is never stale. -/
def CacheOk (H : Bytes → Bytes) (C : Cls F) (s : St F) : Prop :=
  s.needs = false → ∀ d, s.sha = some d → ∃ b, s.chunks = some b ∧ nameOf H C b = some d

/-- Blob: the cached text is the field. -/
def AliasOk (C : Cls F) (s : St F) : Prop := C.alias = true → s.chunks = C.ser s.fields

/-- What every admissible history keeps, half by half (`run_inv`); the first half is what makes `id` come out right
(`shaStep_fst`). -/
def Inv (H : Bytes → Bytes) (C : Cls F) (s : St F) : Prop := CacheOk H C s ∧ AliasOk C s

/-- Requirement on a class whose field is the chunk cache (Blob): `_deserialize` cannot fail and
stores exactly the bytes. -/
def AliasClass (C : Cls F) : Prop :=
  C.alias = true → ∀ f b, ∃ f', C.deser f b = some f' ∧ C.ser f' = some b

/-- The operations of an *admissible history*: all but a setter of kind 0, which only stores its value (it neither marks
the object dirty nor drops the cached id). -/
def Op.invalidating : Op F → Prop
  | .set k _ => k ≠ 0
  | _ => True

def Op.isRead : Op F → Prop
  | .getId => True
  | .asRaw => True
  | _ => False

theorem isRead_invalidating {op : Op F} (h : op.isRead) : op.invalidating := by
  cases op <;> simp_all [Op.isRead, Op.invalidating]

/-- The shape of the `_inv` lemmas.  No theorem concludes anything from `AliasOk`: its half is carried to show that
`AliasClass` is what keeps it. -/
abbrev KeepsInv (H : Bytes → Bytes) (C : Cls F) (s s' : St F) : Prop :=
  (CacheOk H C s → CacheOk H C s') ∧ (AliasClass C → AliasOk C s → AliasOk C s')

theorem asRawChunks_spec (C : Cls F) (s : St F) :
    (asRawChunks C s).1 = content C s ∧ (asRawChunks C s).2.fields = s.fields ∧
      content C (asRawChunks C s).2 = content C s := by
  unfold asRawChunks content
  split
  · split <;> simp_all
  · exact ⟨rfl, rfl, rfl⟩

theorem asRawChunks_inv (H : Bytes → Bytes) (C : Cls F) (s : St F) : KeepsInv H C s (asRawChunks C s).2 := by
  unfold asRawChunks
  split
  · split
    · exact ⟨fun _ _ d hd => by simp at hd, fun _ => id⟩
    · rename_i b hb
      refine ⟨fun _ _ d hd => by simp at hd, fun _ _ _ => ?_⟩
      simp [hb]
  · exact ⟨id, fun _ => id⟩

theorem shaStep_spec (H : Bytes → Bytes) (C : Cls F) (s : St F) :
    (shaStep H C s).2.fields = s.fields ∧ content C (shaStep H C s).2 = content C s := by
  obtain ⟨-, hf, hc⟩ := asRawChunks_spec C s
  unfold shaStep
  split
  · split
    · rename_i s1 h1; rw [h1] at hf hc; exact ⟨hf, hc⟩
    · rename_i body s1 h1
      rw [h1] at hf hc
      split
      · exact ⟨hf, hc⟩
      · exact ⟨hf, by simpa [content] using hc⟩
  · exact ⟨rfl, rfl⟩

theorem shaStep_inv (H : Bytes → Bytes) (C : Cls F) (s : St F) : KeepsInv H C s (shaStep H C s).2 := by
  unfold shaStep
  split
  · have hi := asRawChunks_inv H C s
    obtain ⟨hf, -, hc⟩ := asRawChunks_spec C s
    split
    · rename_i s1 h1; rw [h1] at hi; exact hi
    · rename_i body s1 h1
      rw [h1] at hi hf hc
      split
      · exact hi
      · rename_i inp hinp
        refine ⟨fun _ hn d hd => ?_, hi.2⟩
        simp only [Option.some.injEq] at hd
        -- the state is clean, so its content is the cached text, which is `body`
        have hcs : s1.chunks = some body := by
          have : content C s1 = some body := by rw [hc, ← hf]
          simpa [content, show s1.needs = false from hn] using this
        exact ⟨body, hcs, by simp [nameOf, hinp, hd]⟩
  · exact ⟨id, fun _ => id⟩

theorem shaStep_fst (H : Bytes → Bytes) (C : Cls F) (s : St F) (h : CacheOk H C s) :
    (shaStep H C s).1 = (content C s).bind (nameOf H C) := by
  unfold shaStep
  split
  · have hf := (asRawChunks_spec C s).1
    split
    · rename_i s1 h1; rw [h1] at hf; simp [← hf]
    · rename_i body s1 h1
      rw [h1] at hf
      simp only at hf
      rw [← hf]
      simp only [Option.bind_some, nameOf]
      split <;> simp_all
  · rename_i hc
    simp only [Bool.or_eq_true, Option.isNone_iff_eq_none, not_or, Bool.not_eq_true] at hc
    obtain ⟨hs, hn⟩ := hc
    cases hsd : s.sha with
    | none => exact absurd hsd hs
    | some d =>
      obtain ⟨b, hb, hname⟩ := h hn d hsd
      simp [content, hn, hb, hname]

theorem setRawStep_inv (H : Bytes → Bytes) (C : Cls F) (b : Bytes) (s : St F) :
    KeepsInv H C s (setRawStep C b s) := by
  refine ⟨fun _ _ d hd => ?_, fun hA _ ha => ?_⟩
  · unfold setRawStep at hd
    split at hd <;> cases hd
  · obtain ⟨f', h1, h2⟩ := hA ha s.fields b
    simp [setRawStep, h1, h2]

theorem setStep_inv (H : Bytes → Bytes) (C : Cls F) (k : Nat) (u : F → F) (s : St F) (hk : k ≠ 0) :
    KeepsInv H C s (setStep C k u s) := by
  unfold setStep
  -- kind 0 is what `hk` excludes: it stores the value under a kept `sha`, which for an alias class replaces `chunks`
  -- and so breaks `CacheOk` (`old_chunked_kind_counterexample`); the alias half, and any other class, would survive it
  match k, hk with
  | 1, _ =>
    refine ⟨fun _ hn => by simp at hn, fun _ _ ha => ?_⟩
    simp [ha]
  | 3, _ =>
    refine ⟨fun _ _ d hd => by simp at hd, fun _ _ ha => ?_⟩
    simp [ha]
  -- every other kind goes through `set_raw_string`
  | 2, _ | _ + 4, _ =>
    simp only
    split
    · exact setRawStep_inv H C _ s
    · exact ⟨id, fun _ => id⟩

theorem step_inv (H : Bytes → Bytes) (C : Cls F) (s : St F) (op : Op F) (hop : op.invalidating) :
    KeepsInv H C s (step H C s op) := by
  cases op with
  | set k u => exact setStep_inv H C k u s hop
  | setRaw b => exact setRawStep_inv H C b s
  | getId => exact shaStep_inv H C s
  | asRaw => exact asRawChunks_inv H C s

theorem run_inv (H : Bytes → Bytes) (C : Cls F) : ∀ (ops : List (Op F)) (s : St F), (∀ op ∈ ops, op.invalidating) →
    KeepsInv H C s (run H C s ops)
  | [], _, _ => ⟨id, fun _ => id⟩
  | op :: ops, s, hops =>
    have ih := run_inv H C ops (step H C s op) fun o ho => hops o (List.mem_cons_of_mem _ ho)
    have hs := step_inv H C s op (hops op List.mem_cons_self)
    ⟨fun h => ih.1 (hs.1 h), fun hA h => ih.2 hA (hs.2 hA h)⟩

/-- **The id is the hash of header ++ content after any admissible history.**  Start from any state whose cached id is
not stale (a fresh object has none), apply any sequence of public setters of kind ≠ 0, `set_raw_string`, `id` and
`as_raw_string()` calls: `id` then returns `H (object_header ++ content)`, where content is what `as_raw_string()`
returns — as `Option`s: both sides are `none` when serialisation fails or the type number has no name.  `H` is an
arbitrary function (SHA-1, SHA-256, anything), `C` any class. -/
theorem id_is_hash_of_cacheOk (H : Bytes → Bytes) (C : Cls F) (s0 : St F) (h0 : CacheOk H C s0)
    (ops : List (Op F)) (hops : ∀ op ∈ ops, op.invalidating) :
    (shaStep H C (run H C s0 ops)).1 = (content C (run H C s0 ops)).bind (nameOf H C) :=
  shaStep_fst H C _ ((run_inv H C ops s0 hops).1 h0)

theorem run_reads (H : Bytes → Bytes) (C : Cls F) : ∀ (ops : List (Op F)) (s : St F),
    (∀ op ∈ ops, op.isRead) →
    content C (run H C s ops) = content C s ∧ (run H C s ops).fields = s.fields
  | [], _, _ => ⟨rfl, rfl⟩
  | op :: ops, s, hops => by
    have ih := run_reads H C ops (step H C s op) fun o ho => hops o (List.mem_cons_of_mem _ ho)
    have hr := hops op List.mem_cons_self
    cases op with
    | getId => exact ⟨ih.1.trans (shaStep_spec H C s).2, ih.2.trans (shaStep_spec H C s).1⟩
    | asRaw => exact ⟨ih.1.trans (asRawChunks_spec C s).2.2, ih.2.trans (asRawChunks_spec C s).2.1⟩
    | set k u => exact hr.elim
    | setRaw b => exact hr.elim

/-- **The statement of the property.**  Whatever state a live object is in, after a dirty-marking setter `u` (kind 1:
every `serializable_property`, `Commit.parents`, `Tag.object`, `Tree.add/__setitem__/__delitem__`) and any reads, its
id is the hash of header ++ serialisation of the new field values: a dirty object has no cached id to be stale. -/
theorem id_after_dirty_setter (H : Bytes → Bytes) (C : Cls F) (s : St F) (u : F → F)
    (reads : List (Op F)) (hr : ∀ op ∈ reads, op.isRead) :
    (shaStep H C (run H C (setStep C 1 u s) reads)).1 = (C.ser (u s.fields)).bind (nameOf H C) := by
  have h1 : CacheOk H C (setStep C 1 u s) := fun hn => by simp [setStep] at hn
  have h2 := (run_inv H C reads _ fun o ho => isRead_invalidating (hr o ho)).1 h1
  rw [shaStep_fst H C _ h2, (run_reads H C reads _ hr).1]
  simp [content, setStep]

end Dulwich.Objects
