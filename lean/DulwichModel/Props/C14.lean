/-
  C14 — optional acceleration data never changes any answer.

  Models: Model/Accel.lean (sound-cache refinement, layered lookups), Model/CommitGraphFmt.lean, Model/Ewah.lean,
  Model/Midx.lean; their constants come from Gen/Accel.lean, which the translator regenerates from /repo on every run.

  `import Mathlib.Algebra.Group.Nat.Defs` is there for five statements only: `markers_wf`, `ewah_layout_wf`,
  `ewah_words_roundtrip`, `ewah_words_roundtrip_any_cap` and `midx_offset_roundtrip` read their `2 ^ k` through ℕ's monoid
  structure (`Monoid.toNPow`), and without the import they would say core's `instPowNat` instead.  Lemmas/Accel.lean uses
  core's power; the two agree by unfolding the instance, which is how a hypothesis such as `h32` passes from a theorem
  here to a lemma there.  No proof uses anything else of Mathlib.
-/
import DulwichModel.Lemmas.Accel
import Mathlib.Algebra.Group.Nat.Defs

namespace Dulwich.Props.C14
open Dulwich Dulwich.Accel

/-! ## the generic refinement: a sound cache is invisible (and only a sound one is) -/

theorem cache_transparent {κ ν : Type} (c : κ → Option ν) (base : κ → ν)
    (h : ∀ k v, c k = some v → base k = v) : withCache c base = base :=
  funext fun k => (withCache_eq_iff c base k).mpr (h k)

theorem cache_transparent_only_if {κ ν : Type} (c : κ → Option ν) (base : κ → ν)
    (h : withCache c base = base) : Sound c base :=
  fun k => (withCache_eq_iff c base k).mp (congrFun h k)

example : withCache (fun k => if k = 1 then some 10 else none) (fun k : Nat => 10 * k) = fun k => 10 * k :=
  cache_transparent _ _ fun k v h => by
    by_cases hk : k = 1
    · rw [if_pos hk] at h
      cases h
      rw [hk]
    · rw [if_neg hk] at h
      cases h

/-! ## commit-graph: staleness -/

/-- a graph that was correct when written stays correct for every commit that still exists -/
theorem stale_graph_sound {Oid : Type} (g s0 s1 : Oid → Option (List Oid))
    (hw : ∀ k v, g k = some v → s0 k = some v) (he : Evolves s0 s1) :
    ∀ k, s1 k ≠ none → parentsVia g s1 k = s1 k := by
  refine fun k hk => (withCache_eq_iff _ s1 k).mpr fun v hv => ?_
  obtain ⟨a, ha, rfl⟩ := Option.map_eq_some_iff.mp hv
  exact (he k a (hw k a ha)).resolve_right hk

/-- … and the hypothesis `s1 k ≠ none` is needed: for a pruned commit the stale graph still answers
(confirmed on the real code: class `commit-graph-answers-for-absent-commit`) -/
theorem stale_graph_absent_counterexample :
    ∃ (g s0 s1 : Nat → Option (List Nat)), (∀ k v, g k = some v → s0 k = some v) ∧ Evolves s0 s1 ∧
      parentsVia g s1 ≠ s1 := by
  refine ⟨fun k => if k = 1 then some [0] else none, fun k => if k = 1 then some [0] else none,
          fun _ => none, ?_, ?_, ?_⟩
  · intro k v h; exact h
  · intro k v _; exact Or.inr rfl
  · exact fun h => nomatch congrFun h 1

/-! ## commit-graph: the parent encoding of writer and reader -/

section CommitGraph
open Dulwich.CommitGraphFmt

/-- the marker values the model's arithmetic relies on: "no parent" and "parent not in the file" are distinct
(one value for both was the cause of the open-set defect, finding F-C14-open-set), both lie below the flag bit
(and above every position under the `es.length < NONE` of the round trips); `& ~FLAG` = `- FLAG`, `& FLAG` = `≥ FLAG`
below 2^32 -/
theorem markers_wf : NONE < MISSING ∧ MISSING < EXTRA ∧ EXTRA = 2 ^ 31 ∧ LAST = 2 ^ 31 := by
  decide

/-- FULL theorem: whatever set of fewer than `GRAPH_PARENT_NONE` commits is written — any number of parents per commit
(EDGE chunk), parents inside or outside the set — the reader of the written file answers for the commit at position `i`
with its FULL parent list if all of its parents are in the file, and with "unknown" (`get_parents` returns None, callers
read the commit object) otherwise.  Never a shortened list, never an error.  (Slot and EDGE words only: the bytes of
`writeFile` / `readFile` around them are in no theorem, the correspondence stream ties them.) -/
theorem commit_graph_parents_roundtrip (es : List (Bytes × List Bytes)) (i : Nat) (e : Bytes × List Bytes)
    (hn : es.length < NONE) (hi : es[i]? = some e) :
    roundTripParents es i = some (.ok (if (∀ p ∈ e.2, p ∈ es.map (·.1)) then some e.2 else none)) := by
  show roundTripParents es i = some (.ok (answerFor (es.map (·.1)) e.2))
  have hi2 : (es.map (fun e => some e.2))[i]? = some (some e.2) := by rw [List.getElem?_map, hi]; rfl
  obtain ⟨pre, post, p1, p2, ws, ht, g1, g2⟩ := encodeAll_spec (es.map (·.1)) _ 0 i (some e.2) hi2
  unfold roundTripParents
  simp only [g1]
  refine congrArg some (decode_encodeParents _ (by rwa [List.length_map]) e.2 _ ht _ fun hlen =>
    ⟨pre, post, ?_, (Nat.zero_add _).symm⟩)
  -- the EDGE chunk exists: the list holds this entry's words
  rw [g2, if_neg]
  exact fun h => encodeParents_edges_ne_nil _ _ hlen ((congrArg (·.2.2) ht).trans
    (List.append_eq_nil_iff.mp (List.append_eq_nil_iff.mp (List.isEmpty_iff.mp h)).2).1)

open Dulwich.CommitGraphFmt in
example : roundTripParents [([1], []), ([2], []), ([3], []), ([4], [[1], [2], [3]]), ([5], [[4], [3], [2], [1]])] 4
    = some (.ok (some [[4], [3], [2], [1]])) := by decide +kernel

/-- an entry with a parent outside the written set (`write_commit_graph(reachable=False)`) answers "unknown" -/
theorem commit_graph_open_set_unknown (es : List (Bytes × List Bytes)) (i : Nat) (e : Bytes × List Bytes)
    (hn : es.length < NONE) (hi : es[i]? = some e) (p : Bytes) (hp : p ∈ e.2) (hout : p ∉ es.map (·.1)) :
    roundTripParents es i = some (.ok none) := by
  rw [commit_graph_parents_roundtrip es i e hn hi, if_neg (fun h => hout (h p hp))]

/-- THE soundness statement for the file as a cache: every answer the graph gives (every non-None answer)
equals the commit's real parent list. -/
theorem commit_graph_answers_are_real (es : List (Bytes × List Bytes)) (i : Nat) (e : Bytes × List Bytes)
    (ans : List Bytes) (hn : es.length < NONE) (hi : es[i]? = some e)
    (h : roundTripParents es i = some (.ok (some ans))) : ans = e.2 := by
  rw [commit_graph_parents_roundtrip es i e hn hi] at h
  by_cases hc : ∀ p ∈ e.2, p ∈ es.map (·.1)
  · rw [if_pos hc] at h
    cases h
    rfl
  · rw [if_neg hc] at h
    cases h

open Dulwich.CommitGraphFmt in
/-- tips without their history: 3's parent 2 is not written ⇒ unknown; the root 7 and its child 8 are answered -/
example : (List.range 3).map (roundTripParents [([3], [[2]]), ([7], []), ([8], [[7]])]) =
    [some (.ok none), some (.ok (some [])), some (.ok (some [[7]]))] := by decide +kernel

/-- REGRESSION WITNESS on the writer before dulwich 38199a6 (`encodeParentsOld`): an octopus merge kept only its first
two parents (corpus/C14/octopus.json, finding F-C14-octopus) -/
theorem octopus_counterexample_old :
    roundTripParentsOld [([1], []), ([2], []), ([3], []), ([4], [[1], [2], [3]])] 3 = some (.ok (some [[1], [2]])) ∧
    roundTripParents [([1], []), ([2], []), ([3], []), ([4], [[1], [2], [3]])] 3 = some (.ok (some [[1], [2], [3]])) := by
  decide +kernel

/-- REGRESSION WITNESS on the original writer: a parent outside the written set was written with the bits of "no
parent" and the commit read back as a root (corpus/C14/open-set.json, finding F-C14-open-set); now: unknown -/
theorem open_set_counterexample_old :
    roundTripParentsOld [([3], [[2]])] 0 = some (.ok (some [])) ∧
    roundTripParents [([3], [[2]])] 0 = some (.ok none) := by
  decide +kernel

/-- The READER on C git's encoding of a commit with three or more parents (first parent in slot 1, slot 2 =
`GRAPH_EXTRA_EDGES_NEEDED | k`, remaining parents from word `k` of the EDGE chunk, the last one flagged): every
parent comes back, in order (all positions lie inside the table, so the `filterMap` drops nothing). -/
theorem commit_graph_reader_edges (oids : List Bytes) (pre init junk : List Nat) (p1 last : Nat)
    (h1 : p1 < oids.length) (hn : oids.length < NONE)
    (hin : ∀ p ∈ init, p < oids.length) (hl : last < oids.length) :
    decodeParents oids (some (pre ++ (init ++ [last + LAST] ++ junk))) p1 (EXTRA + pre.length) =
      .ok (some ((p1 :: (init ++ [last])).filterMap (oids[·]?))) := by
  obtain ⟨c1, c2, c3, c4⟩ := markers_wf
  have e : oids[p1]? = some oids[p1] := List.getElem?_eq_getElem h1
  have hf : firstSlot oids p1 = .ok (some [oids[p1]]) := by
    unfold firstSlot
    rw [if_pos (Nat.lt_trans h1 hn), e]
  have hlt : ∀ w ∈ init ++ [last], w < MISSING := fun w hw =>
    Nat.lt_trans (Nat.lt_trans (List.forall_mem_append.mpr ⟨hin, List.forall_mem_singleton.mpr hl⟩ w hw) hn) c1
  rw [decodeParents_of_firstSlot hf, secondSlot_edges, List.drop_left, ← flagLast_concat,
    parseExtraEdges_words oids junk _ (List.append_ne_nil_of_right_ne_nil _ (List.cons_ne_nil _ _))
      fun w hw => c4 ▸ c3 ▸ Nat.lt_trans (hlt w hw) c2,
    if_neg fun h => Nat.lt_irrefl _ (hlt _ h), List.filterMap_cons, e]
  rfl

open Dulwich.CommitGraphFmt in
example : decodeParents [[1], [2], [3], [4]] (some [9, 1, 2 + LAST]) 0 (EXTRA + 1) = .ok (some [[1], [2], [3]]) := by
  decide +kernel

end CommitGraph

/-! ## multi-pack-index consumers -/

/-- `get_raw`: transparent as soon as packs are honest (an object found in a pack is the object the plain
lookup finds) — a stale MIDX naming a vanished pack falls back. -/
theorem midx_get_raw_transparent {Oid Pack Obj : Type} (midx : Oid → Option Pack)
    (packGet : Pack → Oid → Option Obj) (base : Oid → Option Obj)
    (h : ∀ p o x, packGet p o = some x → base o = some x) :
    getRawVia midx packGet base = base := by
  funext o
  unfold getRawVia
  cases midx o with
  | none => rfl
  | some p =>
    dsimp only
    cases hp : packGet p o with
    | none => rfl
    | some x => exact (h p o x hp).symm

/-- the answer of `get_raw` does not depend on the OFFSET field of the multi-pack-index, only on which pack an
entry names (a pack re-created under the same name with another layout, a MIDX from a sibling repository, …) -/
theorem midx_offset_irrelevant {Oid Pack Obj : Type} (m1 m2 : Oid → Option (Pack × Nat))
    (packGet : Pack → Oid → Option Obj) (base : Oid → Option Obj)
    (h : ∀ o, (m1 o).map (·.1) = (m2 o).map (·.1)) :
    getRawViaEntry m1 packGet base = getRawViaEntry m2 packGet base := by
  unfold getRawViaEntry
  have : (fun o => (m1 o).map (·.1)) = (fun o => (m2 o).map (·.1)) := funext h
  rw [this]

theorem midx_get_raw_transparent_any_offset {Oid Pack Obj : Type} (midx : Oid → Option (Pack × Nat))
    (packGet : Pack → Oid → Option Obj) (base : Oid → Option Obj)
    (h : ∀ p o x, packGet p o = some x → base o = some x) :
    getRawViaEntry midx packGet base = base :=
  midx_get_raw_transparent _ packGet base h

/-- NEGATION WITNESS for the variant that would trust the offset: pack 0 holds object 7 at offset 12 and object 8
at offset 40; the index still says "7 is at offset 40" (same pack name, other layout): reading at the stored
offset returns object 8's content for id 7, the re-lookup returns 7's -/
theorem midx_offset_trusted_counterexample :
    let midx : Nat → Option (Nat × Nat) := fun o => if o = 7 then some (0, 40) else none
    let readAt : Nat → Nat → Option Nat := fun _ off => if off = 12 then some 700 else if off = 40 then some 800 else none
    let packGet : Nat → Nat → Option Nat := fun _ o => if o = 7 then some 700 else if o = 8 then some 800 else none
    getRawAtOffset midx readAt (packGet 0) 7 = some 800 ∧
    getRawViaEntry midx packGet (packGet 0) 7 = some 700 := by
  decide +kernel

/-- `contains_packed` (FULL, since it checks the named pack like `get_raw` does): transparent as soon as packs are
honest — a stale or foreign MIDX entry whose pack is gone, or no longer has the object, falls back. -/
theorem midx_contains_transparent {Oid Pack : Type} (midx : Oid → Option Pack) (packHas : Pack → Oid → Bool)
    (base : Oid → Bool) (h : ∀ p o, packHas p o = true → base o = true) :
    containsVia midx packHas base = base := by
  funext o
  unfold containsVia
  cases midx o with
  | none => rfl
  | some p =>
    dsimp only
    cases hp : packHas p o with
    | false => rfl
    | true => exact (h p o hp).symm

/-- REGRESSION WITNESS on `contains_packed` as it was before the repair: an entry naming a vanished pack was
trusted (corpus/C14/midx-stale.json, finding F-C14-midx-stale); the repaired lookup falls back -/
theorem midx_stale_counterexample_old :
    containsViaOld (fun o : Nat => if o = 7 then some 0 else none) (fun _ => false) 7 = true ∧
    containsVia (fun o : Nat => if o = 7 then some 0 else none) (fun (_ : Nat) _ => false) (fun _ => false) 7 = false ∧
    getRawVia (fun o : Nat => if o = 7 then some 0 else none) (fun (_ : Nat) _ => (none : Option Nat)) (fun _ => none) 7 = none := by
  decide +kernel

/-! ## refs: loose files over packed-refs -/

/-- Transparency of packed-refs under loose precedence (the loose layer as a sound cache over the logical
values): whenever every loose file holds the ref's logical value and every ref without a loose file has its logical value in
packed-refs (stale packed entries under a loose file are allowed), reads return the logical value. -/
theorem packed_refs_transparent {Name Val : Type} (loose packed logical : Name → Option Val)
    (hl : ∀ n v, loose n = some v → logical n = some v)
    (hp : ∀ n, loose n = none → packed n = logical n) :
    readRef loose packed = logical := by
  funext n
  unfold readRef
  cases hk : loose n with
  | none => exact hp n hk
  | some v => exact (hl n v hk).symm

theorem pack_refs_preserves {Name Val : Type} (sel : Name → Bool) (loose packed : Name → Option Val) :
    readRef (packRefs sel loose packed).1 (packRefs sel loose packed).2 = readRef loose packed := by
  funext n
  unfold packRefs readRef
  by_cases h : sel n <;> simp [h]

/-- a loose write wins over whatever packed-refs says (stale packed entries are harmless) -/
theorem set_loose_overrides {Name Val : Type} [DecidableEq Name] (n0 : Name) (v : Val)
    (loose packed : Name → Option Val) (n : Name) :
    readRef (setLoose n0 v loose) packed n = if n = n0 then some v else readRef loose packed n := by
  unfold readRef setLoose
  by_cases h : n = n0 <;> simp [h]

/-- deleting removes the ref from both layers: a packed entry cannot resurrect it -/
theorem delete_ref_removes {Name Val : Type} [DecidableEq Name] (n0 : Name)
    (loose packed : Name → Option Val) (n : Name) :
    readRef (deleteRef n0 loose packed).1 (deleteRef n0 loose packed).2 n =
      if n = n0 then none else readRef loose packed n := by
  unfold readRef deleteRef
  by_cases h : n = n0 <;> simp [h]

/-! ## bitmap header gate -/

theorem bitmap_checksum_gate (packChecksum stored : Bytes) :
    bitmapGate packChecksum stored = true ↔ stored = packChecksum :=
  beq_iff_eq

/-! ## reachability providers: traversal vs bitmaps -/

/-- FULL statement (false for the code as it is): both providers give the same commit set. -/
def ReachProvidersAgreeStatement : Prop :=
  ∀ (parents : Nat → List Nat) (fuel : Nat) (pack heads exclude : List Nat),
    sameSet (traversalReach parents fuel heads exclude) (bitmapReach parents fuel pack heads exclude) = true

/-- with everything in one pack and nothing excluded the providers agree on the diamond … -/
example : sameSet (traversalReach diamond 16 [4] []) (bitmapReach diamond 16 [0, 1, 2, 3, 4] [4] []) = true := by
  decide +kernel

/-- … `exclude` means "stop at these commits" for the traversal but "subtract their whole ancestry" for the
bitmaps: reachable from 4 excluding 2 is {0, 3, 4} by traversal and {3, 4} by bitmaps
(confirmed on the real code: class `reachability-exclude-semantics-differ`) -/
theorem exclude_semantics_counterexample :
    traversalReach diamond 16 [4] [2] = [4, 3, 0] ∧ bitmapReach diamond 16 [0, 1, 2, 3, 4] [4] [2] = [4, 3] := by
  decide +kernel

/-- a pack that is not closed under reachability (commit 4 packed alone): its bitmap omits every ancestor
(confirmed on the real code: class `bitmap-pack-not-closed`) -/
theorem bitmap_multipack_counterexample :
    bitmapReach diamond 16 [4] [4] [] = [4] ∧
    sameSet (traversalReach diamond 16 [4] []) [0, 1, 2, 3, 4] = true := by
  decide +kernel

theorem reach_providers_statement_false : ¬ ReachProvidersAgreeStatement := by
  exact fun h => absurd (h diamond 16 [4] [4] []) (by decide +kernel)

/-! ## walks with a stop set (shallow boundary of the other side) over a cached parent source -/

/-- `cache_transparent` lifted to the ancestry walk with a stop set: when the commit-graph agrees with the object
store on every commit it knows, the walk over "graph, else store" equals the walk over the store — for EVERY
shallow set, every `common` set, every start and every fuel.  (The shallow test precedes both parent sources:
translator obligation on `_collect_ancestors` and `ParentsProvider.get_parents`.) -/
theorem walk_cache_transparent (c : Nat → Option (List Nat)) (store : Nat → List Nat)
    (h : ∀ k v, c k = some v → store k = v) (common shallow : List Nat) (fuel : Nat) (heads seen : List Nat) :
    collectAncestorsSh (withCache c store) common shallow fuel heads seen =
      collectAncestorsSh store common shallow fuel heads seen := by
  rw [cache_transparent c store h]

theorem walk_no_shallow (parentsOf : Nat → List Nat) (common : List Nat) :
    ∀ (fuel : Nat) (queue seen : List Nat),
      collectAncestorsSh parentsOf common [] fuel queue seen = collectAncestors parentsOf common fuel queue seen := by
  intro fuel
  induction fuel with
  | zero => intro q s; rfl
  | succ f ih =>
    intro q s
    cases q with
    | nil => rfl
    | cons e q =>
      simp only [collectAncestorsSh, collectAncestors, List.contains_nil, Bool.false_eq_true, if_false, ih]

/-- a shallow commit is reported, nothing below it is entered through it (diamond, boundary {2}: from 4 the walk
gives {4, 2, 3, 0}; commit 1 is only reachable through 2) -/
example : collectAncestorsSh diamond [] [2] 16 [4] [] = [4, 2, 3, 0] := by decide +kernel

/-- NEGATION WITNESS for a walk whose shallow test guards only the object-load branch: with a (correct!) graph
entry for the boundary commit 2 it walks below the boundary (and reports commit 1), the real order of tests
does not -/
theorem shallow_after_graph_counterexample :
    collectAncestorsShGraphFirst (fun k => if k = 2 then some [1] else none) diamond [] [2] 16 [4] [] = [4, 2, 3, 1, 0] ∧
    collectAncestorsSh (withCache (fun k => if k = 2 then some [1] else none) diamond) [] [2] 16 [4] [] = [4, 2, 3, 0] := by
  decide +kernel

/-! ## EWAH codec -/

section Ewah
open Dulwich.Ewah

/-- the word layout constants (regenerated from the source) are the ones the arithmetic model assumes -/
theorem ewah_layout_wf :
    Gen.Accel.ewahLitShiftEnc = Gen.Accel.ewahLitShiftDec ∧ Gen.Accel.ewahRunShiftEnc = Gen.Accel.ewahRunShiftDec ∧
    Gen.Accel.ewahRunMask + 1 = 2 ^ 32 ∧ Gen.Accel.ewahRunShiftDec + 32 = Gen.Accel.ewahLitShiftDec ∧
    allOnes + 1 = 2 ^ 64 ∧ maxLit + 1 = 2 ^ 31 := by
  decide

/-- the literal cap is only a chunking parameter: the round trip holds for every cap (so it holds for
`MAX_LITERAL_WORDS`, and for a writer with another cap: `_decode` has none) -/
theorem ewah_words_roundtrip_any_cap (mx : Nat) (ws : List Nat) (M : Nat) (hM : ws.length ≤ M)
    (h32 : ws.length < 2 ^ 32) :
    decodeWordsAux M (encodeWordsAux mx ws.length ws).length 0 (encodeWordsAux mx ws.length ws) = .ok ws :=
  decodeWordsAux_stream M (encodeWordsAux_stream mx _ ws (Nat.le_refl _) h32) _ 0 (Nat.le_refl _) ((Nat.zero_add _).symm ▸ hM)

/-- `decode ∘ encode = id` on word lists: for EVERY list of words (zero runs, one runs, literals, in any
order, any word values) shorter than 2^32 words (the width of the run-length field) and any declared
size that is large enough. -/
theorem ewah_words_roundtrip (ws : List Nat) (M : Nat) (hM : ws.length ≤ M) (h32 : ws.length < 2 ^ 32) :
    decodeWords M (encodeWords ws) = .ok ws :=
  ewah_words_roundtrip_any_cap maxLit ws M hM h32

open Dulwich.Ewah in
example : decodeWords 7 (encodeWords [0, 0, 5, allOnes, allOnes, 7, 0]) = .ok [0, 0, 5, allOnes, allOnes, 7, 0] :=
  ewah_words_roundtrip _ 7 (by decide) (by decide)

/-- for ANY compressed input (hostile run lengths, literal counts, truncation) the decoder either fails or
emits at most `M = ⌈bit_count/64⌉` words -/
theorem ewah_decode_words_bounded (M : Nat) (cw ws : List Nat) (h : decodeWords M cw = .ok ws) :
    ws.length ≤ M := by
  have := decodeWordsAux_bounded M cw.length 0 cw ws (Nat.zero_le _) h
  omega

/-- byte level: whatever the bytes, a successful decode never sets a bit at or beyond ⌈bit_count/64⌉·64 -/
theorem ewah_decode_bounded (data : Bytes) (bc : Nat) (ws : List Nat) (h : decode data = .ok (bc, ws)) :
    ∀ p ∈ positions ws, p < 64 * ((bc + 63) / 64) := by
  intro p hp
  have hlen : ws.length ≤ (bc + 63) / 64 := by
    unfold decode at h
    by_cases h8 : data.length < 8
    · rw [if_pos h8] at h
      cases h
      exact Nat.zero_le _
    · rw [if_neg h8] at h
      dsimp only at h
      generalize hd : decodeWords _ _ = r at h
      cases r with
      | error e => cases h
      | ok w =>
        cases h
        exact ewah_decode_words_bounded _ _ _ hd
  exact Nat.lt_of_lt_of_le (List.mem_range.mp (List.mem_filter.mp hp).1) (Nat.mul_le_mul_left 64 hlen)

/-- `EWAHBitmap(b.encode())` gives back `b`: for EVERY bitmap whose encoding succeeds (no `struct.error`; that fewer
than 2^32 bits suffice for this is not proved) the decoder returns the declared size `max(bits)+1` and a bitmap with
exactly the same bits set — through bits → 64-bit words → run-length words → bytes → words → bits. -/
theorem ewah_roundtrip (bits : List Bool) (bytes : Bytes) (h : encode bits = .ok bytes) :
    ∃ ws, decode bytes = .ok (bitCount bits, ws) ∧ ∀ p, bitAt ws p = bits.getD p false :=
  ⟨wordsOfBits bits, decode_encode bits bytes h, wordsOfBits_bitAt bits⟩

open Dulwich.Ewah in
/-- non-vacuity: bits {64, 66, 130} (a zero word, then two literal words) encode to the 36 bytes dulwich writes -/
example : encode (List.replicate 64 false ++ [true, false, true] ++ List.replicate 63 false ++ [true]) =
    .ok [0, 0, 0, 131, 0, 0, 0, 3, 0, 0, 0, 4, 0, 0, 0, 2, 0, 0, 0, 0, 0, 0, 0, 5, 0, 0, 0, 0, 0, 0, 0, 4, 0, 0, 0, 0] := by
  decide +kernel

end Ewah

/-! ## multi-pack-index: fan-out + bisect lookup, large-offset spill -/

section Midx
open Dulwich.Midx

theorem midx_bisect_correct (oids : List Nat) (sha : Nat) (hs : oids.Pairwise (· < ·))
    (fuel lo hi : Nat) (hhi : hi ≤ oids.length) (hf : hi - lo < fuel) :
    (∃ j, lo ≤ j ∧ j < hi ∧ oids[j]? = some sha ∧ bisect oids sha fuel lo hi = .ok (some j)) ∨
    ((∀ j, lo ≤ j → j < hi → oids[j]? ≠ some sha) ∧ bisect oids sha fuel lo hi = .ok none) := by
  induction fuel generalizing lo hi with
  | zero => exact absurd hf (Nat.not_lt_zero _)
  | succ fuel ih =>
    rw [bisect]
    by_cases hw : lo < hi
    · -- all that is used of the midpoint: it lies in the window, so both halves are narrower than the fuel left
      have hm1 : lo ≤ (lo + hi) / 2 :=
        (Nat.le_div_iff_mul_le (by decide)).mpr (Nat.mul_two lo ▸ Nat.add_le_add_left (Nat.le_of_lt hw) _)
      have hm2 : (lo + hi) / 2 < hi :=
        (Nat.div_lt_iff_lt_mul (by decide)).mpr (Nat.mul_two hi ▸ Nat.add_lt_add_right hw _)
      generalize (lo + hi) / 2 = mid at hm1 hm2 ⊢
      have ⟨hf1, hf2⟩ : hi - (mid + 1) < fuel ∧ mid - lo < fuel := by omega
      obtain ⟨m, hm⟩ : ∃ m, oids[mid]? = some m := ⟨_, List.getElem?_eq_getElem (Nat.lt_of_lt_of_le hm2 hhi)⟩
      rw [if_pos hw, hm]
      by_cases heq : m = sha
      · exact .inl ⟨mid, hm1, hm2, heq ▸ hm, if_pos heq⟩
      · by_cases hlt : m < sha
        · simp only [if_neg heq, if_pos hlt]
          rcases ih (mid + 1) hi hhi hf1 with ⟨j, h1, h2, h3, h4⟩ | ⟨h1, h2⟩
          · exact .inl ⟨j, Nat.le_trans (Nat.le_succ_of_le hm1) h1, h2, h3, h4⟩
          · exact .inr ⟨fun j _ hj2 hj => h1 j (sorted_pos_lt hs hm hj hlt) hj2 hj, h2⟩
        · simp only [if_neg heq, if_neg hlt]
          have hgt : sha < m := Nat.lt_of_le_of_ne (Nat.not_lt.mp hlt) (Ne.symm heq)
          rcases ih lo mid (Nat.le_trans (Nat.le_of_lt hm2) hhi) hf2 with ⟨j, h1, h2, h3, h4⟩ | ⟨h1, h2⟩
          · exact .inl ⟨j, h1, Nat.lt_trans h2 hm2, h3, h4⟩
          · exact .inr ⟨fun j hj1 _ hj => h1 j hj1 (sorted_pos_lt hs hj hm hgt) hj, h2⟩
    · exact .inr ⟨fun j h1 h2 => absurd (Nat.lt_of_le_of_lt h1 h2) hw, if_neg hw⟩

/-- all the lookup needs: the first bytes of the table are in order (true of the first byte of a fixed-width id,
which is monotone on ids of that width and on no larger set) and the probe's first byte is below 256 -/
theorem midx_lookup_of_sorted (oids : List Nat) (fb : Nat → Nat) (hs : oids.Pairwise (· < ·))
    (hsorted : (oids.map fb).Pairwise (· ≤ ·)) (sha : Nat) (h256 : fb sha < 256) :
    (∃ j, oids[j]? = some sha ∧ lookup (writeFanout (oids.map fb)) oids (fb sha) sha = .ok (some j)) ∨
    (sha ∉ oids ∧ lookup (writeFanout (oids.map fb)) oids (fb sha) sha = .ok none) := by
  have hhi : ((oids.map fb).filter (· ≤ fb sha)).length ≤ oids.length :=
    Nat.le_trans (List.length_filter_le _ _) (Nat.le_of_eq (List.length_map fb))
  unfold lookup
  simp only
  rw [writeFanout_getD _ _ h256]
  rcases midx_bisect_correct oids sha hs _ _ _ hhi (Nat.lt_succ_of_le (Nat.sub_le _ _)) with
    ⟨j, _, _, h3, h4⟩ | ⟨h1, h2⟩
  · exact .inl ⟨j, h3, h4⟩
  · refine .inr ⟨fun hmem => ?_, h2⟩
    obtain ⟨j, hj⟩ := List.getElem?_of_mem hmem
    obtain ⟨hjl, hje⟩ := List.getElem?_eq_some_iff.mp hj
    have hfj : (oids.map fb)[j]'(by rwa [List.length_map]) = fb sha := by rw [List.getElem_map, hje]
    -- the first bytes `≤ b` are a prefix of the sorted table, of the length the fan-out records: position `j`, holding
    -- `fb sha`, lies in the window the bisect searched, from the end of the prefix for `fb sha - 1` to that for `fb sha`
    have hwin (b : Nat) : j < ((oids.map fb).filter (· ≤ b)).length ↔ fb sha ≤ b :=
      hfj ▸ lt_length_filter_iff (fun _ _ hab hb => Nat.le_trans hab hb) hsorted _
    refine h1 j ?_ ((hwin _).mpr (Nat.le_refl _)) hj
    by_cases h0 : fb sha = 0
    · rw [if_pos h0]
      exact Nat.zero_le j
    · rw [if_neg h0, writeFanout_getD _ _ (Nat.lt_of_le_of_lt (Nat.sub_le _ _) h256)]
      exact Nat.le_of_not_lt fun h => Nat.not_le_of_gt (Nat.sub_one_lt h0) ((hwin _).mp h)

/-- `object_offset` over the table `write_midx` produces (ids strictly increasing, fan-out = cumulative counts
by first byte), with `fb` monotone on all of ℕ: not the plain first byte `· / 256 ^ 19 % 256` of a 20-byte id (monotone
only among ids of that width) but e.g. `min 255 (· / 256 ^ 19)`, which agrees with it on such ids; `midx_lookup_of_sorted`
asks only for what the lookup uses.  The lookup finds exactly the ids that were written, never errs, never returns
another id's position. -/
theorem midx_lookup_correct (oids : List Nat) (fb : Nat → Nat) (hs : oids.Pairwise (· < ·))
    (hmono : ∀ a b, a ≤ b → fb a ≤ fb b) (h256 : ∀ a, fb a < 256) (sha : Nat) :
    (∃ j, oids[j]? = some sha ∧ lookup (writeFanout (oids.map fb)) oids (fb sha) sha = .ok (some j)) ∨
    (sha ∉ oids ∧ lookup (writeFanout (oids.map fb)) oids (fb sha) sha = .ok none) :=
  midx_lookup_of_sorted oids fb hs (List.pairwise_map.mpr (hs.imp fun h => hmono _ _ (Nat.le_of_lt h))) sha (h256 sha)

open Dulwich.Midx in
example : lookup (writeFanout ([3, 300, 301, 70000].map (· / 256 % 256))) [3, 300, 301, 70000] 1 301 = .ok (some 2) := by
  decide +kernel

/-- OOFF/LOFF: every pack offset (any size) is read back through the large-offset table as written, as long as
the number of entries fits the 31-bit index field -/
theorem midx_offset_roundtrip (os : List Nat) (i o : Nat) (hi : os[i]? = some o) (hn : os.length < 2 ^ 31) :
    ∃ w, (encodeOffsets os 0).1[i]? = some w ∧ decodeOffset w (some (encodeOffsets os 0).2) = .ok o := by
  have h := congrArg (·[i]?) (decode_encodeOffsets os [] (by rwa [List.length_nil, Nat.zero_add]))
  simp only [List.getElem?_map, hi] at h
  exact Option.map_eq_some_iff.mp h

end Midx

end Dulwich.Props.C14
