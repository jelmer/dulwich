import DulwichModel.Lemmas.ObjectsCache
namespace Dulwich.Objects
namespace P
variable {F : Type}

/-- `sha()` through `as_raw_chunks()`: when nothing is cached or the object is dirty, the id returned and the id cached are
the name of the content; otherwise the cached id is returned. -/
theorem shaStep_eq (H : Bytes → Bytes) (C : Cls F) (s : St F) : shaStep H C s =
    if s.sha.isNone || s.needs then
      ((content C s).bind (nameOf H C), { (asRawChunks C s).2 with sha := (content C s).bind (nameOf H C) })
    else (s.sha, s) := by
  obtain ⟨f, n, sh, ch⟩ := s
  unfold shaStep
  split
  · rename_i hd
    simp only [asRawChunks, content]
    cases n
    · -- clean, so nothing is cached: `sha = none` already
      obtain rfl : sh = none := by simpa using hd
      cases ch with
      | none => rfl
      | some b => simp only [Bool.false_eq_true, if_false, Option.bind_some, nameOf]; cases hashInput C.typeNum b <;> rfl
    · simp only [if_true]
      cases C.ser f with
      | none => rfl
      | some b => simp only [Option.bind_some, nameOf]; cases hashInput C.typeNum b <;> rfl
  · rfl

theorem shaStep_spec (H : Bytes → Bytes) (C : Cls F) (s : St F) :
    (shaStep H C s).2.fields = s.fields ∧ content C (shaStep H C s).2 = content C s := by
  rw [shaStep_eq]
  split
  · exact (asRawChunks_spec C s).2
  · exact ⟨rfl, rfl⟩

theorem shaStep_fst (H : Bytes → Bytes) (C : Cls F) (s : St F) (h : Inv H C s) :
    (shaStep H C s).1 = (content C s).bind (nameOf H C) := by
  rw [shaStep_eq]
  split
  · rfl
  · rename_i hc
    simp only [Bool.or_eq_true, Option.isNone_iff_eq_none, not_or, Bool.not_eq_true] at hc
    obtain ⟨hs, hn⟩ := hc
    cases hsd : s.sha with
    | none => exact absurd hsd hs
    | some d =>
      obtain ⟨b, hb, hname⟩ := h.1 hn d hsd
      simp [content, hn, hb, hname]

theorem shaStep_inv (H : Bytes → Bytes) (C : Cls F) (s : St F) (h : Inv H C s) : Inv H C (shaStep H C s).2 := by
  rw [shaStep_eq]
  split
  · obtain ⟨-, -, hc⟩ := asRawChunks_spec C s
    refine ⟨fun hn d hd => ?_, (asRawChunks_inv H C s h).2⟩
    -- the state is clean, so its content, which is that of `s`, is the cached text
    rw [← hc, content, if_neg (by simpa using hn)] at hd
    exact Option.bind_eq_some_iff.mp hd
  · exact h
end P
end Dulwich.Objects
