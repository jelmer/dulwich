/-
  Lemmas for C05 about `find_common_revisions` (Model/Negotiate.lean): the `haves` the server ends with are have lines of
  the client that the server's store contains, and when `handle_done` lets the pack go.  `ackHave_haves` evaluates
  `Gen.haveCheckedAgainstStore` (at `| false => rfl`: a name the store lacks leaves `haves` alone): regenerated from a
  source without the `if sha in self`, it fails.  Core Lean only.
-/
import DulwichModel.Model.Negotiate

namespace Dulwich.Negotiate
open Dulwich Dulwich.Graph

variable (mode : AckMode) (stateless : Bool) (has : Id → Bool) (sat : List Id → Bool)

theorem ackHave_haves (x : Id) (st : NState) :
    (ackHave mode has sat x st).haves = if has x then st.haves ++ [x] else st.haves := by
  unfold ackHave
  cases has x with
  | false => rfl
  | true =>
    rw [if_neg (by decide), if_pos rfl]
    cases mode with
    | detailed => rfl
    | _ => dsimp only; split <;> rfl

theorem loop_haves_sound :
    ∀ (lines : List CLine) (st : NState) (r : NegoResult), loop mode stateless has sat lines st = .ok r →
      ∀ y ∈ r.haves, y ∈ st.haves ∨ (has y = true ∧ CLine.have_ y ∈ lines) := by
  intro lines st r h y hy
  have again : ∀ {l : CLine} {rest : List CLine}, has y = true ∧ CLine.have_ y ∈ rest →
      has y = true ∧ CLine.have_ y ∈ l :: rest := fun h => ⟨h.1, List.mem_cons_of_mem _ h.2⟩
  fun_induction loop mode stateless has sat lines st with
  | case2 x rest st st' ih =>
    refine (ih h).elim (fun h1 => ?_) fun h1 => .inr (again h1)
    -- the `ackContinue` written before `ackHave` in multi-ack mode leaves `haves` alone
    have e : st'.haves = st.haves := by unfold st'; split <;> rfl
    rw [ackHave_haves, e] at h1
    split at h1
    · rename_i hx
      exact (List.mem_append.1 h1).imp_right fun h => by cases List.mem_singleton.1 h; exact ⟨hx, .head _⟩
    · exact .inl h1
  | case3 | case4 | case7 | case9 => cases h; exact .inl hy
  | case5 rest st hm ih =>
    subst hm
    exact (ih h).imp_right again
  | case8 rest st hm _ c _ st' _ ih =>
    subst hm
    exact (ih h).imp_right again
  | case10 rest st hm _ st' _ ih =>
    subst hm
    exact (ih h).imp_right again
  | _ => cases h

theorem sendsPack_needs_done (r : NegoResult) (noDone : Bool) (hp : sendsPack mode r noDone = true) :
    r.doneReceived = true ∨ (noDone = true ∧ r.common ≠ []) := by
  unfold sendsPack at hp
  cases hd : r.doneReceived
  · right
    simp [hd] at hp
    refine ⟨hp.1, ?_⟩
    intro hnil
    simp [hnil] at hp
  · left; rfl

end Dulwich.Negotiate
