/-
  C19 — pkt-line and side-band framing round-trips under any read chunking.

  The property theorems with their non-vacuity examples and negation witnesses, and the two notions
  only they need (`WellFramed`, `shortRead`); the other notions of the statements (`Fits`, `ReadSpec`,
  `sbPackets`/`sbPairs`/`sbFrames`, `CapsWF`) stand at the head of Lemmas/PktLine.lean, which holds
  the lemmas.  The model is Model/PktLine.lean; the constants of the source it uses come from
  Gen/PktLine.lean, which the translator regenerates from /repo on every run.
-/
import DulwichModel.Lemmas.PktLine

namespace Dulwich.Props.C19
open Dulwich Dulwich.PktLine

/-! ## 1. Frames: `pkt_line` frames what fits one pkt-line and refuses the rest -/

/-- `f` is a four-byte length prefix that `_parse_pkt_line_length` reads as `|p| + 4`, followed by `p`. -/
def WellFramed (f p : Bytes) : Prop :=
  ∃ pre, pre.length = 4 ∧ f = pre ++ p ∧ parseLen pre = .ok (p.length + 4)

/-- The formatting step `f"{len(p) + 4:04x}" + p` on its own yields a well-formed frame exactly when
`|p| + 4 ≤ 0xFFFF` (the format pads, it never truncates): why the size check in `pkt_line` is needed. -/
theorem frame_well_formed (p : Bytes) : WellFramed (frame (some p)) p ↔ p.length + 4 ≤ 0xFFFF := by
  constructor
  · intro ⟨pre, hl, he, _⟩
    refine Nat.le_of_not_lt fun h => ?_
    have hlong := fmtHex_long 4 (p.length + 4) h
    have := congrArg List.length he
    rw [frame_data, List.length_append, List.length_append] at this
    omega
  · intro h
    have h : p.length + 4 < 65536 := Nat.lt_succ_of_le h
    exact ⟨_, fmtHex_length 4 _ h (by decide), frame_data p, parseLen_fmtHex _ h⟩

/-- **Frame statement.**  "Payloads too large for one frame are split or refused, never
emitted as a malformed frame": for EVERY payload `pkt_line` either raises (ValueError) — exactly
when the frame would exceed git's `LARGE_PACKET_MAX` — or returns a well-formed frame no longer
than `LARGE_PACKET_MAX`.  (Depends on `MAX_PKT_LINE_DATA_LEN = 65516` from the source.) -/
theorem frame_statement (p : Bytes) :
    (pktLine (some p) = none ∧ gitLargePacketMax < p.length + 4) ∨
    (∃ f, pktLine (some p) = some f ∧ WellFramed f p ∧ f.length ≤ gitLargePacketMax) := by
  rw [gitLargePacketMax]
  by_cases h : Gen.PktLine.maxDataLen < p.length
  · exact Or.inl ⟨(pktLine_none_iff p).mpr h, Nat.add_lt_add_right h 4⟩
  · have h4 : p.length + 4 ≤ 65520 := Nat.add_le_add_right (Nat.le_of_not_lt h) 4
    refine Or.inr ⟨_, pktLine_some p (Nat.le_of_not_lt h), (frame_well_formed p).mpr (Nat.le_trans h4 (by decide)), ?_⟩
    rw [frame_length p (fits_some.mpr (Nat.lt_of_le_of_lt h4 (by decide)))]
    exact h4

/-- `pkt_line` refuses exactly the payloads that do not fit one frame of git's maximum size -/
theorem pkt_line_refuses_iff (p : Bytes) : pktLine (some p) = none ↔ gitLargePacketMax < p.length + 4 := by
  rw [pktLine_none_iff, gitLargePacketMax, Gen.PktLine.maxDataLen]
  omega

example : ∃ f, pktLine (some [104, 105]) = some f ∧ WellFramed f [104, 105] := by
  rcases frame_statement [104, 105] with ⟨h, _⟩ | ⟨f, h1, h2, _⟩
  · exact absurd h (by decide)
  · exact ⟨f, h1, h2⟩

/-- Regression witness (F-C19-pktline-five-digit-prefix, fixed by f6d7a50): the old, total `pkt_line` gave
a 65532-byte payload the five-digit prefix `10000` — for every such payload the output was not a frame. -/
theorem old_pkt_line_five_digit_prefix_witness (p : Bytes) (h : p.length = 65532) :
    (Old.pktLine (some p)).take 5 = [49, 48, 48, 48, 48] ∧ ¬ WellFramed (Old.pktLine (some p)) p ∧
    pktLine (some p) = none := by
  refine ⟨?_, fun hw => ?_, (pkt_line_refuses_iff p).mpr (by rw [h]; decide)⟩
  · show (frame (some p)).take 5 = _
    rw [frame_data, h]
    have : fmtHex 4 (65532 + 4) = [49, 48, 48, 48, 48] := by decide +kernel
    rw [this]; rfl
  · have := (frame_well_formed p).mp hw
    omega

/-- Regression witness (F-C19-pktline-over-large-packet-max, fixed by f6d7a50): the old `pkt_line` framed a
65517-byte payload in one 65521-byte frame, longer than git's `LARGE_PACKET_MAX`; the new one refuses it. -/
theorem old_pkt_line_over_git_max_witness (p : Bytes) (h : p.length = 65517) :
    gitLargePacketMax < (Old.pktLine (some p)).length ∧ pktLine (some p) = none := by
  rw [show (Old.pktLine (some p)).length = _ from frame_length p (fits_some.mpr (by omega)), h]
  exact ⟨by decide, (pkt_line_refuses_iff p).mpr (by rw [h]; decide)⟩

/-! ## 2. Every byte string offered as a length prefix is classified -/

/-- **Length-prefix totality**, all byte strings (in particular all 2^32 four-byte prefixes): either a
protocol error — wrong length or some byte outside `_HEX_DIGITS` — or exactly four hex digits and
a length below 16^4.  Nothing else (no other exception class, no negative or huge length).  The
proof lifts a kernel evaluation over the 22 entries of `_HEX_DIGITS` (`digit_table`: each is a digit
of the base). -/
theorem parseLen_total (s : Bytes) :
    (parseLen s = .protocol ∧ (s.length ≠ 4 ∨ ∃ b ∈ s, Gen.PktLine.hexDigits.contains b.toNat = false)) ∨
    (∃ n, n < 65536 ∧ parseLen s = .ok n ∧ s.length = 4 ∧
      ∀ b ∈ s, Gen.PktLine.hexDigits.contains b.toNat = true) :=
  parseLen_classified s

theorem prefix_roundtrip (n : Nat) (h : n < 65536) : parseLen (fmtHex 4 n) = .ok n :=
  parseLen_fmtHex n h

example : parseLen [48, 48, 97, 70] = .ok 175 ∧ parseLen [45, 48, 48, 49] = .protocol ∧
    parseLen [48, 48, 48] = .protocol := by decide +kernel

/-! ## 3. `read_pkt_line`: round trip over a blocking read, and over `ReceivableProtocol` under every chunking -/

/-- **Round trip, blocking reader** (`Protocol` over a file-like `read`): every sequence of
flush-pkts and payloads that fit comes back, followed by a clean hang-up. -/
theorem protocol_roundtrip (ps : List Pkt) (h : ∀ x ∈ ps, Fits x) :
    readAll bytesRead (ps.length + 1) ⟨none, encode ps⟩ = (ps, .hangup) :=
  readAll_roundtrip bytesRead_spec ps (encode ps) trivial rfl h

/-- **Encode-then-decode, blocking reader, no size hypothesis**: whatever `pkt_line` accepts (every
call returned, none raised) reads back as the original sequence. -/
theorem pkt_roundtrip_protocol (ps : List Pkt) (w : Bytes) (hw : wire ps = some w) :
    readAll bytesRead (ps.length + 1) ⟨none, w⟩ = (ps, .hangup) := by
  obtain ⟨rfl, hf⟩ := wire_eq_some ps w hw
  exact protocol_roundtrip ps hf

/-- Non-vacuity: `0005a`, flush, the empty pkt-line `0004`, `0006bc`. -/
example : readAll bytesRead 5 ⟨none, encode [some [97], none, some [], some [98, 99]]⟩
    = ([some [97], none, some [], some [98, 99]], .hangup) := by decide +kernel

/-- **`ReceivableProtocol.read` is a blocking read of the stream, whatever the fragments.**  For any
buffer state and any list of non-empty fragments still to be delivered by `recv`, `read(n)`
(`n > 0`) returns exactly the next `n` bytes of the concatenated stream (fewer only at EOF) and
leaves a state whose remaining stream is the rest. -/
theorem receivable_read_is_blocking_read (n : Nat) (st : RP) (hn : 0 < n) (hv : ∀ c ∈ st.src, c ≠ []) :
    ∃ st', rpRead n st = some (st.stream.take n, st') ∧ st'.stream = st.stream.drop n ∧
      (∀ c ∈ st'.src, c ≠ []) :=
  rpRead_spec.read_take n st hv hn

/-- **Round trip under every chunking, `ReceivableProtocol`.**  For every sequence of
flush-pkts and payloads that fit the length field — the empty payload included — and EVERY way
`recv` may cut the encoded byte stream into non-empty fragments, repeated `read_pkt_line` returns
the original sequence and then hangs up cleanly. -/
theorem receivable_roundtrip_any_chunking (ps : List Pkt) (cs : List Bytes)
    (h : ∀ x ∈ ps, Fits x) (hcs : ∀ c ∈ cs, c ≠ []) (hflat : cs.flatten = encode ps) :
    readAll rpRead (ps.length + 1) ⟨none, ⟨[], cs⟩⟩ = (ps, .hangup) :=
  readAll_roundtrip rpRead_spec ps ⟨[], cs⟩ hcs hflat h

/-- **Encode-then-decode under every chunking, `ReceivableProtocol`, no size hypothesis**: the bytes
`pkt_line` produced for ANY payload sequence it accepted, cut into non-empty fragments in ANY way,
read back as the original sequence. -/
theorem pkt_roundtrip_receivable_any_chunking (ps : List Pkt) (w : Bytes) (cs : List Bytes)
    (hw : wire ps = some w) (hcs : ∀ c ∈ cs, c ≠ []) (hflat : cs.flatten = w) :
    readAll rpRead (ps.length + 1) ⟨none, ⟨[], cs⟩⟩ = (ps, .hangup) := by
  obtain ⟨rfl, hf⟩ := wire_eq_some ps w hw
  exact receivable_roundtrip_any_chunking ps cs hf hcs hflat

/-- Non-vacuity: `0005a` `0000` `0006bc` delivered as `00|05a00|0|0000|6bc`. -/
example : readAll rpRead 4 ⟨none, ⟨[], [[48, 48], [48, 53, 97, 48, 48], [48], [48, 48, 48, 48], [54, 98, 99]]⟩⟩
    = ([some [97], none, some [98, 99]], .hangup) := by decide +kernel

/-- Non-vacuity with the empty payload: `0004` `0005a` delivered as `000|4000|5a`. -/
example : readAll rpRead 3 ⟨none, ⟨[], [[48, 48, 48], [52, 48, 48, 48], [53, 97]]⟩⟩
    = ([some [], some [97]], .hangup) := by decide +kernel

/-- Regression witness (F-C19-rp-empty-pkt-line, fixed by dc07912): the old `read_pkt_line` called
`read(0)` for the empty pkt-line `0004` (= `pkt_line(b"")`), which trips `assert size > 0` in
`ReceivableProtocol.read`: neither the payload nor a protocol error.  The new one returns `b""`. -/
theorem old_receivable_empty_payload_witness :
    (match Old.readCore rpRead ⟨[], [frame (some [])]⟩ with | .otherErr => true | _ => false) = true ∧
    (match readCore rpRead ⟨[], [frame (some [])]⟩ with | .pkt (some []) _ => true | _ => false) = true := by
  decide +kernel

/-- A transport `read` that returns short (socket `recv` used directly): outside `Protocol`'s contract. -/
def shortRead : Reader (List Bytes) := fun n s => some (srcRecv n s)

/-- The blocking hypothesis is necessary: over a `read` that may return short, a perfectly valid
stream (`0005a` delivered as `00|05a`) is a protocol error.  `Protocol` must be given a blocking
`read`; `ReceivableProtocol` is what provides one over `recv`. -/
theorem unbuffered_short_read_counterexample :
    readAll shortRead 3 ⟨none, [[48, 48], [48, 53, 97]]⟩ = ([], .protoErr) := by decide +kernel

/-! ## 4. `PktLineParser`: chunking independence and round trip under every chunking -/

/-- **Chunking independence**, every byte string (well-formed or not) and every fragmentation
(empty fragments included): feeding the fragments one `parse()` call each delivers exactly the
packets, and ends in exactly the tail / protocol error, of a single call on the whole string. -/
theorem parser_chunking_independent (cs : List Bytes) : feedAll [] cs = parse cs.flatten :=
  feedAll_eq_parse cs [] rfl

/-- **Round trip under every chunking, `PktLineParser`.**  Every sequence of flush-pkts and payloads
that fit (the empty payload included), however the encoded stream is cut, is handed to the
callback unchanged, and nothing is left in the read-ahead buffer. -/
theorem parser_roundtrip_any_chunking (ps : List Pkt) (cs : List Bytes)
    (h : ∀ x ∈ ps, Fits x) (hflat : cs.flatten = encode ps) :
    feedAll [] cs = (ps, .tail []) := by
  rw [parser_chunking_independent, hflat, parse_encode ps h]

/-- **Encode-then-decode under every chunking, `PktLineParser`, no size hypothesis.** -/
theorem pkt_roundtrip_parser_any_chunking (ps : List Pkt) (w : Bytes) (cs : List Bytes)
    (hw : wire ps = some w) (hflat : cs.flatten = w) : feedAll [] cs = (ps, .tail []) := by
  obtain ⟨rfl, hf⟩ := wire_eq_some ps w hw
  exact parser_roundtrip_any_chunking ps cs hf hflat

example : feedAll [] [[48], [48, 48, 52, 48, 48], [48, 48, 48, 48, 48], [54, 98], [99, 48, 48]]
    = ([some [], none, some [98, 99]], .tail [48, 48]) := by decide +kernel

/-! ## 5. Decoder totality: frames, then a clean end or a protocol error — nothing else -/

/-- The incremental parser never ends in anything but a tail or a protocol error, for every
byte string and (by §4) every fragmentation. -/
theorem parser_total (buf : Bytes) : (parse buf).2 ≠ .otherErr := by
  induction buf using parse_induction with
  | step buf ih =>
    have hok := parseStep_spec buf []
    rw [parse_eq]
    cases hs : parseStep buf with
    | emit p r => exact ih p r hs
    | done e => rw [hs] at hok; intro he; rw [show e = .otherErr from he] at hok; exact hok

theorem parser_total_any_chunking (cs : List Bytes) : (feedAll [] cs).2 ≠ .otherErr := by
  rw [parser_chunking_independent]
  exact parser_total _

/-- `read_pkt_line` over a blocking read, repeated until it raises: for EVERY byte string the run
ends in a hang-up (clean EOF at a frame boundary) or a protocol error; the fuel `|s| + 1` is never
exhausted (each returned packet consumed at least four bytes). -/
theorem reader_total : ∀ (n : Nat) (s : Bytes), s.length < n →
    (readAll bytesRead n ⟨none, s⟩).2 = .hangup ∨ (readAll bytesRead n ⟨none, s⟩).2 = .protoErr :=
  fun n s h => readAll_total bytesRead_spec n s trivial h

/-! ## 6. `eof()` / `unread_pkt_line` are transparent -/

/-- Probing `eof()` before a read changes neither what `read_pkt_line` returns next nor what is
left on the transport (any conforming reader, any frame that fits the length field — so also a
peer's frame longer than what `pkt_line` would send; the empty payload included); on an
exhausted stream `eof()` answers `True`. -/
theorem eof_transparent {τ : Type} {rd : Reader τ} {abs : τ → Bytes} {Valid : τ → Prop}
    (hrd : ReadSpec rd abs Valid) (s : τ) (x : Pkt) (rest : Bytes) (hv : Valid s)
    (habs : abs s = frame x ++ rest) (hf : Fits x) :
    ∃ st' s', eof rd ⟨none, s⟩ = .ok false st' ∧ readPktLine rd st' = .pkt x ⟨none, s'⟩ ∧
      abs s' = rest ∧ Valid s' := by
  obtain ⟨s', h1, h2, h3⟩ := readCore_frame hrd s x rest hv habs hf
  obtain ⟨b', g1, _, _⟩ := readCore_frame bytesRead_spec (frame x) x [] trivial (by simp) hf
  exact ⟨⟨some (frame x), s'⟩, s', by simp [eof, readPktLine, h1, unreadPktLine_frame x hf],
    by simp [readPktLine, g1], h2, h3⟩

theorem eof_at_end {τ : Type} {rd : Reader τ} {abs : τ → Bytes} {Valid : τ → Prop}
    (hrd : ReadSpec rd abs Valid) (s : τ) (hv : Valid s) (habs : abs s = []) :
    ∃ st', eof rd ⟨none, s⟩ = .ok true st' := by
  obtain ⟨s', h⟩ := readCore_eof hrd s hv habs
  exact ⟨⟨none, s'⟩, by simp [eof, readPktLine, h]⟩

example : ∃ st', eof bytesRead ⟨none, [48, 48, 48, 53, 97, 48]⟩ = .ok false st' ∧
    readPktLine bytesRead st' = .pkt (some [97]) ⟨none, [48]⟩ :=
  ⟨⟨some [48, 48, 48, 53, 97], [48]⟩, by rfl, by rfl⟩

/-! ## 7. `ReceivableProtocol.recv` -/

/-- `recv(n)` (`n > 0`, `_rbufsize > 0`) returns a prefix of the remaining stream of at most `n`
bytes — non-empty unless the stream is exhausted — and leaves exactly the rest: `read` and `recv`
calls can be mixed freely without losing, duplicating or reordering a byte. -/
theorem receivable_recv_prefix (rb n : Nat) (st : RP) (hn : 0 < n) (hrb : 0 < rb)
    (hv : ∀ c ∈ st.src, c ≠ []) :
    ∃ out st', rpRecv rb n st = some (out, st') ∧ out ++ st'.stream = st.stream ∧ out.length ≤ n ∧
      (st.stream ≠ [] → out ≠ []) ∧ (∀ c ∈ st'.src, c ≠ []) := by
  have hn0 := Nat.ne_of_gt hn
  obtain ⟨data, src', hr, hs, hne, hv'⟩ : ∃ data src',
      rpRecv rb n st = some (data.take n, ⟨data.drop n, src'⟩) ∧ data ++ src'.flatten = st.stream ∧
      (st.stream ≠ [] → data ≠ []) ∧ ∀ c ∈ src', c ≠ [] := by
    by_cases hb : st.rbuf = []
    · obtain ⟨a, b, c⟩ := srcRecv_spec rb hrb st.src hv
      have hst : st.stream = st.src.flatten := by rw [RP.stream, hb, List.nil_append]
      refine ⟨_, _, ?_, hst ▸ a, hst ▸ b, c⟩
      simp only [rpRecv, hn0, hb, if_true, if_false]
      split
      · rename_i h; rw [List.take_of_length_le (Nat.le_of_eq h), List.drop_of_length_le (Nat.le_of_eq h)]
      · rfl
    · exact ⟨st.rbuf, st.src, by simp [rpRecv, hn0, hb], rfl, fun _ => hb, hv⟩
  exact ⟨_, _, hr, by rw [← hs]; exact take_append_drop_append n data _,
    by rw [List.length_take]; exact Nat.min_le_left _ _,
    fun h e => (List.take_eq_nil_iff.mp e).elim hn0 (hne h), hv'⟩

/-! ## 8. side-band: split at 65515, every frame within git's limit, reassembly per channel -/

/-- **`write_sideband` never raises and never exceeds git's frame limit**: `pkt_line` accepts every
slice (the result is `some (sbFrames …)`), every write is one well-formed frame of at most 65520
bytes carrying the channel byte and a non-empty slice of the blob, and the slices concatenate to
the blob.  (Depends on `blob[:65515]` and `MAX_PKT_LINE_DATA_LEN`: 65515 + 1 = 65516.) -/
theorem sideband_split_ok (ch : UInt8) (blob : Bytes) :
    writeSideband ch blob = some (sbFrames ch blob) ∧
    (∀ f ∈ sbFrames ch blob, f.length ≤ gitLargePacketMax ∧ ∃ c, c ≠ [] ∧ WellFramed f (ch :: c)) ∧
    (sbChunks blob.length blob).flatten = blob := by
  obtain ⟨hflat, hb⟩ := sbChunks_spec _ blob (Nat.le_refl _)
  refine ⟨writeSideband_eq ch blob, fun f hf => ?_, hflat⟩
  obtain ⟨c, hc, rfl⟩ := List.mem_map.mp hf
  obtain ⟨b1, b2⟩ := hb c hc
  have hlen : (ch :: c).length + 4 ≤ 65520 := by rw [List.length_cons]; omega
  exact ⟨by rw [frame_length _ (fits_some.mpr (by omega))]; exact hlen, c, b1, (frame_well_formed _).mpr (by omega)⟩

/-- **Side-band round trip, blocking reader**: any sequence of writes on any channels, followed by
a flush-pkt and anything else: `read_pkt_seq` + `_read_side_band64k_data` yield exactly the
`(channel, slice)` pairs, in order, and leave the transport right after the flush-pkt. -/
theorem sideband_roundtrip (writes : List (UInt8 × Bytes)) (rest : Bytes) :
    ∃ pk, readPktSeq bytesRead ((sbPackets writes).length + 1)
        ⟨none, (writes.flatMap (fun w => sbFrames w.1 w.2)).flatten ++ (frame none ++ rest)⟩
      = (pk, none, ⟨none, rest⟩) ∧ sidebandDemux pk = some (sbPairs writes) := by
  obtain ⟨s', h1, rfl, _⟩ := readPktSeq_roundtrip bytesRead_spec rest (sbPackets writes)
    ((writes.flatMap (fun w => sbFrames w.1 w.2)).flatten ++ (frame none ++ rest)) trivial
    (by rw [sbFrames_encode]) (sbPackets_ok writes)
  exact ⟨_, h1, sidebandDemux_packets writes⟩

/-- **Side-band round trip under every chunking** (`ReceivableProtocol`): the same, for every way
`recv` may fragment the wire bytes. -/
theorem sideband_roundtrip_any_chunking (writes : List (UInt8 × Bytes)) (cs : List Bytes)
    (hcs : ∀ c ∈ cs, c ≠ [])
    (hflat : cs.flatten = (writes.flatMap (fun w => sbFrames w.1 w.2)).flatten ++ frame none) :
    ∃ pk st', readPktSeq rpRead ((sbPackets writes).length + 1) ⟨none, ⟨[], cs⟩⟩ = (pk, none, ⟨none, st'⟩) ∧
      st'.stream = [] ∧ sidebandDemux pk = some (sbPairs writes) := by
  obtain ⟨s', h1, h2, _⟩ := readPktSeq_roundtrip rpRead_spec [] (sbPackets writes) ⟨[], cs⟩ hcs
    (by rw [RP.stream, List.nil_append, hflat, sbFrames_encode, List.append_nil]) (sbPackets_ok writes)
  exact ⟨_, s', h1, h2, sidebandDemux_packets writes⟩

/-- **Reassembly per channel**: what a reader collects on channel `ch` is the concatenation of the
blobs written to `ch`, for every interleaving of writes on the three (indeed all 256) channels. -/
theorem sideband_reassembly (writes : List (UInt8 × Bytes)) (ch : UInt8) :
    (((sbPairs writes).filter (fun x => x.1 = ch)).map (·.2)).flatten
      = ((writes.filter (fun w => w.1 = ch)).map (·.2)).flatten := by
  induction writes with
  | nil => simp [sbPairs]
  | cons w ws ih =>
    simp only [sbPairs, List.flatMap_cons, List.filter_append, List.map_append, List.flatten_append] at ih ⊢
    rw [ih, channel_filter_map]
    by_cases h : w.1 = ch
    · simp [h, (sbChunks_spec _ _ (Nat.le_refl _)).1]
    · simp [h]

example : writeSideband 2 [104, 105] = some [[48, 48, 48, 55, 2, 104, 105]] := by decide +kernel

/-! ## 9. `BufferedPktLineWriter`: what reaches the underlying writer is the pkt-line stream -/

/-- **Buffered writer stream equality**, for every buffer size, every starting value of the
`_buflen` counter (which `flush` never resets — the `_len` slip — and the model reproduces) and
every sequence of writes that `pkt_line` accepts: no write raises, and the blobs handed to the
underlying writer, with the final `flush`, concatenate to `pkt_line(d1) ++ pkt_line(d2) ++ …`.
(Slice identity `l[:k] + l[k:] = l` for every integer `k`, negative ones included.) -/
theorem buffered_writer_stream_eq (bufsize buflen : Nat) (ds : List Bytes) (h : ∀ d ∈ ds, d.length ≤ 65516) :
    ∃ outs, bwRun bufsize ⟨[], buflen⟩ ds = some outs ∧ wire (ds.map some) = some outs.flatten := by
  obtain ⟨outs, h1, h2⟩ := bwRun_stream bufsize ds ⟨[], buflen⟩ h
  exact ⟨outs, h1, by rw [wire_data ds h, h2]; rfl⟩

/-- a write that does not fit one pkt-line is refused (the ValueError of `pkt_line` propagates) -/
theorem buffered_writer_refuses (bufsize : Nat) (st : BW) (d : Bytes) (ds : List Bytes) (h : 65516 < d.length) :
    bwRun bufsize st (d :: ds) = none := by
  simp only [bwRun, (pktLine_none_iff d).mpr h]

example : bwRun 12 ⟨[], 0⟩ [[97, 98], [99], [100, 101, 102, 103, 104], []]
    = some [[48, 48, 48, 54, 97, 98, 48, 48, 48, 53, 99, 48], [48, 48, 57, 100, 101, 102, 103, 104], [48, 48, 48, 52]] := by
  decide +kernel

/-! ## 10. `PackStreamReader._read`: the checksum trailer is tracked under any read sizes -/

/-- **Trailer tracking**: after any sequence of reads (any sizes, empty reads included) everything
read so far is `hashed ++ trailer`, and the trailer is the last `min(hash_size, total)` bytes. -/
theorem trailer_tracking (h : Nat) (hh : 0 < h) (cs : List Bytes) :
    (trailerRun h ⟨[], []⟩ cs).hashed ++ (trailerRun h ⟨[], []⟩ cs).trailer = cs.flatten ∧
    (trailerRun h ⟨[], []⟩ cs).trailer.length = min h cs.flatten.length := by
  exact trailerRun_inv h hh cs ⟨[], []⟩ [] rfl (Nat.min_zero h).symm

/-- hence the hashed prefix and the trailer do not depend on how the stream was cut into reads -/
theorem trailer_chunking_independent (h : Nat) (hh : 0 < h) (cs cs' : List Bytes)
    (hflat : cs.flatten = cs'.flatten) : trailerRun h ⟨[], []⟩ cs = trailerRun h ⟨[], []⟩ cs' := by
  obtain ⟨a1, a2⟩ := trailer_tracking h hh cs
  obtain ⟨b1, b2⟩ := trailer_tracking h hh cs'
  rw [hflat] at a1 a2
  have := List.append_inj' (a1.trans b1.symm) (a2.trans b2.symm)
  cases h1 : trailerRun h ⟨[], []⟩ cs
  cases h2 : trailerRun h ⟨[], []⟩ cs'
  simp only [h1, h2] at this
  rw [this.1, this.2]

example : trailerRun 3 ⟨[], []⟩ [[1, 2], [3], [], [4, 5, 6, 7, 8, 9], [10]] = ⟨[1, 2, 3, 4, 5, 6, 7], [8, 9, 10]⟩ := by
  decide +kernel

/-! ## 11. capability lists and ref lines -/

/-- **Capability-list round trip** through `format_ref_line` / `extract_capabilities`: for
every ref and sha without NUL and EVERY list — the empty one included — of non-empty capability
tokens without SP, LF and NUL (`CapsWF`: the separator, the terminator and the field delimiter of
the format itself; nothing else is excluded — TAB, CR, VT, FF, any other byte may occur anywhere). -/
theorem caps_roundtrip (ref sha : Bytes) (caps : List Bytes) (hw : CapsWF caps)
    (hs : (0 : UInt8) ∉ sha) (hr : (0 : UInt8) ∉ ref) :
    extractCapabilities (formatRefLine ref sha (some caps)) = some (sha ++ [32] ++ ref, caps) := by
  have hT : (0 : UInt8) ∉ sha ++ [32] ++ ref := by simp [hs, hr]
  have hC : (0 : UInt8) ∉ formatCapabilityLine caps ++ [10] := by
    simpa [formatCapabilityLine] using hw.nosep 0 (.inr (.inr rfl))
  rw [show formatRefLine ref sha (some caps) = (sha ++ [32] ++ ref) ++ 0 :: (formatCapabilityLine caps ++ [10]) by
    simp [formatRefLine], extractCapabilities_nul hT hC, strip_capline caps hw]
  by_cases hne : caps = []
  · subst hne; rfl
  · obtain ⟨b, J, hJ, _⟩ := hw.first hne
    rw [if_neg (by rw [hJ]; nofun), splitOn_join 32 caps hne (hw.nosep 32 (.inl rfl))]

/-- Non-vacuity: tokens with TAB and CR at their edges are in the domain. -/
example : CapsWF [[9, 97, 98], [99, 61, 100, 13]] ∧ CapsWF [] := by
  refine ⟨fun c hc => ?_, fun c hc => by simp at hc⟩
  simp only [List.mem_cons, List.not_mem_nil, or_false] at hc
  rcases hc with rfl | rfl <;> decide

example : extractCapabilities (formatRefLine [114] [49] (some [[9, 97], [98, 13]]))
    = some ([49, 32, 114], [[9, 97], [98, 13]]) := by decide +kernel

/-- **Want-line capability round trip, non-empty lists** (`want <sha> cap cap…\n` as the
client writes it): every non-empty list of `CapsWF` tokens comes back, for any command word and
sha without SP. -/
theorem want_caps_roundtrip (cmd sha : Bytes) (caps : List Bytes) (hw : CapsWF caps) (hne : caps ≠ [])
    (hc : (32 : UInt8) ∉ cmd) (hs : (32 : UInt8) ∉ sha) :
    extractWantLineCapabilities (joinWith 32 (cmd :: sha :: caps) ++ [10]) = (cmd ++ 32 :: sha, caps) := by
  obtain ⟨X, b, hX, hb⟩ := hw.last hne [cmd, sha]
  have hX : joinWith 32 (cmd :: sha :: caps) = X ++ [b] := hX
  rw [extractWantLineCapabilities, hX, rstripBy_line _ hb, ← hX,
    splitOn_join 32 (cmd :: sha :: caps) nofun]
  · obtain ⟨c0, cr, rfl⟩ := List.exists_cons_of_ne_nil hne
    simp [joinWith, Gen.PktLine.wantMin, Gen.PktLine.wantHead]
  · intro p hp
    rcases List.mem_cons.mp hp with rfl | hp
    · exact hc
    rcases List.mem_cons.mp hp with rfl | hp
    · exact hs
    · exact hw.nosep 32 (.inl rfl) p hp

/-- a want line without capabilities (`want <sha> \n`, as the v0/v1 client writes for an empty set)
yields no capabilities -/
example : (extractWantLineCapabilities [119, 32, 49, 32, 10]).2 = [] := by decide +kernel

/-- Regression witness (F-C19-caps-empty-list, fixed by 1f32606): the old `extract_capabilities` returned
the empty capability list as `[b""]`; the new one returns `[]`. -/
theorem old_caps_empty_list_witness :
    Old.extractCapabilities (formatRefLine [114] [49] (some [])) = some ([49, 32, 114], [[]]) ∧
    extractCapabilities (formatRefLine [114] [49] (some [])) = some ([49, 32, 114], []) := by decide +kernel

/-- Regression witness (F-C19-caps-edge-whitespace, fixed by cebbc46): the old extractors stripped a TAB at
the start of the first token and a CR at the end of the last one (`[b"\ta", b"b\r"]` came back as
`[b"a", b"b"]`, also on the want line); the new ones keep them. -/
theorem old_caps_edge_whitespace_witness :
    Old.extractCapabilities (formatRefLine [114] [49] (some [[9, 97], [98, 13]])) = some ([49, 32, 114], [[97], [98]]) ∧
    Old.extractWantLineCapabilities (joinWith 32 [[119], [49], [97], [98, 13]] ++ [10]) = ([119, 32, 49], [[97], [98]]) ∧
    extractWantLineCapabilities (joinWith 32 [[119], [49], [97], [98, 13]] ++ [10]) = ([119, 32, 49], [[97], [98, 13]]) := by
  decide +kernel

end Dulwich.Props.C19
