/-
  Model of dulwich's git delta codec.

  Python side (dulwich/pack.py): `_delta_encode_size`, `_encode_copy_operation`,
  `_create_delta_py` (the opcode emitter; the opcode list itself is a parameter — it is
  whatever `difflib.SequenceMatcher.get_opcodes()` or the Rust `similar` crate returned),
  `apply_delta`.

  Rust side (crates/pack/src/lib.rs): `get_delta_header_size`, `apply_delta` with `usize`
  (64-bit) arithmetic as coded after the two `fix:` commits (oversized size headers are rejected,
  the output buffer grows with the data, opcodes overflowing the declared size are errors).

  Arithmetic is written with `/`, `%`, `*` instead of `>>`, `&`, `|` where the two coincide;
  the correspondence check ties these definitions to the real code byte-for-byte.
-/
import DulwichModel.Model.Basic
import DulwichModel.Gen.Delta

namespace Dulwich.Delta
open Dulwich

/-! ## size varint -/

/-- `_delta_encode_size` (and Rust `delta_encode_size`). -/
def encodeSize (n : Nat) : Bytes :=
  if n < 128 then [UInt8.ofNat n]
  else UInt8.ofNat (n % 128 + 128) :: encodeSize (n / 128)
termination_by n
decreasing_by omega

/-- Python `get_delta_header_size`: unbounded integers.  Returns `(size, rest)` or `none`
when the delta ends inside the varint (`ApplyDeltaError("delta truncated in size header")`). -/
def decodeSizeAux (shift acc : Nat) : Bytes → Option (Nat × Bytes)
  | [] => none
  | b :: rest =>
    let acc' := acc + (b.toNat % 128) * 2 ^ shift
    if b.toNat < 128 then some (acc', rest) else decodeSizeAux (shift + 7) acc' rest

def decodeSize (d : Bytes) : Option (Nat × Bytes) := decodeSizeAux 0 0 d

/-! ## copy operation -/

/-- Little-endian bytes of `n` in `k` positions; zero bytes are skipped and flagged `false`
(the two loops of `_encode_copy_operation`). -/
def emitLE : Nat → Nat → List Bool × Bytes
  | 0, _ => ([], [])
  | k + 1, n =>
    let r := emitLE k (n / 256)
    if n % 256 = 0 then (false :: r.1, r.2) else (true :: r.1, UInt8.ofNat (n % 256) :: r.2)

/-- Read one byte per `true` flag, byte `i` weighted `256^i`
(the `for i in range(..): if cmd & (1 << i): x = read_byte()` loops of `apply_delta`).
`none` = `read_byte` ran off the end of the delta. -/
def readLE : List Bool → Bytes → Option (Nat × Bytes)
  | [], d => some (0, d)
  | false :: fl, d => (readLE fl d).map fun p => (256 * p.1, p.2)
  | true :: _, [] => none
  | true :: fl, b :: d => (readLE fl d).map fun p => (b.toNat + 256 * p.1, p.2)

/-- Value of a list of flag bits, bit `i` weighted `2^i`. -/
def bitsVal : List Bool → Nat
  | [] => 0
  | b :: bs => (if b then 1 else 0) + 2 * bitsVal bs

/-- The low `k` bits of `n`, least significant first (`cmd & (1 << i)` for `i < k`). -/
def bitsOf : Nat → Nat → List Bool
  | 0, _ => []
  | k + 1, n => (n % 2 = 1) :: bitsOf k (n / 2)

/-- `_encode_copy_operation(start, length)`: `Gen.copyOffsetBytes` (=4) offset bytes and
`Gen.copyLengthBytes` (=2) length bytes as read from the source by the translator. -/
def encodeCopy (off len : Nat) : Bytes :=
  let o := emitLE Gen.copyOffsetBytes off
  let l := emitLE Gen.copyLengthBytes len
  UInt8.ofNat (128 + bitsVal o.1 + 16 * bitsVal l.1) :: (o.2 ++ l.2)

/-! ## opcode emitter (`_create_delta_py` after difflib, Rust `create_delta_internal` after `similar`) -/

inductive Op where
  | copy (off len : Nat)       -- "equal" block: base[off : off+len]
  | insert (data : Bytes)      -- "replace"/"insert" block: literal target bytes
  deriving Repr, DecidableEq

/-- What an opcode list denotes. -/
def opsTarget (base : Bytes) : List Op → Bytes
  | [] => []
  | .copy off len :: ops => (base.drop off).take len ++ opsTarget base ops
  | .insert data :: ops => data ++ opsTarget base ops

/-- `while copy_len > 0: to_copy = min(copy_len, _MAX_COPY_LEN); yield _encode_copy_operation(...)`.
Fuel-free: structural on a bound `fuel ≥ len`. -/
def emitCopy (fuel off len : Nat) : Bytes :=
  match fuel with
  | 0 => []
  | fuel + 1 =>
    if len = 0 then [] else
    let n := min len Gen.maxCopyLen
    encodeCopy off n ++ emitCopy fuel (off + n) (len - n)

/-- `while s > 127: yield [127] + 127 bytes … ; yield [s] + rest`.  For an empty block the Python
code emits a lone `0` byte (never produced by difflib: replace/insert blocks are non-empty). -/
def emitInsert (fuel : Nat) (data : Bytes) : Bytes :=
  match fuel with
  | 0 => []
  | fuel + 1 =>
    if data.length > Gen.maxInsertLen then
      UInt8.ofNat Gen.maxInsertLen :: data.take Gen.maxInsertLen
        ++ emitInsert fuel (data.drop Gen.maxInsertLen)
    else UInt8.ofNat data.length :: data

def emitOps : List Op → Bytes
  | [] => []
  | .copy off len :: ops => emitCopy (len + 1) off len ++ emitOps ops
  | .insert data :: ops => emitInsert (data.length + 1) data ++ emitOps ops

/-- The whole delta for an opcode list. -/
def createDelta (base : Bytes) (ops : List Op) : Bytes :=
  encodeSize base.length ++ encodeSize (opsTarget base ops).length ++ emitOps ops

/-! ## Python `apply_delta` -/

def finish (destSize : Nat) (out : Bytes) : Except Err Bytes :=
  if out.length = destSize then .ok out else .error .delta

/-- Argument bytes of a copy opcode `cmd` (≥ 0x80): offset bytes for bits 0‥3, size bytes for bits
4‥6, a zero size meaning 0x10000.  `none` = `read_byte` ran past the end of the delta. -/
def decodeCopy (cmd : Nat) (rest : Bytes) : Option (Nat × Nat × Bytes) :=
  match readLE (bitsOf Gen.applyOffsetBytes cmd) rest with
  | none => none
  | some (off, r1) =>
    match readLE (bitsOf Gen.applySizeBytes (cmd / 16)) r1 with
    | none => none
    | some (sz0, r2) => some (off, if sz0 = 0 then Gen.copyZeroSize else sz0, r2)

/-- The opcode loop of `apply_delta`.  `fuel` bounds the number of opcodes; each consumes at least
one byte, so `d.length` suffices (`Delta.applyLoop_fuel`, Lemmas/Delta.lean). -/
def applyLoop (src : Bytes) (destSize : Nat) : Nat → Bytes → Bytes → Except Err Bytes
  | _, [], out => finish destSize out
  | 0, _ :: _, _ => .error .other          -- out of fuel (unreachable with fuel ≥ length)
  | fuel + 1, cmd :: rest, out =>
    if cmd.toNat ≥ 128 then
      match decodeCopy cmd.toNat rest with
      | none => .error .delta                                  -- read_byte past the end
      | some (off, sz, r2) =>
        if off + sz > src.length ∨ sz > destSize then
          -- `break`; then `index != delta_length` ⇒ error, else the dest-size check
          if r2.isEmpty then finish destSize out else .error .delta
        else applyLoop src destSize fuel r2 (out ++ (src.drop off).take sz)
    else if cmd.toNat ≠ 0 then
      if cmd.toNat > rest.length then .error .delta            -- truncated insert
      else applyLoop src destSize fuel (rest.drop cmd.toNat) (out ++ rest.take cmd.toNat)
    else .error .delta                                         -- opcode 0

/-- Python `apply_delta(src, delta)`. -/
def applyDelta (src delta : Bytes) : Except Err Bytes :=
  match decodeSize delta with
  | none => .error .delta
  | some (srcSize, d1) =>
    match decodeSize d1 with
    | none => .error .delta
    | some (destSize, d2) =>
      if srcSize ≠ src.length then .error .delta
      else applyLoop src destSize d2.length d2 []

/-- The size a delta declares for its output (second varint), if the header parses. -/
def declaredDest (delta : Bytes) : Option Nat :=
  match decodeSize delta with
  | none => none
  | some (_, d1) => (decodeSize d1).map (·.1)

/-! ## Rust `apply_delta` (crates/pack/src/lib.rs) -/

def usizeMod : Nat := 2 ^ Gen.rsUsizeBits

/-- Rust `get_delta_header_size` on a 64-bit `usize`: a non-zero 7-bit group that would be shifted
(partly) out of the word is rejected (`"delta size header too large"`); zero groups are accepted at
any position.  `none` = `ApplyDeltaError` (truncated or too large). -/
def rsDecodeSizeAux (shift acc : Nat) : Bytes → Option (Nat × Bytes)
  | [] => none
  | b :: rest =>
    let bits := b.toNat % 128
    if bits ≠ 0 ∧ (shift ≥ Gen.rsUsizeBits ∨ bits * 2 ^ shift ≥ usizeMod) then none else
    let acc' := acc + bits * 2 ^ shift
    if b.toNat < 128 then some (acc', rest) else rsDecodeSizeAux (shift + 7) acc' rest

/-- Rust opcode loop; `outindex = out.length`.  `none` = `ApplyDeltaError`. -/
def rsApplyLoop (src : Bytes) (destSize : Nat) : Nat → Bytes → Bytes → Option Bytes
  | _, [], out => if out.length = destSize then some out else none
  | 0, _ :: _, _ => none
  | fuel + 1, cmd :: rest, out =>
    if cmd.toNat ≥ 128 then
      match readLE (bitsOf Gen.rsApplyOffsetBytes cmd.toNat) rest with
      | none => none
      | some (off, r1) =>
        match readLE (bitsOf Gen.rsApplySizeBytes (cmd.toNat / 16)) r1 with
        | none => none
        | some (sz0, r2) =>
          let sz := if sz0 = 0 then Gen.rsCopyZeroSize else sz0
          if sz > src.length ∨ off > src.length ∨ off > src.length - sz ∨ sz > destSize then
            -- `break`
            if r2.isEmpty then (if out.length = destSize then some out else none) else none
          else if out.length > destSize - sz then none
          else rsApplyLoop src destSize fuel r2 (out ++ (src.drop off).take sz)
    else if cmd.toNat ≠ 0 then
      if cmd.toNat > destSize then none
      else if out.length + cmd.toNat > destSize then none
      else if cmd.toNat > rest.length then none
      else rsApplyLoop src destSize fuel (rest.drop cmd.toNat) (out ++ rest.take cmd.toNat)
    else none

/-- Rust `apply_delta`: the source size is checked before the destination size is parsed. -/
def applyDeltaRs (src delta : Bytes) : Except Err Bytes :=
  match rsDecodeSizeAux 0 0 delta with
  | none => .error .delta
  | some (srcSize, d1) =>
    if srcSize ≠ src.length then .error .delta else
    match rsDecodeSizeAux 0 0 d1 with
    | none => .error .delta
    | some (destSize, d2) =>
      match rsApplyLoop src destSize d2.length d2 [] with
      | some out => .ok out
      | none => .error .delta

end Dulwich.Delta
