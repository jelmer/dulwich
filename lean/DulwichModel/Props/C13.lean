/-
  C13 — merge-base, ancestry and history walks are exact on every DAG and clock.

  The models are Model/LCA.lean (`_find_lcas`, find_merge_base, can_fast_forward, independent, find_octopus_base)
  and Model/Walk.lean (`_CommitTimeQueue`, Walker, `_topo_reorder`); the flag constants, the `min_stamp` default,
  `_MAX_EXTRA_COMMITS` and the comparison of the walker's catch-up test come from Gen/Graph.lean, which the
  translator regenerates from /repo on every run.

  Vocabulary (defined in Model/LCA.lean): `Anc g a c` = "a is c or an ancestor of c"; `SAnc` =
  strict ancestor; `CA g c1 c2s x` = "x is a common ancestor of c1 and of one of c2s"; `MaxCA` = "... and not a
  strict ancestor of another common ancestor" (the graph-theoretic merge base); `g.WF` = every parent is a
  commit `< g.n`; `g.StrictMono` = stamps strictly increase from every parent to its child; `MaxCAall g ids x` = "x is a
  maximal common ancestor of ALL of ids" (the octopus base); `g.Acyclic` = some rank `rk` strictly increases from every
  parent to its child (§5 takes `rk` and this property of it as two hypotheses).  For the walks (defined in
  Lemmas/Walk.lean): `Walk.Hidden g excl c` = "an exclude reaches c"; `Walk.WeakMono g` = no parent is newer than its child,
  ties allowed; `Walk.Closed g incl excl` = `g.WF` and every include and exclude is a commit `< g.n`.

  The model is the code AFTER the C13 fix series (no default date cut in `_find_lcas`, `c1 in lcas` in
  `can_fast_forward`, `_remove_redundant` in `find_merge_base`/`find_octopus_base`, duplicate ids removed in
  `independent`).
-/
import DulwichModel.Lemmas.LCA
import DulwichModel.Lemmas.Walk

namespace Dulwich.Props.C13
open Dulwich Dulwich.LCA

/-! ## 0. the Boolean record is a faithful reading of the integer flag words -/

/-- For every flag word `< 16`: reading the bits of `a & b`, `a | b` gives the intersection / union of the
readings, `toNat` inverts `ofNat`, and the three tests of `_find_lcas` — `(p & c) == c`,
`c & (_ANC_OF_1|_ANC_OF_2|_DNC)`, `c == _ANC_OF_1|_ANC_OF_2` — are `covers`, `ancMask`, `isBoth`.
Depends on the generated constants: fails to compile if they stop being four distinct bits. -/
theorem flag_encoding_faithful : ∀ a b : Fin 16,
    Flags.ofNat (a.val &&& b.val) = (Flags.ofNat a.val).inter (Flags.ofNat b.val) ∧
    Flags.ofNat (a.val ||| b.val) = (Flags.ofNat a.val).union (Flags.ofNat b.val) ∧
    (Flags.ofNat a.val).toNat = a.val ∧
    ((a.val &&& b.val == b.val) = (Flags.ofNat a.val).covers (Flags.ofNat b.val)) ∧
    Flags.ofNat (a.val &&& (Gen.lcaAncOf1 ||| Gen.lcaAncOf2 ||| Gen.lcaDnc)) = (Flags.ofNat a.val).ancMask ∧
    ((a.val &&& (Gen.lcaAncOf1 ||| Gen.lcaAncOf2 ||| Gen.lcaDnc) == (Gen.lcaAncOf1 ||| Gen.lcaAncOf2)) =
      (Flags.ofNat a.val).ancMask.isBoth) := by
  decide +kernel

/-! ## 1. soundness of the flags — every DAG, every assignment of stamps, any cut, any fuel -/

/-- When the loop of `_find_lcas` stops, a commit carries `_ANC_OF_1` only if it is `c1` or an ancestor of
`c1`, `_ANC_OF_2` only if it is an ancestor-or-self of some `c2`, `_DNC` only if it is a strict ancestor of a
common ancestor. No hypothesis on the graph (not even acyclicity) or on the stamps. -/
theorem flags_sound (g : Graph) (c1 : Nat) (c2s : List Nat) (cut : Nat → Bool) (fuel : Nat) (s : St)
    (h : loop g cut fuel (init g c1 c2s) = .ok s) (c : Nat) (f : Flags) (hf : s.fl.get c = some f) :
    (f.anc1 = true → Anc g c c1) ∧ (f.anc2 = true → ∃ c2, c2 ∈ c2s ∧ Anc g c c2) ∧
    (f.dnc = true → ∃ y, CA g c1 c2s y ∧ SAnc g c y) := by
  have hg := (loop_sound h).fl c f hf
  exact ⟨hg.a1, hg.a2, hg.dn⟩

/-- Every commit `_find_lcas` reports is a common ancestor of `c1` and one of `c2s` — every DAG, every clock. -/
theorem lcas_are_common_ancestors (g : Graph) (c1 : Nat) (c2s : List Nat) (cut : Nat → Bool) (fuel : Nat)
    (r : List Nat) (h : findLcasFuel fuel g c1 c2s cut = .ok r) (x : Nat) (hx : x ∈ r) :
    CA g c1 c2s x :=
  findLcasFuel_sound h hx

/-- `can_fast_forward(c1, c2) = True` only if `c1` is `c2` or an ancestor of `c2` — every graph, every clock. -/
theorem ff_true_sound (g : Graph) (c1 c2 : Nat) (h : canFastForward g c1 c2 = .ok true) : Anc g c1 c2 := by
  rw [canFastForward_eq] at h
  split at h
  · exact ‹c1 = c2› ▸ Anc.refl c1
  · exact isAncestorVia_sound h

/-! ## 2. termination: `3·n + |c2s| + 2` iterations always suffice, no `KeyError`, no empty-heap pop -/

/-- On a closed history (`WF`: every parent is a commit) `_find_lcas` returns a list: the loop ends within the
default fuel (each push sets a new one of the three propagating bits of some commit, so there are at most
`3·n` pushes after the `1 + |c2s|` initial ones), `cstates[cmt]` never raises and the heap is never popped
empty.  Any cut, any stamps. -/
theorem lca_terminates (g : Graph) (hwf : g.WF) (c1 : Nat) (c2s : List Nat) (h1 : c1 < g.n)
    (h2 : ∀ c, c ∈ c2s → c < g.n) (cut : Nat → Bool) : ∃ r, findLcas g c1 c2s cut = .ok r :=
  findLcas_terminates hwf h1 h2 cut

/-- `find_merge_base` and `can_fast_forward` return (no error result) on every closed history. -/
theorem merge_base_terminates (g : Graph) (hwf : g.WF) (ids : List Nat) (hids : ∀ c, c ∈ ids → c < g.n) :
    ∃ r, findMergeBase g ids = .ok r :=
  findMergeBase_terminates hwf hids

theorem ff_terminates (g : Graph) (hwf : g.WF) (c1 c2 : Nat) (h1 : c1 < g.n) (h2 : c2 < g.n) :
    ∃ b, canFastForward g c1 c2 = .ok b := by
  rw [canFastForward_eq]
  split
  · exact ⟨true, rfl⟩
  · exact isAncestorVia_terminates hwf h1 h2

/-! ## 3. completeness of `_find_lcas` — every DAG, every assignment of stamps -/

/-- Every maximal common ancestor is reported, whatever the clocks say, as long as no commit from which it is
reachable is cut off (`cut` is constantly false since the fix: `min_stamp=None`).  So on any clock
`_find_lcas` can only over-report; `_remove_redundant` removes the excess. -/
theorem lcas_complete (g : Graph) (hwf : g.WF) (c1 : Nat) (c2s : List Nat) (h1 : c1 < g.n)
    (h2 : ∀ c, c ∈ c2s → c < g.n) (cut : Nat → Bool) (fuel : Nat) (r : List Nat)
    (h : findLcasFuel fuel g c1 c2s cut = .ok r) (x : Nat) (hx : MaxCA g c1 c2s x)
    (hcut : ∀ y, Anc g x y → cut y = false) : x ∈ r :=
  findLcasFuel_complete hwf h1 h2 h hx hcut

/-- `c1 ∈ _find_lcas(c1, [c2])` (no cut) exactly when `c1` is `c2` or an ancestor of `c2` — every clock.  (`h1` is not used:
an ancestor of a commit is a commit.) -/
theorem ancestor_iff_mem_lcas (g : Graph) (hwf : g.WF) (hac : g.Acyclic) (c1 c2 : Nat) (h1 : c1 < g.n)
    (h2 : c2 < g.n) (fuel : Nat) (r : List Nat) (h : findLcasFuel fuel g c1 [c2] (defaultCut g) = .ok r) :
    c1 ∈ r ↔ Anc g c1 c2 :=
  mem_lcas_iff_anc hwf hac h2 (defaultCut_false g) h

/-- The raw result of `_find_lcas` (before `_remove_redundant`) is already exact when stamps strictly increase
from every parent to its child and nothing is cut: exactly the maximal common ancestors, each once.
(`StrictMono` is what this needs; with equal stamps the raw result can contain a redundant entry, `lca_nonmaximal_counterexample` in §6 below.) -/
theorem lcas_exact_partial (g : Graph) (hwf : g.WF) (hmono : g.StrictMono) (c1 : Nat) (c2s : List Nat)
    (h1 : c1 < g.n) (h2 : ∀ c, c ∈ c2s → c < g.n) (cut : Nat → Bool) (hcut : ∀ z, cut z = false)
    (fuel : Nat) (r : List Nat) (h : findLcasFuel fuel g c1 c2s cut = .ok r) :
    (∀ x, x ∈ r ↔ MaxCA g c1 c2s x) ∧ r.Nodup :=
  findLcasFuel_exact hwf hmono h1 h2 hcut h

/-! ## 4. exactness of the public functions — every closed acyclic history, EVERY assignment of stamps

No hypothesis on the stamps at all (negative, equal, running backwards): `Gen.lcaDefaultMinStamp = none`, so
nothing is cut (`defaultCut_false` is `rfl` on the generated constant). -/

/-- `find_merge_base([c1, c2, …])` returns exactly the maximal common ancestors of `c1` and (one of) the others,
each once. -/
theorem merge_base_exact (g : Graph) (hwf : g.WF) (hac : g.Acyclic) (c1 c2 : Nat) (c2s : List Nat)
    (h1 : c1 < g.n) (h2 : ∀ c, c ∈ c2 :: c2s → c < g.n) (r : List Nat)
    (h : findMergeBase g (c1 :: c2 :: c2s) = .ok r) :
    r.Nodup ∧ ∀ x, x ∈ r ↔ MaxCA g c1 (c2 :: c2s) x := by
  exact findMergeBase_exact hwf hac h1 h2 h

/-- `can_fast_forward(c1, c2)` is `True` exactly when `c1` is `c2` or an ancestor of `c2`.  (`h1` is not used.) -/
theorem ff_exact (g : Graph) (hwf : g.WF) (hac : g.Acyclic) (c1 c2 : Nat) (h1 : c1 < g.n) (h2 : c2 < g.n)
    (b : Bool) (h : canFastForward g c1 c2 = .ok b) : b = true ↔ Anc g c1 c2 := by
  rw [canFastForward_eq] at h
  split at h
  · cases h
    exact iff_of_true rfl (‹c1 = c2› ▸ Anc.refl c1)
  · rw [← isAncestorVia_true_iff hwf hac h2, h, Except.ok.injEq]

/-- `independent(ids)` returns exactly the ids that are not reachable from another (different) id, each once,
in the order of their first occurrence. -/
theorem independent_exact (g : Graph) (hwf : g.WF) (hac : g.Acyclic) (ids : List Nat)
    (hids : ∀ c, c ∈ ids → c < g.n) (r : List Nat) (h : independent g ids = .ok r) :
    r.Nodup ∧ r.Sublist (dedupe ids) ∧ ∀ x, x ∈ r ↔ x ∈ ids ∧ ¬ ∃ o, o ∈ ids ∧ o ≠ x ∧ Anc g x o := by
  obtain ⟨rk, hrk⟩ := hac
  exact LCA.independent_exact hwf hrk hids h

/-- `find_octopus_base(ids)` returns exactly the maximal common ancestors of ALL the ids, each once. -/
theorem octopus_exact (g : Graph) (hwf : g.WF) (hac : g.Acyclic) (ids : List Nat) (hne : ids ≠ [])
    (hids : ∀ c, c ∈ ids → c < g.n) (r : List Nat) (h : findOctopusBase g ids = .ok r) :
    r.Nodup ∧ ∀ x, x ∈ r ↔ MaxCAall g ids x := by
  exact findOctopusBase_exact hwf hac hne hids h

/-- in particular no reported octopus base is an ancestor of another one -/
theorem octopus_antichain (g : Graph) (hwf : g.WF) (hac : g.Acyclic) (ids : List Nat) (hne : ids ≠ [])
    (hids : ∀ c, c ∈ ids → c < g.n) (r : List Nat) (h : findOctopusBase g ids = .ok r) (x y : Nat)
    (hx : x ∈ r) (hy : y ∈ r) : ¬ SAnc g x y := by
  obtain ⟨_, hmem⟩ := octopus_exact g hwf hac ids hne hids r h
  intro hs
  exact ((hmem x).mp hx).2 ⟨y, ((hmem y).mp hy).1, hs⟩

/-! ## 5. history walks -/

/-- `_topo_reorder`, for every input order of distinct commits of an acyclic history (`rk` is any rank that
increases from parent to child): the loop finishes (every entry is taken from `todo` at most twice), the output
is a permutation of the input, and a commit never comes before one of its children. -/
theorem topo_reorder_correct (parents : Nat → List Nat) (entries : List Nat) (hnd : entries.Nodup)
    (rk : Nat → Nat) (hrk : ∀ c p, p ∈ parents c → rk p < rk c) :
    ∃ out, Walk.topoReorder parents entries = some out ∧ out.Perm entries ∧
      out.Pairwise (fun earlier later => earlier ∉ parents later) := by
  obtain ⟨out, pend, h, hp, ho, hc⟩ := Walk.topoReorder_total (parents := parents) hnd
  cases Walk.no_pending_of_rank rk hrk hc
  exact ⟨out, h, by simpa using hp, ho⟩

def plainWalk (incl : List Nat) (topo reverse : Bool) : Walk.Opts :=
  { incl := incl, excl := [], topo := topo, reverse := reverse, maxEntries := none, since := none, untl := none }

/-- A walk without excludes, `since`, `until`, `max_entries` over a closed acyclic history terminates and
yields exactly the commits reachable from the start points, each once — for every assignment of stamps, in
date or topo order, reversed or not; in topo order no commit comes before one of its children (after, when
reversed). -/
theorem walk_each_once (g : Graph) (hwf : g.WF) (incl : List Nat) (hincl : ∀ i, i ∈ incl → i < g.n)
    (topo reverse : Bool) (rk : Nat → Nat) (hrk : ∀ c p, p ∈ g.parents c → rk p < rk c) :
    ∃ out, Walk.walk g (plainWalk incl topo reverse) = some out ∧
      out.Nodup ∧ (∀ c, c ∈ out ↔ ∃ i, i ∈ incl ∧ Anc g c i) ∧
      (topo = true →
        (if reverse then out.reverse else out).Pairwise (fun earlier later => earlier ∉ g.parents later)) := by
  obtain ⟨out, hw, hnd, hsound, hcomp, hord⟩ := Walk.walk_exact (o := plainWalk incl topo reverse) rfl rfl rfl
    ⟨hwf, hincl, fun _ h => nomatch h⟩ fun _ => ⟨rk, hrk⟩
  exact ⟨out, hw, hnd, fun c => ⟨fun hc => (hsound c hc).1,
    fun ⟨i, hi, ha⟩ => hcomp c i hi ha fun ⟨_, hx, _⟩ => nomatch hx⟩, hord⟩

/-- Soundness of a walk with EVERY option on EVERY clock: `Walk.walk_sound_all`, which says what is claimed, with the rank
`rk`, `hrk` of an acyclic history kept as first written; the rank is not used. -/
theorem walk_sound (g : Graph) (o : Walk.Opts) (rk : Nat → Nat) (hrk : ∀ c p, p ∈ g.parents c → rk p < rk c)
    (out : List Nat) (h : Walk.walk g o = some out) :
    out.Nodup ∧ (∀ m, o.maxEntries = some m → out.length ≤ m) ∧
    ∀ c, c ∈ out → (∃ i, i ∈ o.incl ∧ Anc g c i) ∧ c ∉ o.excl ∧
      (∀ m, o.since = some m → m ≤ g.ts c) ∧ (∀ m, o.untl = some m → g.ts c ≤ m) :=
  Walk.walk_sound_all h

/-! ### laws between the walker's options (every history, every clock, every include / exclude / window) -/

/-- `o` with the three options the laws below vary: Order (`topo`), `reverse`, `max_entries` -/
def withORM (o : Walk.Opts) (topo reverse : Bool) (mx : Option Nat) : Walk.Opts :=
  { o with topo := topo, reverse := reverse, maxEntries := mx }

theorem kept_withORM (g : Graph) (o : Walk.Opts) (topo reverse : Bool) (mx : Option Nat) :
    Walk.kept g (withORM o topo reverse mx) = Walk.kept g o := rfl

/-- `reverse=True` yields exactly the reverse of what `reverse=False` yields under the same other options — in
particular `max_entries` is applied BEFORE reversing (the N first entries, reversed). -/
theorem walk_reverse_commutes (g : Graph) (o : Walk.Opts) (topo : Bool) (mx : Option Nat) :
    Walk.walk g (withORM o topo true mx) = (Walk.walk g (withORM o topo false mx)).map List.reverse := by
  simp only [Walk.walk_eq, kept_withORM]
  cases Walk.kept g o <;> simp [withORM, Walk.arrange]

/-- date order: `max_entries=N` yields the first `N` entries of the unlimited walk, in the same order. -/
theorem walk_limit_prefix (g : Graph) (o : Walk.Opts) (n : Nat) :
    Walk.walk g (withORM o false false (some n)) =
      (Walk.walk g (withORM o false false none)).map (·.take n) := by
  simp only [Walk.walk_eq, kept_withORM]
  cases Walk.kept g o <;> simp [withORM, Walk.arrange]

/-- date order, `reverse=True`, `max_entries=N`: the first `N` entries of the unlimited forward walk, reversed. -/
theorem reverse_commutes_with_limit (g : Graph) (o : Walk.Opts) (n : Nat) :
    Walk.walk g (withORM o false true (some n)) =
      (Walk.walk g (withORM o false false none)).map (fun l => (l.take n).reverse) := by
  rw [walk_reverse_commutes, walk_limit_prefix]
  cases Walk.walk g (withORM o false false none) <;> rfl

/-- topo order is the `_topo_reorder` of the date-order walk under the same other options (the limit is applied
first, the remaining entries are sorted) … -/
theorem walk_topo_is_reorder (g : Graph) (o : Walk.Opts) (mx : Option Nat) :
    Walk.walk g (withORM o true false mx) =
      (Walk.walk g (withORM o false false mx)).bind (Walk.topoReorder g.parents) := by
  simp only [Walk.walk_eq, kept_withORM]
  cases Walk.kept g o <;> simp [withORM, Walk.arrange]

/-- … hence on an acyclic history it yields the same commits as date order, each once: the order option only
permutes. -/
theorem walk_topo_same_commits (g : Graph) (o : Walk.Opts) (mx : Option Nat) (rk : Nat → Nat)
    (hrk : ∀ c p, p ∈ g.parents c → rk p < rk c) (out outd : List Nat)
    (h : Walk.walk g (withORM o true false mx) = some out)
    (hd : Walk.walk g (withORM o false false mx) = some outd) : out.Perm outd := by
  rw [walk_topo_is_reorder, hd] at h
  simp only [Option.bind_some] at h
  obtain ⟨res, h1, hp, -⟩ := topo_reorder_correct g.parents outd (Walk.walk_sound_all hd).1 rk hrk
  cases h.symm.trans h1
  exact hp

/-! ### excludes on tied commit times: the catch-up test of `_step` (`n.commit_time >= self._last.commit_time`)

Family: an included tip `Y` directly on a commit `B`; an excluded tip `X` on a chain of `k` commits on the same
`B`; all commit times equal (or `Y` alone newer).  Roles are numbered `Y=0 B=1 X=2`, chain `3 … k+2` from `B`
upwards; the commits get their ids (which decide heap ties) from a layout, a numbering of the roles. -/

def tiePos (order : List Nat) (code : Nat) : Nat := (order.takeWhile (· != code)).length

def tieParents (k code : Nat) : List Nat :=
  if code = 0 then [1] else if code = 1 then [] else if code = 2 then (if k = 0 then [1] else [2 + k])
  else if code = 3 then [1] else [code - 1]

/-- the history, with the ids of `Y`, `X`, `B` -/
def tieGraph (k : Nat) (order : List Nat) (yNewer : Bool) : Graph × Nat × Nat × Nat :=
  (Graph.ofLists (order.map fun code => (tieParents k code).map (tiePos order))
     (order.map fun code => if yNewer && code == 0 then 6 else 5),
   tiePos order 0, tiePos order 2, tiePos order 1)

def tieWalkExact (c : Graph × Nat × Nat × Nat) : Bool :=
  Walk.walk c.1 { incl := [c.2.1], excl := [c.2.2.1], topo := false, reverse := false, maxEntries := none,
                  since := none, untl := none } == some [c.2.1]

theorem tiePos_eq_idxOf (order : List Nat) (code : Nat) : tiePos order code = order.idxOf code := by
  unfold tiePos
  induction order with
  | nil => rfl
  | cons b l ih =>
    rw [List.idxOf_cons, List.takeWhile_cons]
    by_cases h : b = code
    · simp [h]
    · have hb : (b == code) = false := by simpa using h
      simp [h, hb, ih]

theorem getD_map_elim {α β : Type} (f : α → β) (l : List α) (c : Nat) (d : β) :
    (l.map f).getD c d = (l[c]?).elim d f := by
  rw [List.getD_eq_getElem?_getD, List.getElem?_map]
  cases l[c]? <;> rfl

/-- the history read through the layout: commit `c` has role `o[c]`, role `r` has id `o.idxOf r` -/
theorem tieGraph_read (k : Nat) (o : List Nat) (y : Bool) :
    (tieGraph k o y).1.n = o.length ∧
    (∀ c, (tieGraph k o y).1.parents c = (o[c]?).elim [] fun r => (tieParents k r).map (o.idxOf ·)) ∧
    (∀ c, (tieGraph k o y).1.ts c = (o[c]?).elim 0 fun r => if y && r == 0 then 6 else 5) ∧
    (tieGraph k o y).2 = (o.idxOf 0, o.idxOf 2, o.idxOf 1) := by
  have hpos : tiePos o = (o.idxOf ·) := funext (tiePos_eq_idxOf o)
  refine ⟨?_, fun c => ?_, fun c => ?_, ?_⟩
  · show (o.map _).length = _
    rw [List.length_map]
  · show (o.map _).getD c [] = _
    rw [getD_map_elim, hpos]
  · show (o.map _).getD c 0 = _
    rw [getD_map_elim]
  · show (tiePos o 0, tiePos o 2, tiePos o 1) = _
    rw [hpos]

theorem tieParents_Y (k : Nat) : tieParents k 0 = [1] := rfl

theorem tieParents_B (k : Nat) : tieParents k 1 = [] := rfl

theorem tieParents_X (k : Nat) : tieParents k 2 = if k = 0 then [1] else [2 + k] := rfl

theorem tieParents_bottom (k : Nat) : tieParents k 3 = [1] := rfl

theorem tieParents_chain (k : Nat) {r : Nat} (h : 4 ≤ r) : tieParents k r = [r - 1] := by
  rw [tieParents, if_neg (by omega), if_neg (by omega), if_neg (by omega), if_neg (by omega)]

theorem tieParents_role {k r r' : Nat} (hr : r < k + 3) (h : r' ∈ tieParents k r) : r' < k + 3 ∧ r' ≠ 0 := by
  rcases (by omega : r = 0 ∨ r = 1 ∨ r = 2 ∨ r = 3 ∨ 4 ≤ r) with rfl | rfl | rfl | rfl | h4
  · rw [tieParents_Y, List.mem_singleton] at h; omega
  · rw [tieParents_B] at h; cases h
  · rw [tieParents_X] at h
    split at h <;> rw [List.mem_singleton] at h <;> omega
  · rw [tieParents_bottom, List.mem_singleton] at h; omega
  · rw [tieParents_chain k h4, List.mem_singleton] at h; omega

/-! The shape of the family, for any history `g` that reads its parents through a layout `o` as `tieGraph k o y` does
(`tieGraph_read`): `Y = o.idxOf 0`, `B = o.idxOf 1`, `X = o.idxOf 2`. -/

section
variable {k : Nat} {o : List Nat} (hp : o.Perm (List.range (k + 3)))
include hp

theorem tie_pos {r : Nat} (hr : r < k + 3) : o.idxOf r < o.length ∧ o[o.idxOf r]? = some r := by
  have hlt := List.idxOf_lt_length_of_mem (hp.mem_iff.mpr (List.mem_range.mpr hr))
  exact ⟨hlt, by rw [List.getElem?_eq_getElem hlt, List.getElem_idxOf hlt]⟩

theorem tie_pos_inj {r r' : Nat} (hr : r < k + 3) (hr' : r' < k + 3) (h : o.idxOf r = o.idxOf r') : r = r' := by
  have h1 := (tie_pos hp hr).2
  rw [h, (tie_pos hp hr').2] at h1
  exact (Option.some.inj h1).symm

variable {g : Graph} (hpar : ∀ c, g.parents c = (o[c]?).elim [] fun r => (tieParents k r).map (o.idxOf ·))
include hpar

theorem tie_edge {c p : Nat} : p ∈ g.parents c ↔
    ∃ r r', r < k + 3 ∧ c = o.idxOf r ∧ r' ∈ tieParents k r ∧ p = o.idxOf r' := by
  rw [hpar]
  constructor
  · intro h
    cases hc : o[c]? with
    | none => rw [hc] at h; cases h
    | some r =>
      rw [hc] at h
      obtain ⟨hlt, hget⟩ := List.getElem?_eq_some_iff.mp hc
      obtain ⟨r', hr', rfl⟩ := List.mem_map.mp h
      refine ⟨r, r', List.mem_range.mp (hp.mem_iff.mp (hget ▸ List.getElem_mem hlt)), ?_, hr', rfl⟩
      rw [← hget]
      exact ((hp.nodup_iff.mpr List.nodup_range).idxOf_getElem c hlt).symm
  · rintro ⟨r, r', hr, rfl, hr', rfl⟩
    rw [(tie_pos hp hr).2]
    exact List.mem_map.mpr ⟨r', hr', rfl⟩

theorem tie_B_below_chain : ∀ j, j < k → Anc g (o.idxOf 1) (o.idxOf (3 + j))
  | 0, _ => Anc.parent ((tie_edge hp hpar).mpr ⟨3, 1, by omega, rfl, List.mem_singleton_self 1, rfl⟩)
  | j + 1, h => .step
      ((tie_edge hp hpar).mpr ⟨3 + (j + 1), 3 + j, by omega, rfl,
        by rw [tieParents_chain k (by omega)]; exact List.mem_singleton.mpr (by omega), rfl⟩)
      (tie_B_below_chain j (by omega))

theorem tie_B_below_X : Anc g (o.idxOf 1) (o.idxOf 2) := by
  cases k with
  | zero => exact Anc.parent ((tie_edge hp hpar).mpr ⟨2, 1, by omega, rfl, List.mem_singleton_self 1, rfl⟩)
  | succ k =>
    exact .step
      ((tie_edge hp hpar).mpr ⟨2, 3 + k, by omega, rfl,
        by rw [tieParents_X, if_neg (by omega)]; exact List.mem_singleton.mpr (by omega), rfl⟩)
      (tie_B_below_chain hp hpar k (by omega))

/-- what `Walk.walk_exact` needs of the history, for every chain length and EVERY numbering of its commits: closed, stamps
weakly monotone (every parent has stamp 5), `Y` not below `X`, and below `Y` only `B`, which is below `X` -/
theorem tie_shape (hn : g.n = o.length) {y : Bool}
    (hts : ∀ c, g.ts c = (o[c]?).elim 0 fun r => if y && r == 0 then 6 else 5) :
    g.WF ∧ Walk.WeakMono g ∧ o.idxOf 0 < g.n ∧ o.idxOf 2 < g.n ∧ ¬ Anc g (o.idxOf 0) (o.idxOf 2) ∧
    ∀ x, Anc g x (o.idxOf 0) → x = o.idxOf 0 ∨ Anc g x (o.idxOf 2) := by
  rw [hn]
  have hts : ∀ {r}, r < k + 3 → g.ts (o.idxOf r) = if y && r == 0 then 6 else 5 := fun hr => by
    rw [hts, (tie_pos hp hr).2]; rfl
  have hYtop : ∀ {a c}, Anc g a c → a = o.idxOf 0 → c = o.idxOf 0 := by
    intro a c h
    induction h with
    | refl => exact id
    | step hpc _ ih =>
      intro ha
      obtain ⟨r, r', hr, -, hr', rfl⟩ := (tie_edge hp hpar).mp hpc
      obtain ⟨h1, h2⟩ := tieParents_role hr hr'
      exact absurd (tie_pos_inj hp h1 (by omega) (ih ha)) h2
  refine ⟨fun c _ p hpc => ?_, fun c p hpc => ?_, (tie_pos hp (by omega)).1, (tie_pos hp (by omega)).1, fun h => ?_,
    fun x hx => ?_⟩
  · obtain ⟨r, r', hr, -, hr', rfl⟩ := (tie_edge hp hpar).mp hpc
    exact hn ▸ (tie_pos hp (tieParents_role hr hr').1).1
  · obtain ⟨r, r', hr, rfl, hr', rfl⟩ := (tie_edge hp hpar).mp hpc
    obtain ⟨h1, h2⟩ := tieParents_role hr hr'
    have h0 : (r' == 0) = false := by simpa using h2
    rw [hts h1, hts hr]
    simp only [h0, Bool.and_false, Bool.false_eq_true, if_false]
    split <;> decide
  · exact absurd (tie_pos_inj hp (by omega) (by omega) (hYtop h rfl)) (by decide)
  · rcases hx.eq_or_sanc with rfl | ⟨p, hpY, hxp⟩
    · exact Or.inl rfl
    · obtain ⟨r, r', hr, hY, hr', rfl⟩ := (tie_edge hp hpar).mp hpY
      cases tie_pos_inj hp (by omega) hr hY
      cases List.mem_singleton.mp (tieParents_Y k ▸ hr')
      rcases hxp.eq_or_sanc with rfl | ⟨p', hpB, -⟩
      · exact Or.inr (tie_B_below_X hp hpar)
      · obtain ⟨r, r', hr, hB, hr', -⟩ := (tie_edge hp hpar).mp hpB
        cases tie_pos_inj hp (by omega) hr hB
        cases tieParents_B k ▸ hr'

end

theorem eq_singleton_of_nodup {a : Nat} : ∀ {l : List Nat}, l.Nodup → a ∈ l → (∀ x, x ∈ l → x = a) → l = [a]
  | [_], _, ha, _ => by rw [List.mem_singleton.mp ha]
  | b :: c :: l, hnd, _, hall => by
    have hb := hall b List.mem_cons_self
    have hc := hall c (List.mem_cons_of_mem _ List.mem_cons_self)
    exact absurd (hb ▸ hc ▸ List.mem_cons_self) (List.nodup_cons.mp hnd).1

/-- For every chain length and every numbering of the commits, on tied stamps (or `Y` alone newer) the walk `include=[Y]`,
`exclude=[X]` is exactly `[Y]`: the history is closed with weakly monotone stamps, so the walk yields what `Y` reaches and
`X` does not (`Walk.walk_exact`, which rests on the generated comparison `>=`). -/
theorem tie_walk_exact (k : Nat) {o : List Nat} (hp : o.Perm (List.range (k + 3))) (y : Bool) :
    tieWalkExact (tieGraph k o y) = true := by
  obtain ⟨hn, hpar, hts, hids⟩ := tieGraph_read k o y
  obtain ⟨hwf, hm, hY, hX, hYX, hbelow⟩ := tie_shape hp hpar hn hts
  obtain ⟨out, hw, hnd, hsound, hcomp, -⟩ := Walk.walk_exact
    (o := ⟨[o.idxOf 0], [o.idxOf 2], false, false, none, none, none⟩) rfl rfl rfl
    ⟨hwf, fun i hi => List.mem_singleton.mp hi ▸ hY, fun x hx => List.mem_singleton.mp hx ▸ hX⟩ nofun
  have hout : out = [o.idxOf 0] := by
    refine eq_singleton_of_nodup hnd (hcomp _ _ (List.mem_singleton_self _) (.refl _) ?_) fun x hx => ?_
    · rintro ⟨x, hx, ha⟩
      exact hYX (List.mem_singleton.mp hx ▸ ha)
    · obtain ⟨⟨i, hi, ha⟩, hnh⟩ := hsound x hx
      rw [List.mem_singleton.mp hi] at ha
      exact (hbelow x ha).resolve_right fun h => hnh hm ⟨_, List.mem_singleton_self _, h⟩
  simp only [tieWalkExact, hids, hw, hout, beq_self_eq_true]

/-! The listed cases: chain lengths `0 … 10`; layouts: any order of `Y B X`, the chain ascending or descending, placed after,
before or in front of the last of them. -/

def tiePerms3 : List (List Nat) := [[0, 1, 2], [0, 2, 1], [1, 0, 2], [1, 2, 0], [2, 0, 1], [2, 1, 0]]

def tieOrders (k : Nat) : List (List Nat) :=
  let up := (List.range k).map (· + 3)
  tiePerms3.flatMap fun p =>
    [up, up.reverse].flatMap fun ch =>
      [p ++ ch, ch ++ p, p.take 2 ++ ch ++ p.drop 2]

def tieCases : List (Graph × Nat × Nat × Nat) :=
  (List.range 11).flatMap fun k => (tieOrders k).flatMap fun o => [tieGraph k o false, tieGraph k o true]

theorem tieOrders_perm {k : Nat} {o : List Nat} (h : o ∈ tieOrders k) : o.Perm (List.range (k + 3)) := by
  simp only [tieOrders, List.mem_flatMap, List.mem_cons, List.not_mem_nil, or_false] at h
  obtain ⟨p, hp, ch, hch, ho⟩ := h
  have hp3 : p.Perm [0, 1, 2] := by
    simp only [tiePerms3, List.mem_cons, List.not_mem_nil, or_false] at hp
    rcases hp with rfl | rfl | rfl | rfl | rfl | rfl <;> decide
  have hup : ch.Perm ((List.range k).map (· + 3)) := by
    rcases hch with rfl | rfl
    · exact .refl _
    · exact List.reverse_perm _
  have hbase : (p ++ ch).Perm (List.range (k + 3)) := by
    have : List.range (k + 3) = [0, 1, 2] ++ (List.range k).map (· + 3) := by
      rw [Nat.add_comm k 3, List.range_add]
      congr 1
      exact List.map_congr_left fun x _ => Nat.add_comm 3 x
    rw [this]
    exact hp3.append hup
  rcases ho with rfl | rfl | rfl
  · exact hbase
  · exact List.perm_append_comm.trans hbase
  · refine .trans ?_ hbase
    rw [List.append_assoc]
    refine .trans (List.Perm.append_left _ List.perm_append_comm) ?_
    rw [← List.append_assoc, List.take_append_drop]

/-- The 792 entries of `tieCases` (every chain length 0 … 10 — the critical length is `_MAX_EXTRA_COMMITS + 1 = 6` — times
36 layouts of the ids, times {all stamps equal, `Y` newer}; 696 distinct histories, since layouts coincide when the chain has
no commit or one): with the generated comparison (`>=`) the commit `B`, which is reachable from the excluded tip, is never
yielded on tied stamps; the walk is exactly `[Y]`.  Each case is an instance of `tie_walk_exact`. -/
theorem walk_ties_exact_bounded : tieCases.all tieWalkExact = true := by
  simp only [tieCases, List.all_eq_true, List.mem_flatMap, List.mem_cons, List.not_mem_nil, or_false]
  rintro c ⟨k, -, o, ho, rfl | rfl⟩ <;> exact tie_walk_exact k (tieOrders_perm ho) _

/-- the 9-commit witness: `Y=0 B=1 X=2` and six commits `3…8` between `X` and `B`, all stamps equal -/
def tie9 : Graph := (tieGraph 6 [0, 1, 2, 3, 4, 5, 6, 7, 8] false).1

/-- With the strict comparison (`>` instead of `>=`) the countdown of `_MAX_EXTRA_COMMITS` ends the walk before the
exclusion reaches `B`: the queue yields `[Y, B]` although `B` is reachable from the excluded `X`.  With `>=`
(parameter `true`, and the real model) it yields `[Y]`. -/
theorem walk_ties_gt_counterexample :
    (Walk.Variant.queueOutput false tie9 [0] [2] none).map (·.1) = some [0, 1] ∧
    (Walk.Variant.queueOutput true tie9 [0] [2] none).map (·.1) = some [0] ∧
    (Walk.queueOutput tie9 [0] [2] none).map (·.1) = some [0] ∧
    Anc tie9 1 2 := by
  have h2 : (Walk.Variant.queueOutput true tie9 [0] [2] none).map (·.1) = some [0] := by decide +kernel
  refine ⟨by decide +kernel, h2, by rw [← Walk.variant_queueOutput]; exact h2, ?_⟩
  exact .step (p := 8) (by decide) <| .step (p := 7) (by decide) <| .step (p := 6) (by decide) <|
    .step (p := 5) (by decide) <| .step (p := 4) (by decide) <| .step (p := 3) (by decide) <|
    .step (p := 1) (by decide) (.refl 1)

/-! ## 6. regression witnesses: what the code did BEFORE the fix series (`LCA.Old`), and does now -/

/-- chain `0 ← 1 ← 2` (1's parent is 0, 2's parent is 1) with stamps (1,0,0) -/
def chain3 : Graph := Graph.ofLists [[], [0], [1]] [1, 0, 0]

/-- `0 ← 1 ← 2` and 3 merging 0 and 2, all stamps equal -/
def diamond4 : Graph := Graph.ofLists [[], [0], [1], [0, 2]] [0, 0, 0, 0]

/-- `r←x←y`, `a` on `x`, `b` on `y`, `c1 = c2 = merge(a, b)`, `c3` on `y`; commits numbered
`r=0 x=1 y=2 a=3 b=4 c1=5 c2=6 c3=7`, stamps strictly increasing -/
def octo8 : Graph := Graph.ofLists [[], [0], [1], [1], [2], [3, 4], [3, 4], [2]] [0, 1, 2, 3, 4, 5, 6, 7]

/-- a root dated before 1970 and its child -/
def neg2 : Graph := Graph.ofLists [[], [0]] [-5, 3]

/-- before: `can_fast_forward(0, 2)` was `False` on the chain although 0 is an ancestor of 2 (commit 1, stamp 0,
is older than `min_stamp = ts 0 = 1` and was never queued); now `True`. -/
theorem ff_skew_counterexample :
    Old.canFastForward chain3 0 2 = .ok false ∧ canFastForward chain3 0 2 = .ok true ∧ Anc chain3 0 2 := by
  refine ⟨by decide +kernel, by decide +kernel, ?_⟩
  exact Anc.step (p := 1) (by decide) (Anc.step (p := 0) (by decide) (Anc.refl 0))

/-- before: merge base of (2,3) was `[0, 2]` although 0 is a parent of 1, which is a parent of 2; now `[2]`.
The raw `_find_lcas` still reports `[0, 2]` — `_remove_redundant` is what repairs it. -/
theorem lca_nonmaximal_counterexample :
    Old.findMergeBase diamond4 [2, 3] = .ok [0, 2] ∧ findLcas diamond4 2 [3] (defaultCut diamond4) = .ok [0, 2] ∧
    findMergeBase diamond4 [2, 3] = .ok [2] ∧ ¬ MaxCA diamond4 2 [3] 0 := by
  refine ⟨by decide +kernel, by decide +kernel, by decide +kernel, ?_⟩
  intro h
  apply h.2
  refine ⟨2, ⟨Anc.refl 2, 3, by simp, Anc.step (p := 2) (by decide) (Anc.refl 2)⟩, 1, by decide, ?_⟩
  exact Anc.step (p := 0) (by decide) (Anc.refl 0)

/-- before: the same defect made `can_fast_forward(2, 3)` false and `independent([2, 3])` keep both; now exact. -/
theorem ff_equal_stamps_counterexample :
    Old.canFastForward diamond4 2 3 = .ok false ∧ Old.independent diamond4 [2, 3] = .ok [2, 3] ∧
    canFastForward diamond4 2 3 = .ok true ∧ independent diamond4 [2, 3] = .ok [3] := by
  decide +kernel

/-- before: `find_octopus_base([c1, c2, c3])` folded pairwise merge bases and reported `[x, y]` although `x` is
the parent of `y` — with strictly increasing stamps; now `[y]`. -/
theorem octopus_fold_counterexample :
    Old.findOctopusBase octo8 [5, 6, 7] = .ok [1, 2] ∧ findOctopusBase octo8 [5, 6, 7] = .ok [2] ∧
    octo8.StrictMono ∧ 1 ∈ octo8.parents 2 := by
  refine ⟨by decide +kernel, by decide +kernel, ofLists_strictMono _ _ (by decide +kernel), by decide +kernel⟩

/-- before: `independent([A, A])` was empty; now `[A]`. -/
theorem independent_duplicate_counterexample :
    Old.independent (Graph.ofLists [[], [0]] [0, 1]) [1, 1] = .ok [] ∧
    independent (Graph.ofLists [[], [0]] [0, 1]) [1, 1] = .ok [1] := by decide +kernel

/-- before: a commit with a negative commit time was cut off by the default `min_stamp = 0`:
`find_merge_base([root, child])` was `[]`; now `[root]`. -/
theorem negative_stamp_counterexample :
    Old.findMergeBase neg2 [0, 1] = .ok [] ∧ findMergeBase neg2 [0, 1] = .ok [0] ∧
    canFastForward neg2 0 1 = .ok true := by decide +kernel

/-! ## 7. non-vacuity: the hypotheses of the theorems hold on non-trivial histories -/

/-- criss-cross: 1 and 2 on 0; 3 and 4 both merge 1 and 2 -/
def cross5 : Graph := Graph.ofLists [[], [0], [0], [1, 2], [1, 2]] [0, 1, 2, 3, 4]

example : cross5.WF ∧ cross5.Acyclic ∧ cross5.StrictMono ∧
    findMergeBase cross5 [3, 4] = .ok [1, 2] ∧ canFastForward cross5 1 4 = .ok true ∧
    canFastForward cross5 3 4 = .ok false ∧ independent cross5 [0, 1, 3, 4, 3] = .ok [3, 4] ∧
    findOctopusBase cross5 [3, 4, 2] = .ok [2] :=
  ⟨by unfold Graph.WF; decide +kernel, ⟨id, ofLists_rank _ _ id (by decide +kernel)⟩, ofLists_strictMono _ _ (by decide +kernel),
   by decide +kernel, by decide +kernel, by decide +kernel, by decide +kernel, by decide +kernel⟩

/-- the same history with a hostile clock (all hypotheses of §4 still hold: there is none on the stamps) -/
example : (Graph.ofLists [[], [0], [0], [1, 2], [1, 2]] [9, -3, 9, 0, 0]).WF ∧
    (Graph.ofLists [[], [0], [0], [1, 2], [1, 2]] [9, -3, 9, 0, 0]).Acyclic ∧
    findMergeBase (Graph.ofLists [[], [0], [0], [1, 2], [1, 2]] [9, -3, 9, 0, 0]) [3, 4] = .ok [1, 2] ∧
    canFastForward (Graph.ofLists [[], [0], [0], [1, 2], [1, 2]] [9, -3, 9, 0, 0]) 0 4 = .ok true :=
  ⟨by unfold Graph.WF; decide +kernel, ⟨id, ofLists_rank _ _ id (by decide +kernel)⟩, by decide +kernel, by decide +kernel⟩

/-- hypotheses of `flags_sound` / `lcas_complete` on a skewed history where the answer is still exact -/
example : findLcas chain3 2 [1] (defaultCut chain3) = .ok [1] ∧ chain3.WF :=
  ⟨by decide +kernel, by unfold Graph.WF; decide +kernel⟩

/-- walks: date order and topo order on the criss-cross with all stamps equal (ties by id) -/
example : Walk.walk (Graph.ofLists [[], [0], [0], [1, 2], [1, 2]] [7, 7, 7, 7, 7])
      { incl := [3, 4], excl := [], topo := false, reverse := false, maxEntries := none, since := none,
        untl := none } = some [3, 1, 0, 2, 4] ∧
    Walk.walk (Graph.ofLists [[], [0], [0], [1, 2], [1, 2]] [7, 7, 7, 7, 7])
      { incl := [3, 4], excl := [], topo := true, reverse := false, maxEntries := none, since := none,
        untl := none } = some [3, 4, 2, 1, 0] := by
  decide +kernel

/-- the hypotheses of `walk_each_once` / `topo_reorder_correct` are satisfiable (rank = commit number) and the
conclusion is about a non-trivial walk -/
example : ∃ out, Walk.walk cross5 (plainWalk [3, 4] true false) = some out ∧ out.Nodup ∧
    (∀ c, c ∈ out ↔ ∃ i, i ∈ [3, 4] ∧ Anc cross5 c i) ∧
    (true = true → (if false then out.reverse else out).Pairwise (fun a b => a ∉ cross5.parents b)) :=
  walk_each_once cross5 (by unfold Graph.WF; decide +kernel) [3, 4] (by decide +kernel) true false id
    (ofLists_rank _ _ id (by decide +kernel))

/-- a walk with an exclude, a window and a limit on a skewed history (hypotheses of `walk_sound`) -/
example : Walk.walk (Graph.ofLists [[], [0], [0], [1, 2], [1, 2]] [5, 9, 1, 4, 7])
    { incl := [3, 4], excl := [2], topo := true, reverse := true, maxEntries := some 2, since := some 4,
      untl := some 8 } = some [3, 4] := by decide +kernel

/-- `_topo_reorder` on an order that lists a parent first -/
example : Walk.topoReorder cross5.parents [0, 3, 1, 4, 2] = some [3, 4, 1, 2, 0] := by decide +kernel

end Dulwich.Props.C13
