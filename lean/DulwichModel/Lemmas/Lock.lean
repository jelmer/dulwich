/-
  C07 — lemmas for the lock-protocol transition system (Model/Lock.lean).

  `Step` lists what one call of an actor may do, a row per instruction and way of ending: every result of
  `actorStep` is a row (`actorStep_step`), not conversely — a row keeps only what the invariants read.  A row is
  a control helper of the model (`Ghost`) after a change of bookkeeping fields and directory (`Upd`).  Under the
  per-actor `LInv` and the global `Inv` a call is one of four actions on the lock file (`LockStep`); mutual
  exclusion, "a lock file lives in a directory" and all-or-nothing replacement (`TargetOk`) are closed under
  them.  `Phase`: where a `with GitFile(...)` caller can be, kept by its own calls whatever the others do.
-/
import DulwichModel.Model.Lock

namespace Dulwich.Lock

/-! ## what the proofs need of a program -/

structure WB (P : Program) : Prop where
  opensNe : P.opens.isEmpty = false
  opensExcl : P.opens.all id = true
  guardClose : P.guardClose = true
  mark : P.markClosedOnReplace = true
  guardAbort : P.guardAbort = true
  abortRemoves : P.abortRemoves = true
  fclose : hasFclose P.closePre = true

theorem WB.of_bool {P : Program} (h : P.wellBehaved = true) : WB P := by
  simp only [Program.wellBehaved, Bool.and_eq_true, Bool.not_eq_true'] at h
  obtain ⟨⟨⟨⟨⟨⟨h0, h1⟩, h2⟩, h3⟩, h4⟩, h5⟩, h6⟩ := h
  exact ⟨h0, h1, h2, h3, h4, h5, h6⟩

/-! ## one call of an actor, as a relation -/

/-- the outcome part of `Out.isFailure`: injected error, `FileLocked`, `ValueError`,
`FileNotFoundError` reaching the caller (a name for the notion; no proof uses it) -/
def Out.isFailure' : Out → Bool
  | .injected => true | .valueError => true | .exists => true | .noent => true
  | _ => false

/-- the call the actor makes at `pc` — the open, a write, a call of close() up to and including
the rename — did not succeed -/
def Out.isFailure (pc : Pc) (o : Out) : Bool :=
  (match pc with | .start => true | .wr _ => true | .pre _ _ _ => true | .replace => true | _ => false)
    && (match o with | .injected => true | .valueError => true | .exists => true | .noent => true
                     | _ => false)

/-- every open still to come in the acquisition is exclusive (`AcqOk`: the same of an actor) -/
def AcqOkQ : Acq → Prop
  | .mkdir l => l.all id = true
  | .open e r => e = true ∧ r.all id = true
  | _ => True

def AcqOk (a : Actor) : Prop := AcqOkQ a.acq

/-- `Step P a lt dt em pc (b, e, o)`: an actor `a` at `pc` makes its call with `f.lock` there or not
(`lt`), the parent directory there (`dt`) and empty (`em`) or not; afterwards it is `b`, the
directory has undergone `e`, the call returned `o`.  Closing the file object inside abort() has one
row for its normal return and its failure under `try … finally` (`p'`, `td`: the pending flag resp.
the rest of the script afterwards).  Of the acquisition a row keeps only that it stays exclusive (`AcqOkQ`): `retry`
says no more of the next state `q`, and `acquired` hides which open it was, so "exclusive, hence no
lock file before" reads `AcqOkQ (a.acqNow P) → lt = false`.  No assumption on the program. -/
inductive Step (P : Program) (a : Actor) (lt dt em : Bool) : Pc → Actor × Eff × Out → Prop
  | idle : Step P a lt dt em .done (a, .none, .skip)
  | giveUp {e o} : e = .none ∨ e = .mkdir ∨ e = .rmdir ∧ em = true →
      Step P a lt dt em .start ({ a with pc := .done, todo := [] }, e, o)
  | retry {q e o} : (AcqOkQ (a.acqNow P) → AcqOkQ q) → e = .none ∨ e = .mkdir →
      Out.isFailure .start o = false → Step P a lt dt em .start ({ a with acq := q }, e, o)
  | acquired : dt = true → (AcqOkQ (a.acqNow P) → lt = false) →
      Step P a lt dt em .start
        (settle P { a with opened := true, fopen := true, owns := true } a.todo, .create, .ok)
  | wrFail {d o} : Step P a lt dt em (.wr d) (raise P a a.hW, .none, o)
  | wrOk {d} : a.fopen = true →
      Step P a lt dt em (.wr d) (settle P { a with written := a.written ++ d } a.todo, .none, .ok)
  | preFail {c t rest o} : Step P a lt dt em (.pre c t rest) (preFail P a t, .none, o)
  | preFailFc {t rest} :
      Step P a lt dt em (.pre .fclose t rest) (preFail P { a with fopen := false } t, .none, .injected)
  | preOk {c t rest} : c ≠ .fclose → Step P a lt dt em (.pre c t rest) (enterClose a rest, .none, .ok)
  | preOkFc {t rest} :
      Step P a lt dt em (.pre .fclose t rest) (enterClose { a with fopen := false } rest, .none, .ok)
  | replaceFail {o} : Step P a lt dt em .replace (preFail P a P.finallyAbort, .none, o)
  | replaceOk {b} : b = { a with owns := false, committed := some a.written,
                                 closed := a.closed || P.markClosedOnReplace } →
      Step P a lt dt em .replace
        (if P.finallyAbort then abortInClose P b false else settle P b a.todo, .replace, .ok)
  | fcCloseUnlink {p p' o} : (p = true → p' = true) →
      Step P a lt dt em (.fcClose p) (unlinkInClose P { a with fopen := false } p', .none, o)
  | fcCloseSkip {p} : P.abortCloseInTry = false → Step P a lt dt em (.fcClose p)
      (raise P { a with fopen := false, fcFailed := true } a.hC, .none, .injected)
  | rmCloseFail {p} :
      Step P a lt dt em (.rmClose p) (raise P { a with rmFailed := true } a.hC, .none, .injected)
  | rmCloseOk {p} : Step P a lt dt em (.rmClose p)
      (afterClose P { a with owns := false, closed := true } p,
       if lt then .remove else .none, if lt then .ok else .noent)
  | fcAbortUnlink {td o} : (a.todo = [] → td = []) →
      Step P a lt dt em .fcAbort (unlinkInAbort P { a with fopen := false, todo := td }, .none, o)
  | fcAbortSkip : P.abortCloseInTry = false → Step P a lt dt em .fcAbort
      ({ a with fopen := false, fcFailed := true, pc := .done, todo := [] }, .none, .injected)
  | rmAbortFail : Step P a lt dt em .rmAbort
      ({ a with rmFailed := true, pc := .done, todo := [] }, .none, .injected)
  | rmAbortOk : Step P a lt dt em .rmAbort
      (settle P { a with owns := false, closed := true } a.todo,
       if lt then .remove else .none, if lt then .ok else .noent)

variable {P : Program} {a : Actor}

theorem acquireStep_step (P : Program) (a : Actor) (lt dt em f : Bool) :
    Step P a lt dt em .start (acquireStep P a lt dt em f) := by
  unfold acquireStep
  cases hq : a.acqNow P with
  | init => exact .giveUp (.inl rfl)
  | rmdir =>
    cases f
    · cases dt
      · exact .giveUp (.inl rfl)
      · cases em
        · exact .giveUp (.inl rfl)
        · exact .giveUp (.inr (.inr ⟨rfl, rfl⟩))
    · exact .giveUp (.inl rfl)
  | mkdir l =>
    cases f
    · cases l with
      | nil => exact .giveUp (.inr (.inl rfl))
      | cons e r =>
        exact .retry (fun h => by rw [hq] at h; exact Bool.and_eq_true_iff.1 h) (.inr rfl) rfl
    · exact .giveUp (.inl rfl)
  | «open» e r =>
    cases f
    · cases dt
      · cases r with
        | nil => exact .giveUp (.inl rfl)
        | cons e' r' => exact .retry (fun h => by rw [hq] at h; exact h.2) (.inl rfl) rfl
      · cases e
        · exact .acquired rfl fun h => by rw [hq] at h; cases h.1
        · cases lt
          · exact .acquired rfl fun _ => rfl
          · exact .giveUp (.inl rfl)
    · exact .giveUp (.inl rfl)

/-- The program counter is a variable of its own: rewriting with `a.pc = …` would also hit the
`pc := a.pc` inside every `{ a with … }`. -/
theorem actorStep_step (P : Program) {pc : Pc} (hpc : a.pc = pc) (lt dt em f : Bool) :
    Step P a lt dt em pc (actorStep P a lt dt em f) := by
  unfold actorStep
  split <;> rename_i h <;> obtain rfl := hpc.symm.trans h
  · exact .idle
  · exact acquireStep_step ..
  · cases f
    · rw [if_neg Bool.false_ne_true]
      split
      · exact .wrFail ..
      · rename_i h; exact .wrOk (by simpa using h)
    · exact .wrFail ..
  · rename_i c t rest
    cases f
    · rw [if_neg Bool.false_ne_true]
      cases c <;> simp only
      · split
        · exact .preFail ..
        · exact .preOk PreCall.noConfusion
      · exact .preOk PreCall.noConfusion
      · exact .preOkFc ..
      · cases lt
        · exact .preFail ..
        · exact .preOk PreCall.noConfusion
      · cases lt
        · exact .preFail ..
        · exact .preOk PreCall.noConfusion
    · cases c
      · exact .preFail ..
      · exact .preFail ..
      · exact .preFailFc ..
      · exact .preFail ..
      · exact .preFail ..
  · cases f
    · cases lt
      · exact .replaceFail
      · exact .replaceOk rfl
    · exact .replaceFail
  · cases f
    · exact .fcCloseUnlink id
    · cases hx : P.abortCloseInTry
      · exact .fcCloseSkip hx
      · exact .fcCloseUnlink (fun _ => rfl)
  · cases f
    · exact .rmCloseOk ..
    · exact .rmCloseFail ..
  · cases f
    · exact .fcAbortUnlink id
    · cases hx : P.abortCloseInTry
      · exact .fcAbortSkip hx
      · exact .fcAbortUnlink (fun _ => rfl)
  · cases f
    · exact .rmAbortOk
    · exact .rmAbortFail

theorem step_step (P : Program) (s : State) (i : Nat) (f : Bool) :
    Step P (s.actors i) s.fs.lock.isSome s.fs.dir s.fs.isEmpty (s.actors i).pc
      (actorStep P (s.actors i) s.fs.lock.isSome s.fs.dir s.fs.isEmpty f) :=
  actorStep_step P rfl ..

theorem step_actor_self (P : Program) (s : State) (i : Nat) (f : Bool) :
    (step P s i f).actors i = (actorStep P (s.actors i) s.fs.lock.isSome s.fs.dir s.fs.isEmpty f).1 :=
  if_pos rfl

theorem step_actor_other (P : Program) (s : State) {i j : Nat} (f : Bool) (h : j ≠ i) :
    (step P s i f).actors j = s.actors j :=
  if_neg h

theorem step_fs (P : Program) (s : State) (i : Nat) (f : Bool) :
    (step P s i f).fs = applyEff s.fs i (actorStep P (s.actors i) s.fs.lock.isSome s.fs.dir s.fs.isEmpty f).2.1 := rfl

/-! ## runs and initial states -/

theorem Reach.trans {s0 s1 s2 : State} (h1 : Reach P s0 s1) (h2 : Reach P s1 s2) :
    Reach P s0 s2 := by
  induction h2 with
  | init => exact h1
  | step s i f _ ih => exact Reach.step s i f ih

theorem reach_run (P : Program) (s : State) (sc : Sched) : Reach P s (run P s sc) := by
  induction sc generalizing s with
  | nil => exact Reach.init
  | cons p rest ih =>
    obtain ⟨i, f⟩ := p
    exact Reach.trans (Reach.step s i f Reach.init) (ih _)

theorem Actor.init_fresh (fs pm : Bool) (body hW hC : List Op) (mk : Bool) :
    ({ Actor.init fs pm body hW hC with mkdirFirst := mk }).Fresh :=
  ⟨rfl, rfl, rfl, rfl, rfl, rfl, rfl, Or.inl rfl⟩

theorem Actor.pruner_fresh : Actor.pruner.Fresh := ⟨rfl, rfl, rfl, rfl, rfl, rfl, rfl, Or.inr rfl⟩

theorem State.ofList_initial (tgt : Bool) (as : List Actor) (dir : Bool)
    (h : ∀ a ∈ as, a.Fresh) :
    Initial (State.ofList tgt as dir) := by
  refine ⟨rfl, ?_, fun i => ?_⟩
  · cases tgt
    · exact .inl rfl
    · exact .inr rfl
  · simp only [State.ofList, List.getD_eq_getElem?_getD]
    cases hi : as[i]? with
    | none => exact Actor.init_fresh _ _ _ _ _ false
    | some a => exact h a (List.mem_of_getElem? hi)

/-! ## the control helpers of the model: they only touch control fields -/

def PreCall.due (a : Actor) : PreCall → Bool
  | .flush => true
  | .fsync => a.fsyncOn
  | .fclose => a.fopen
  | .stat => a.permOn
  | .chmod => a.permOn

theorem enterClose_cons (a : Actor) (c : PreCall) (t : Bool) (rest : List (PreCall × Bool)) :
    enterClose a ((c, t) :: rest) =
      if c.due a then { a with pc := .pre c t rest } else enterClose a rest := by
  cases c <;> rfl

/-- `b` is `a` after a move of control only (`acq pc todo inHandler fopen closed` may differ): more than
the fields the model calls ghost. -/
structure Ghost (a b : Actor) : Prop where
  owns : b.owns = a.owns
  opened : b.opened = a.opened
  written : b.written = a.written
  committed : b.committed = a.committed
  rmFailed : b.rmFailed = a.rmFailed
  fcFailed : b.fcFailed = a.fcFailed
  fsyncOn : b.fsyncOn = a.fsyncOn
  permOn : b.permOn = a.permOn
  hW : b.hW = a.hW
  hC : b.hC = a.hC

theorem Ghost.trans {a b c : Actor} (h1 : Ghost a b) (h2 : Ghost b c) : Ghost a c :=
  ⟨h2.owns.trans h1.owns, h2.opened.trans h1.opened, h2.written.trans h1.written,
   h2.committed.trans h1.committed, h2.rmFailed.trans h1.rmFailed, h2.fcFailed.trans h1.fcFailed,
   h2.fsyncOn.trans h1.fsyncOn, h2.permOn.trans h1.permOn, h2.hW.trans h1.hW, h2.hC.trans h1.hC⟩

theorem Ghost.ctl {acq : Acq} {pc : Pc} {todo : List Op} {inHandler fopen closed : Bool} :
    Ghost a { a with acq := acq, pc := pc, todo := todo, inHandler := inHandler, fopen := fopen,
                     closed := closed } :=
  ⟨rfl, rfl, rfl, rfl, rfl, rfl, rfl, rfl, rfl, rfl⟩

theorem Ghost.ite {a x y : Actor} {c : Prop} [Decidable c] (hx : Ghost a x) (hy : Ghost a y) :
    Ghost a (if c then x else y) :=
  iteInduction (fun _ => hx) fun _ => hy

theorem enterClose_ghost (a : Actor) (l : List (PreCall × Bool)) : Ghost a (enterClose a l) := by
  induction l with
  | nil => exact .ctl
  | cons p rest ih => rw [enterClose_cons]; exact .ite .ctl ih

theorem settle_ghost (P : Program) (a : Actor) (l : List Op) : Ghost a (settle P a l) := by
  induction l generalizing a with
  | nil => exact .ctl
  | cons o rest ih =>
    cases o <;> rw [settle]
    · exact .ctl
    · exact .ite (ih a) (.trans .ctl (enterClose_ghost _ _))
    · exact .ite (ih a) (.ite .ctl (.ite .ctl (.trans .ctl (ih _))))

theorem raise_ghost (P : Program) (a : Actor) (h : List Op) : Ghost a (raise P a h) :=
  .ite .ctl (.trans .ctl (settle_ghost _ _ _))

theorem afterClose_ghost (P : Program) (a : Actor) (p : Bool) : Ghost a (afterClose P a p) :=
  .ite (raise_ghost _ _ _) (settle_ghost _ _ _)

theorem unlinkInClose_ghost (P : Program) (a : Actor) (p : Bool) : Ghost a (unlinkInClose P a p) :=
  .ite .ctl (.trans .ctl (afterClose_ghost _ _ _))

theorem abortInClose_ghost (P : Program) (a : Actor) (p : Bool) : Ghost a (abortInClose P a p) :=
  .ite (afterClose_ghost _ _ _) (.ite .ctl (unlinkInClose_ghost _ _ _))

theorem unlinkInAbort_ghost (P : Program) (a : Actor) : Ghost a (unlinkInAbort P a) :=
  .ite .ctl (.trans .ctl (settle_ghost _ _ _))

theorem preFail_ghost (P : Program) (a : Actor) (t : Bool) : Ghost a (preFail P a t) :=
  .ite (abortInClose_ghost _ _ _) (raise_ghost _ _ _)

theorem enterClose_opened (a : Actor) (l : List (PreCall × Bool)) : (enterClose a l).opened = a.opened := (enterClose_ghost a l).opened
theorem enterClose_rmFailed (a : Actor) (l : List (PreCall × Bool)) : (enterClose a l).rmFailed = a.rmFailed := (enterClose_ghost a l).rmFailed
theorem settle_opened (P : Program) (a : Actor) (l : List Op) : (settle P a l).opened = a.opened := (settle_ghost P a l).opened
theorem settle_written (P : Program) (a : Actor) (l : List Op) : (settle P a l).written = a.written := (settle_ghost P a l).written
theorem settle_rmFailed (P : Program) (a : Actor) (l : List Op) : (settle P a l).rmFailed = a.rmFailed := (settle_ghost P a l).rmFailed
theorem raise_opened (P : Program) (a : Actor) (l : List Op) : (raise P a l).opened = a.opened := (raise_ghost P a l).opened
theorem raise_written (P : Program) (a : Actor) (l : List Op) : (raise P a l).written = a.written := (raise_ghost P a l).written
theorem raise_rmFailed (P : Program) (a : Actor) (l : List Op) : (raise P a l).rmFailed = a.rmFailed := (raise_ghost P a l).rmFailed
theorem afterClose_opened (P : Program) (a : Actor) (p : Bool) : (afterClose P a p).opened = a.opened := (afterClose_ghost P a p).opened
theorem afterClose_written (P : Program) (a : Actor) (p : Bool) : (afterClose P a p).written = a.written := (afterClose_ghost P a p).written
theorem afterClose_rmFailed (P : Program) (a : Actor) (p : Bool) : (afterClose P a p).rmFailed = a.rmFailed := (afterClose_ghost P a p).rmFailed
theorem unlinkInClose_opened (P : Program) (a : Actor) (p : Bool) : (unlinkInClose P a p).opened = a.opened := (unlinkInClose_ghost P a p).opened
theorem unlinkInClose_written (P : Program) (a : Actor) (p : Bool) : (unlinkInClose P a p).written = a.written := (unlinkInClose_ghost P a p).written
theorem unlinkInClose_rmFailed (P : Program) (a : Actor) (p : Bool) : (unlinkInClose P a p).rmFailed = a.rmFailed := (unlinkInClose_ghost P a p).rmFailed
theorem abortInClose_opened (P : Program) (a : Actor) (p : Bool) : (abortInClose P a p).opened = a.opened := (abortInClose_ghost P a p).opened
theorem abortInClose_written (P : Program) (a : Actor) (p : Bool) : (abortInClose P a p).written = a.written := (abortInClose_ghost P a p).written
theorem abortInClose_rmFailed (P : Program) (a : Actor) (p : Bool) : (abortInClose P a p).rmFailed = a.rmFailed := (abortInClose_ghost P a p).rmFailed
theorem unlinkInAbort_opened (P : Program) (a : Actor) : (unlinkInAbort P a).opened = a.opened := (unlinkInAbort_ghost P a).opened
theorem unlinkInAbort_written (P : Program) (a : Actor) : (unlinkInAbort P a).written = a.written := (unlinkInAbort_ghost P a).written
theorem unlinkInAbort_rmFailed (P : Program) (a : Actor) : (unlinkInAbort P a).rmFailed = a.rmFailed := (unlinkInAbort_ghost P a).rmFailed
theorem preFail_opened (P : Program) (a : Actor) (p : Bool) : (preFail P a p).opened = a.opened := (preFail_ghost P a p).opened
theorem preFail_written (P : Program) (a : Actor) (p : Bool) : (preFail P a p).written = a.written := (preFail_ghost P a p).written
theorem preFail_rmFailed (P : Program) (a : Actor) (p : Bool) : (preFail P a p).rmFailed = a.rmFailed := (preFail_ghost P a p).rmFailed

/-! ### … and what they are for a program that passes the check -/

theorem unlinkInClose_eq (hP : WB P) (a : Actor) (p : Bool) :
    unlinkInClose P a p = { a with pc := .rmClose p } :=
  if_pos hP.abortRemoves

theorem unlinkInAbort_eq (hP : WB P) (a : Actor) : unlinkInAbort P a = { a with pc := .rmAbort } :=
  if_pos hP.abortRemoves

theorem abortInClose_eq (hP : WB P) (a : Actor) (p : Bool) :
    abortInClose P a p = if a.closed then afterClose P a p
      else if a.fopen then { a with pc := .fcClose p } else { a with pc := .rmClose p } := by
  rw [abortInClose, hP.guardAbort, Bool.true_and, unlinkInClose_eq hP]

theorem settle_abort (hP : WB P) (a : Actor) (l : List Op) :
    settle P a (.abort :: l) = if a.closed then settle P a l
      else if a.fopen then { a with pc := .fcAbort, todo := l } else { a with pc := .rmAbort, todo := l } := by
  rw [settle, hP.guardAbort, Bool.true_and, if_pos hP.abortRemoves]

/-! ## what a call does apart from moving control -/

/-- `Upd P a lt dt em pc a' e`: the call of an actor `a` at `pc` has effect `e` on the directory, and
the fields `Ghost` talks about are afterwards what they are in `a'` (`Step.upd`: the rest of the
transition is one of the helpers, which only move control).  The index `pc` is for `step_lockStep`: at
`.start` the actor's opens are exclusive, at a rename or an unlink `PcOk` says it holds the lock. -/
inductive Upd (P : Program) (a : Actor) (lt dt em : Bool) : Pc → Actor → Eff → Prop
  | same {pc e} : e = .none ∨ e = .mkdir ∨ e = .rmdir ∧ em = true →
      Upd P a lt dt em pc a e
  | write {d} : Upd P a lt dt em (.wr d) { a with written := a.written ++ d } .none
  | fcFail {pc} : P.abortCloseInTry = false → Upd P a lt dt em pc { a with fcFailed := true } .none
  | rmFail {pc} : Upd P a lt dt em pc { a with rmFailed := true } .none
  | create : dt = true → (AcqOkQ (a.acqNow P) → lt = false) →
      Upd P a lt dt em .start { a with opened := true, owns := true } .create
  | replace :
      Upd P a lt dt em .replace { a with owns := false, committed := some a.written } .replace
  | removeClose {p e} : e = (if lt then .remove else .none) →
      Upd P a lt dt em (.rmClose p) { a with owns := false } e
  | removeAbort {e} : e = (if lt then .remove else .none) →
      Upd P a lt dt em .rmAbort { a with owns := false } e

section
variable {lt dt em : Bool} {pc : Pc} {r : Actor × Eff × Out} (hs : Step P a lt dt em pc r)
include hs

theorem Step.upd : ∃ a', Upd P a lt dt em pc a' r.2.1 ∧ Ghost a' r.1 := by
  cases hs with
  | idle => exact ⟨_, .same (.inl rfl), .ctl⟩
  | giveUp he => exact ⟨_, .same he, .ctl⟩
  | retry _ he => exact ⟨_, .same (he.imp_right .inl), .ctl⟩
  | acquired hd hlt => exact ⟨_, .create hd hlt, .trans .ctl (settle_ghost ..)⟩
  | wrFail => exact ⟨_, .same (.inl rfl), raise_ghost ..⟩
  | wrOk => exact ⟨_, .write, settle_ghost ..⟩
  | preFail | replaceFail => exact ⟨_, .same (.inl rfl), preFail_ghost ..⟩
  | preFailFc => exact ⟨_, .same (.inl rfl), .trans .ctl (preFail_ghost ..)⟩
  | preOk => exact ⟨_, .same (.inl rfl), enterClose_ghost ..⟩
  | preOkFc => exact ⟨_, .same (.inl rfl), .trans .ctl (enterClose_ghost ..)⟩
  | replaceOk hb =>
    subst hb
    exact ⟨_, .replace, .trans .ctl (.ite (abortInClose_ghost ..) (settle_ghost ..))⟩
  | fcCloseUnlink => exact ⟨_, .same (.inl rfl), .trans .ctl (unlinkInClose_ghost ..)⟩
  | fcCloseSkip hn => exact ⟨_, .fcFail hn, .trans .ctl (raise_ghost ..)⟩
  | rmCloseFail => exact ⟨_, .rmFail, raise_ghost ..⟩
  | rmCloseOk => exact ⟨_, .removeClose rfl, .trans .ctl (afterClose_ghost ..)⟩
  | fcAbortUnlink => exact ⟨_, .same (.inl rfl), .trans .ctl (unlinkInAbort_ghost ..)⟩
  | fcAbortSkip hn => exact ⟨_, .fcFail hn, .ctl⟩
  | rmAbortFail => exact ⟨_, .rmFail, .ctl⟩
  | rmAbortOk => exact ⟨_, .removeAbort rfl, .trans .ctl (settle_ghost ..)⟩

theorem Step.cfg : r.1.hW = a.hW ∧ r.1.hC = a.hC := by
  obtain ⟨b, e, o⟩ := r
  obtain ⟨_, hu, hc⟩ := hs.upd
  cases hu <;> exact ⟨hc.hW, hc.hC⟩

theorem Step.fcFailed (hx : P.abortCloseInTry = true) (hf : a.fcFailed = false) :
    r.1.fcFailed = false := by
  obtain ⟨b, e, o⟩ := r
  obtain ⟨_, hu, hc⟩ := hs.upd
  cases hu with
  | fcFail hn => rw [hx] at hn; cases hn
  | _ => exact hc.fcFailed.trans hf

end

/-! ## the per-actor invariant -/

/-- facts about a handle that exists, independent of where its caller is -/
structure Core (a : Actor) : Prop where
  opened : a.opened = true
  owns_eq : a.owns = !a.closed                 -- the code's `_closed` flag tells ownership exactly
  fopen_owns : a.fopen = true → a.owns = true
  committed : ∀ c, a.committed = some c → c = a.written ∧ a.fopen = false

/-- the calls of close() and abort(): where `PcOk` asks that the actor hold the lock (a name for the
notion; no proof uses it) -/
def Pc.needsLock : Pc → Bool
  | .pre _ _ _ => true | .replace => true | .fcClose _ => true | .rmClose _ => true
  | .fcAbort => true | .rmAbort => true
  | _ => false

/-- At a call of close() or abort() the actor holds the lock; while its file object is open an fclose is
still ahead (`hasFclose` in `wellBehaved`), so the rename and the unlinks find it closed. -/
def PcOk (a : Actor) : Prop :=
  match a.pc with
  | .pre c _ rest => a.owns = true ∧ (a.fopen = true → c = .fclose ∨ hasFclose rest = true)
  | .replace => a.owns = true ∧ a.fopen = false
  | .fcClose _ => a.owns = true
  | .rmClose _ => a.owns = true ∧ a.fopen = false
  | .fcAbort => a.owns = true
  | .rmAbort => a.owns = true ∧ a.fopen = false
  | _ => True

/-- the actor has a handle (its open succeeded) -/
def Run (a : Actor) : Prop := Core a ∧ PcOk a ∧ a.pc ≠ .start

/-- no handle (yet, or open failed) -/
def NoHandle (a : Actor) : Prop :=
  a.opened = false ∧ a.owns = false ∧ a.closed = false ∧ a.fopen = false ∧ a.committed = none ∧
    (a.pc = .start ∨ a.pc = .done) ∧ AcqOk a

theorem NoHandle.opened (h : NoHandle a) : a.opened = false := h.1
theorem NoHandle.owns (h : NoHandle a) : a.owns = false := h.2.1
theorem NoHandle.committed (h : NoHandle a) : a.committed = none := h.2.2.2.2.1
theorem NoHandle.pc (h : NoHandle a) : a.pc = .start ∨ a.pc = .done := h.2.2.2.2.2.1
theorem NoHandle.acqOk (h : NoHandle a) : AcqOk a := h.2.2.2.2.2.2

def LInv (a : Actor) : Prop := NoHandle a ∨ Run a

theorem Actor.Fresh.owns (h : a.Fresh) : a.owns = false := h.2.2.1
theorem Actor.Fresh.fcFailed (h : a.Fresh) : a.fcFailed = false := h.2.2.2.2.2.2.1

theorem LInv.of_fresh (h : a.Fresh) : LInv a := by
  obtain ⟨h1, h2, h3, h4, h5, h6, _, h8⟩ := h
  refine Or.inl ⟨h2, h3, h4, h5, h6, Or.inl h1, ?_⟩
  unfold AcqOk
  rcases h8 with e | e <;> rw [e] <;> exact trivial

theorem Core.ctl {pc : Pc} {todo : List Op} {inHandler rmFailed fcFailed : Bool} (h : Core a) :
    Core { a with pc := pc, todo := todo, inHandler := inHandler, rmFailed := rmFailed,
                  fcFailed := fcFailed } :=
  ⟨h.opened, h.owns_eq, h.fopen_owns, h.committed⟩

theorem Core.fclose (h : Core a) : Core { a with fopen := false } :=
  ⟨h.opened, h.owns_eq, Bool.noConfusion, fun c hc => ⟨(h.committed c hc).1, rfl⟩⟩

theorem Core.renamed {m : Bool} (h : Core a) (hm : m = true) (hf : a.fopen = false) :
    Core { a with owns := false, committed := some a.written, closed := a.closed || m } :=
  ⟨h.opened, by simp [hm], fun h1 => Bool.noConfusion (hf.symm.trans h1),
   fun c hc => ⟨(Option.some.inj hc).symm, hf⟩⟩

theorem Core.released (h : Core a) (hf : a.fopen = false) :
    Core { a with owns := false, closed := true } :=
  ⟨h.opened, rfl, fun h1 => Bool.noConfusion (hf.symm.trans h1), h.committed⟩

theorem Core.owns_of_not_closed (h : Core a) (hc : a.closed = false) : a.owns = true := by
  rw [h.owns_eq, hc]; rfl

theorem Run.of_enterClose (l : List (PreCall × Bool)) (h : Core a) (ho : a.owns = true)
    (hf : a.fopen = true → hasFclose l = true) : Run (enterClose a l) := by
  induction l with
  | nil =>
    exact ⟨h.ctl, ⟨ho, Bool.eq_false_iff.2 fun hfo => Bool.noConfusion (hf hfo)⟩, Pc.noConfusion⟩
  | cons p rest ih =>
    obtain ⟨c, t⟩ := p
    have hf' : a.fopen = true → c = .fclose ∨ hasFclose rest = true := fun h1 =>
      (Bool.or_eq_true_iff.1 (hf h1)).imp_left eq_of_beq
    rw [enterClose_cons]
    -- a file-object close is skipped only when the file object is closed already
    exact iteInduction (fun _ => ⟨h.ctl, ⟨ho, hf'⟩, Pc.noConfusion⟩) fun hd =>
      ih fun h1 => (hf' h1).resolve_left fun e => by subst e; exact hd h1

theorem Run.of_settle (hP : WB P) (l : List Op) (h : Core a) :
    Run (settle P a l) := by
  induction l with
  | nil => exact ⟨h.ctl, trivial, Pc.noConfusion⟩
  | cons o rest ih =>
    cases o
    · exact ⟨h.ctl, trivial, Pc.noConfusion⟩
    · rw [settle, hP.guardClose, Bool.true_and]
      exact iteInduction (fun _ => ih) fun hc =>
        Run.of_enterClose _ h.ctl (h.owns_of_not_closed (Bool.eq_false_iff.2 hc)) fun _ => hP.fclose
    · rw [settle_abort hP]
      refine iteInduction (fun _ => ih) fun hc => ?_
      have ho := h.owns_of_not_closed (Bool.eq_false_iff.2 hc)
      exact iteInduction (fun _ => ⟨h.ctl, ho, Pc.noConfusion⟩) fun hfo =>
        ⟨h.ctl, ⟨ho, Bool.eq_false_iff.2 hfo⟩, Pc.noConfusion⟩

theorem Run.of_raise (hP : WB P) (hd : List Op) (h : Core a) :
    Run (raise P a hd) :=
  iteInduction (fun _ => ⟨h.ctl, trivial, Pc.noConfusion⟩) fun _ => Run.of_settle hP _ h.ctl

theorem Run.of_afterClose (hP : WB P) (p : Bool) (h : Core a) :
    Run (afterClose P a p) :=
  iteInduction (fun _ => Run.of_raise hP _ h) fun _ => Run.of_settle hP _ h

theorem Run.of_abortInClose (hP : WB P) (p : Bool) (h : Core a) :
    Run (abortInClose P a p) := by
  rw [abortInClose_eq hP]
  refine iteInduction (fun _ => Run.of_afterClose hP _ h) fun hc => ?_
  have ho := h.owns_of_not_closed (Bool.eq_false_iff.2 hc)
  exact iteInduction (fun _ => ⟨h.ctl, ho, Pc.noConfusion⟩) fun hfo =>
    ⟨h.ctl, ⟨ho, Bool.eq_false_iff.2 hfo⟩, Pc.noConfusion⟩

theorem Run.of_preFail (hP : WB P) (t : Bool) (h : Core a) :
    Run (preFail P a t) :=
  iteInduction (fun _ => Run.of_abortInClose hP _ h) fun _ => Run.of_raise hP _ h

theorem Run.opened {a : Actor} (h : Run a) : a.opened = true := h.1.opened

theorem LInv.core (h : LInv a) (h1 : a.pc ≠ .start) (h2 : a.pc ≠ .done) : Core a := by
  rcases h with h | h
  · exact (h.pc.elim h1 h2).elim
  · exact h.1

theorem LInv.noHandle_of_start (h : LInv a) (h1 : a.pc = .start) : NoHandle a :=
  h.elim id fun h => absurd h1 h.2.2

theorem LInv.pcOk (h : LInv a) : PcOk a := by
  rcases h with h | h
  · unfold PcOk; rcases h.pc with e | e <;> rw [e] <;> trivial
  · exact h.2.1

theorem acqNow_ok (hP : WB P) (h : AcqOk a) : AcqOkQ (a.acqNow P) := by
  unfold Actor.acqNow
  unfold AcqOk at h
  cases hq : a.acq with
  | init =>
    simp only
    split
    · exact hP.opensExcl
    · cases ho : P.opens with
      | nil => have := hP.opensNe; rw [ho] at this; cases this
      | cons e r => have := hP.opensExcl; rw [ho] at this; exact Bool.and_eq_true_iff.1 this
  | _ => rw [hq] at h; exact h

theorem Step.lInv (hP : WB P) {lt dt em : Bool}
    {r : Actor × Eff × Out} (hs : Step P a lt dt em a.pc r) (h : LInv a) : LInv r.1 := by
  have hk := h.pcOk
  unfold PcOk at hk
  have hc := h.core
  generalize hpc : a.pc = pc at hs hk hc
  cases hs
  case idle => exact h
  case giveUp =>
    obtain ⟨h1, h2, h3, h4, h5, _, h7⟩ := h.noHandle_of_start hpc
    exact .inl ⟨h1, h2, h3, h4, h5, .inr rfl, h7⟩
  case retry q _ _ hq _ _ =>
    obtain ⟨h1, h2, h3, h4, h5, _, h7⟩ := h.noHandle_of_start hpc
    exact .inl ⟨h1, h2, h3, h4, h5, .inl hpc, hq (acqNow_ok hP h7)⟩
  case acquired =>
    obtain ⟨_, _, h3, _, h5, _, _⟩ := h.noHandle_of_start hpc
    exact .inr (Run.of_settle hP _
      ⟨rfl, (congrArg not h3).symm, fun _ => rfl, fun c hc => nomatch (h5.symm.trans hc)⟩)
  all_goals
    have C := hc Pc.noConfusion Pc.noConfusion
    refine .inr ?_
  case wrFail => exact Run.of_raise hP _ C
  case wrOk hfo =>
    exact Run.of_settle hP _ ⟨C.opened, C.owns_eq, C.fopen_owns, fun c hc =>
      nomatch hfo.symm.trans (C.committed c hc).2⟩
  case preFail | replaceFail => exact Run.of_preFail hP _ C
  case preFailFc => exact Run.of_preFail hP _ C.fclose
  case preOk hne => exact Run.of_enterClose _ C hk.1 fun hf => (hk.2 hf).resolve_left hne
  case preOkFc => exact Run.of_enterClose _ C.fclose hk.1 Bool.noConfusion
  case replaceOk hb =>
    have C := hb ▸ C.renamed hP.mark hk.2
    exact iteInduction (fun _ => Run.of_abortInClose hP _ C) fun _ => Run.of_settle hP _ C
  case fcCloseUnlink =>
    rw [unlinkInClose_eq hP]
    exact ⟨C.fclose.ctl, ⟨hk, rfl⟩, Pc.noConfusion⟩
  case fcCloseSkip => exact Run.of_raise hP _ C.fclose.ctl
  case rmCloseFail => exact Run.of_raise hP _ C.ctl
  case rmCloseOk => exact Run.of_afterClose hP _ (C.released hk.2)
  case fcAbortUnlink =>
    rw [unlinkInAbort_eq hP]
    exact ⟨C.fclose.ctl, ⟨hk, rfl⟩, Pc.noConfusion⟩
  case fcAbortSkip => exact ⟨C.fclose.ctl, trivial, Pc.noConfusion⟩
  case rmAbortFail => exact ⟨C.ctl, trivial, Pc.noConfusion⟩
  case rmAbortOk => exact Run.of_settle hP _ (C.released hk.2)

/-! ## the global invariant; what a call means for the lock -/

/-- The invariant `check_sound` establishes: `f.lock` is there exactly while the actor that created it
`owns`. -/
structure Inv (s : State) : Prop where
  actors : ∀ i, LInv (s.actors i)
  ownerHasLock : ∀ i, (s.actors i).owns = true → s.fs.lock = some i
  lockHasOwner : ∀ i, s.fs.lock = some i → (s.actors i).owns = true

theorem Inv.of_initial {s : State} (h : Initial s) : Inv s := by
  refine ⟨fun i => LInv.of_fresh (h.fresh i), fun i hi => ?_, fun i hi => ?_⟩
  · rw [(h.fresh i).owns] at hi; cases hi
  · rw [h.lockFree] at hi; cases hi

theorem Inv.lock_ne {s : State} (h : Inv s) {i : Nat} (ho : (s.actors i).owns = false) :
    s.fs.lock ≠ some i := fun hl => by rw [h.lockHasOwner i hl] at ho; cases ho

/-- effects that leave `f` and `f.lock` alone -/
def Eff.quiet : Eff → Bool
  | .none => true | .mkdir => true | .rmdir => true
  | _ => false

/-- What a call of actor `i` means for the lock, in a state `s` satisfying `Inv`, by its effect on
the directory (the index).  `a'`, `fs'`: actor `i` and the directory afterwards. -/
inductive LockStep (s : State) (i : Nat) (a' : Actor) (fs' : FS) : Eff → Prop
  | tau {e} : e.quiet = true → fs'.lock = s.fs.lock → fs'.target = s.fs.target →
      (s.fs.lock.isSome = true → s.fs.dir = true → fs'.dir = true) →
      a'.owns = (s.actors i).owns → a'.committed = (s.actors i).committed → LockStep s i a' fs' e
  | acquire : s.fs.lock = none → s.fs.dir = true → fs' = { s.fs with lock := some i } →
      a'.owns = true → a'.committed = (s.actors i).committed → LockStep s i a' fs' .create
  | commit : s.fs.lock = some i → fs' = { s.fs with target := some (.of i), lock := none } →
      a'.owns = false → a'.committed = some (s.actors i).written → LockStep s i a' fs' .replace
  | release : s.fs.lock = some i → fs' = { s.fs with lock := none } →
      a'.owns = false → a'.committed = (s.actors i).committed → LockStep s i a' fs' .remove

theorem rmdir_keeps (fs : FS) : ((fs.rmdir).getD fs).lock = fs.lock ∧
    ((fs.rmdir).getD fs).target = fs.target := by
  unfold FS.rmdir; split <;> exact ⟨rfl, rfl⟩

/-- The lock file is renamed or unlinked only by an actor at a call that needs the lock
(`Pc.needsLock`), which by `Inv` holds it — so an unlink never finds the lock file gone. -/
theorem step_lockStep (hP : WB P) {s : State} (h : Inv s) (i : Nat) (f : Bool) :
    LockStep s i ((step P s i f).actors i) (step P s i f).fs
      (actorStep P (s.actors i) s.fs.lock.isSome s.fs.dir s.fs.isEmpty f).2.1 := by
  rw [step_actor_self, step_fs]
  have hk := (h.actors i).pcOk
  unfold PcOk at hk
  obtain ⟨a', hu, hc⟩ := (step_step P s i f).upd
  generalize actorStep P (s.actors i) s.fs.lock.isSome s.fs.dir s.fs.isEmpty f = r at hu hc ⊢
  obtain ⟨b, e, o⟩ := r
  generalize hpc : (s.actors i).pc = pc at hu hk
  cases hu with
  | same he =>
    rcases he with rfl | rfl | ⟨rfl, hem⟩
    · exact .tau rfl rfl rfl (fun _ hd => hd) hc.owns hc.committed
    · exact .tau rfl rfl rfl (fun _ _ => rfl) hc.owns hc.committed
    · -- only an empty directory is removed
      refine .tau rfl (rmdir_keeps _).1 (rmdir_keeps _).2 (fun hl => ?_) hc.owns hc.committed
      cases hx : s.fs.lock <;> simp [FS.isEmpty, hx] at hem hl
  | write | fcFail | rmFail => exact .tau rfl rfl rfl (fun _ hd => hd) hc.owns hc.committed
  | create hd hlt =>
    have hl := hlt (acqNow_ok hP ((h.actors i).noHandle_of_start hpc).acqOk)
    refine .acquire ?_ hd rfl hc.owns hc.committed
    cases hx : s.fs.lock with
    | none => rfl
    | some j => rw [hx] at hl; cases hl
  | replace =>
    have hl := h.ownerHasLock i hk.1
    exact .commit hl (by unfold applyEff FS.replace; rw [hl]; rfl) hc.owns hc.committed
  | removeClose he | removeAbort he =>
    have hl := h.ownerHasLock i hk.1
    obtain rfl : e = .remove := he.trans (by rw [hl]; rfl)
    exact .release hl (by unfold applyEff FS.remove; rw [hl]; rfl) hc.owns hc.committed

theorem step_Inv (hP : WB P) {s : State} (h : Inv s) (i : Nat) (f : Bool) :
    Inv (step P s i f) := by
  have hact : ∀ j, LInv ((step P s i f).actors j) := fun j => by
    by_cases hji : j = i
    · subst hji; rw [step_actor_self]; exact (step_step P s j f).lInv hP (h.actors j)
    · rw [step_actor_other _ _ _ hji]; exact h.actors j
  have hoth : ∀ {j}, j ≠ i → ((step P s i f).actors j).owns = (s.actors j).owns :=
    fun hji => by rw [step_actor_other _ _ _ hji]
  have hls := step_lockStep hP h i f
  generalize (actorStep P (s.actors i) s.fs.lock.isSome s.fs.dir s.fs.isEmpty f).2.1 = e at hls
  cases hls with
  | tau _ hl _ _ ho =>
    have hown : ∀ j, ((step P s i f).actors j).owns = (s.actors j).owns := fun j => by
      by_cases hji : j = i
      · rw [hji, ho]
      · exact hoth hji
    exact ⟨hact, fun j hj => hl ▸ h.ownerHasLock j (hown j ▸ hj),
      fun j hj => hown j ▸ h.lockHasOwner j (hl ▸ hj)⟩
  | acquire hl0 _ hfs ho =>
    -- there was no lock file, so nobody owned
    refine ⟨hact, fun j hj => ?_, fun j hj => ?_⟩
    · by_cases hji : j = i
      · rw [hfs, hji]
      · rw [hoth hji] at hj; exact nomatch hl0.symm.trans (h.ownerHasLock j hj)
    · rw [hfs] at hj
      obtain rfl : i = j := Option.some.inj hj
      exact ho
  | commit hl0 hfs ho | release hl0 hfs ho =>
    -- actor i held the lock, so nobody owns any more
    refine ⟨hact, fun j hj => ?_, fun j hj => ?_⟩
    · by_cases hji : j = i
      · rw [hji, ho] at hj; cases hj
      · rw [hoth hji] at hj
        exact absurd (Option.some.inj ((h.ownerHasLock j hj).symm.trans hl0)) hji
    · rw [hfs] at hj; cases hj

theorem reach_Inv (hP : WB P) {s0 s : State} (h0 : Initial s0) (h : Reach P s0 s) :
    Inv s := by
  induction h with
  | init => exact Inv.of_initial h0
  | step s i f _ ih => exact step_Inv hP ih i f

theorem reach_lock_in_dir (hP : WB P) {s0 s : State} (h0 : Initial s0) (h : Reach P s0 s) :
    s.fs.lock.isSome = true → s.fs.dir = true := by
  induction h with
  | init => intro hl; rw [h0.lockFree] at hl; cases hl
  | step s i f hr ih =>
    have hls := step_lockStep hP (reach_Inv hP h0 hr) i f
    generalize (actorStep P (s.actors i) s.fs.lock.isSome s.fs.dir s.fs.isEmpty f).2.1 = e at hls
    cases hls with
    | tau _ hl _ hd => rw [hl]; exact fun hx => hd hx (ih hx)
    | acquire _ hd hfs => rw [hfs]; exact fun _ => hd
    | commit _ hfs | release _ hfs => rw [hfs]; exact Bool.noConfusion

/-! ## all-or-nothing replacement -/

/-- `f` is still the file of the initial state, or the file some actor renamed into place: what that
actor had written when it renamed, and its file object is closed, so it cannot change any more. -/
def TargetOk (s0 s : State) : Prop :=
  s.fs.target = s0.fs.target ∨
    ∃ i, s.fs.target = some (.of i) ∧ (s.actors i).committed = some (s.actors i).written ∧
      (s.actors i).fopen = false

theorem LInv.committed_frozen (h : LInv a) {c : Bytes} (hc : a.committed = some c) :
    c = a.written ∧ a.fopen = false := by
  rcases h with h | h
  · rw [h.committed] at hc; cases hc
  · exact h.1.committed c hc

theorem step_TargetOk (hP : WB P) {s0 s : State} (h : Inv s) (ht : TargetOk s0 s)
    (i : Nat) (f : Bool) : TargetOk s0 (step P s i f) := by
  have hl := (step_Inv hP h i f).actors i
  -- a call that is no rename keeps `f`; whoever had renamed stays frozen
  have keep : (step P s i f).fs.target = s.fs.target →
      ((step P s i f).actors i).committed = (s.actors i).committed → TargetOk s0 (step P s i f) := by
    intro htg hcm
    rcases ht with ht | ⟨k, hk1, hk2, hk3⟩
    · exact .inl (htg.trans ht)
    · refine .inr ⟨k, htg.trans hk1, ?_⟩
      by_cases hki : k = i
      · subst hki
        have := hl.committed_frozen (hcm.trans hk2)
        exact ⟨by rw [hcm, hk2, ← this.1], this.2⟩
      · rw [step_actor_other _ _ _ hki]; exact ⟨hk2, hk3⟩
  have hls := step_lockStep hP h i f
  generalize (actorStep P (s.actors i) s.fs.lock.isSome s.fs.dir s.fs.isEmpty f).2.1 = e at hls
  cases hls with
  | tau _ _ htg _ _ hcm => exact keep htg hcm
  | acquire _ _ hfs _ hcm | release _ hfs _ hcm => exact keep (by rw [hfs]) hcm
  | commit _ hfs _ hcm =>
    -- actor i renames ITS lock file into place
    have := hl.committed_frozen hcm
    exact .inr ⟨i, by rw [hfs], by rw [hcm, ← this.1], this.2⟩

theorem reach_TargetOk (hP : WB P) {s0 s : State} (h0 : Initial s0)
    (h : Reach P s0 s) : TargetOk s0 s := by
  induction h with
  | init => exact Or.inl rfl
  | step s i f hr ih => exact step_TargetOk hP (reach_Inv hP h0 hr) ih i f

/-! ## the `with GitFile(...)` caller: control-flow invariant -/

theorem settle_withBody_cons (P : Program) (a : Actor) (d : Bytes) (post : List Bytes) :
    settle P a (withBody (d :: post)) = { a with pc := .wr d, todo := withBody post } :=
  rfl

theorem settle_withBody_nil (P : Program) (a : Actor) (hc : a.closed = false) :
    settle P a (withBody []) = enterClose { a with todo := [] } P.closePre := by
  simp [withBody, settle, hc]

/-- where a `with GitFile(f,"wb") as h: for d in ds: h.write(d)` caller can be (`Phase P ds false a`, `reach_with`),
and where once one of its calls has failed (`Out.isFailure`; `Phase P ds true a`, `reach_with_failed`): on its way
out through abort(), or done with nothing renamed. -/
inductive Phase (P : Program) (ds : List Bytes) : Bool → Actor → Prop where
  | start {a : Actor} : a.pc = .start → a.inHandler = false → a.todo = withBody ds → a.written = [] →
      a.committed = none → a.opened = false → a.closed = false → Phase P ds false a
  | writing {a : Actor} (pre : List Bytes) (d : Bytes) (post : List Bytes) : a.pc = .wr d → a.inHandler = false →
      ds = pre ++ d :: post → a.written = pre.flatten → a.todo = withBody post →
      a.committed = none → a.closed = false → Phase P ds false a
  /-- in close(): under `P.abortsOnAnyCloseFailure` the pending call and every later call before the rename sit inside the
  `try … finally: self.abort()` -/
  | closing {a : Actor} : (a.pc = .replace ∨ ∃ c t r, a.pc = .pre c t r ∧
        (P.abortsOnAnyCloseFailure = true → t = true ∧ r.all (fun p => p.2) = true)) → a.inHandler = false →
      a.written = ds.flatten → a.todo = [] → a.committed = none → a.closed = false → Phase P ds false a
  | aborting {fl} {a : Actor} : (a.pc = .rmClose true ∨ a.pc = .fcClose true) → a.inHandler = false →
      a.committed = none → Phase P ds fl a
  | handler {fl} {a : Actor} : (a.pc = .rmAbort ∨ a.pc = .fcAbort) → a.todo = [] → a.committed = none → Phase P ds fl a
  /-- a handle on which abort() was sure to be called after an exception — by the caller's handler, or by close()
  itself — is closed, unless the unlink or the file-object close in abort() was made to fail -/
  | done {fl} {a : Actor} : a.pc = .done → (a.committed = none ∨ fl = false ∧ a.committed = some ds.flatten) →
      ((a.hC = [.abort] ∨ P.abortsOnAnyCloseFailure = true) → a.opened = true →
        a.closed = true ∨ a.rmFailed = true ∨ a.fcFailed = true) → Phase P ds fl a

variable {ds : List Bytes} {fl : Bool}

/-- configuration of a with-caller: abort() when write() raises; nothing, or (finalised handle)
abort(), when close() raises -/
def WithCfg (a : Actor) : Prop := a.hW = [.abort] ∧ (a.hC = [] ∨ a.hC = [.abort])

/-- With nothing to run as handler (close() raised, the handle is not finalised) the caller is done at once, so
under `P.abortsOnAnyCloseFailure` the facts that release the lock must hold already when the exception is raised
(`hg`). -/
theorem phase_raise (hP : WB P) {h : List Op} (hi : a.inHandler = false)
    (hc : a.committed = none) (hcfg : WithCfg a) (hh : h = a.hW ∨ h = a.hC)
    (hg : P.abortsOnAnyCloseFailure = true → h = [] → a.closed = true ∨ a.rmFailed = true ∨ a.fcFailed = true) :
    Phase P ds fl (raise P a h) := by
  unfold raise
  rw [hi, if_neg Bool.false_ne_true]
  have : h = [.abort] ∨ h = [] ∧ a.hC = [] := by
    rcases hh with rfl | rfl
    · exact .inl hcfg.1
    · exact hcfg.2.symm.imp id fun e => ⟨e, e⟩
  rcases this with rfl | ⟨rfl, e⟩
  · rw [settle_abort hP]
    exact iteInduction (fun hcl => .done rfl (.inl hc) fun _ _ => .inl hcl) fun _ =>
      iteInduction (fun _ => .handler (.inr rfl) rfl hc) fun _ => .handler (.inl rfl) rfl hc
  · exact .done rfl (.inl hc) fun habs _ => habs.elim (fun habs => nomatch e.symm.trans habs) (hg · rfl)

theorem phase_enterClose (l : List (PreCall × Bool))
    (hl : P.abortsOnAnyCloseFailure = true → l.all (fun p => p.2) = true) (hi : a.inHandler = false)
    (hw : a.written = ds.flatten) (ht : a.todo = []) (hc : a.committed = none)
    (hcl : a.closed = false) : Phase P ds false (enterClose a l) := by
  induction l with
  | nil => exact .closing (.inl rfl) hi hw ht hc hcl
  | cons p rest ih =>
    have hl := fun g => Bool.and_eq_true_iff.1 (hl g)
    rw [enterClose_cons]
    exact iteInduction (fun _ => .closing (.inr ⟨_, _, _, rfl, hl⟩) hi hw ht hc hcl) fun _ =>
      ih fun g => (hl g).2

theorem phase_settle_withBody (pre post : List Bytes)
    (hd : ds = pre ++ post) (hi : a.inHandler = false) (hw : a.written = pre.flatten)
    (hc : a.committed = none) (hcl : a.closed = false) :
    Phase P ds false (settle P a (withBody post)) := by
  cases post with
  | nil =>
    rw [settle_withBody_nil P a hcl]
    exact phase_enterClose _ (fun g => (Bool.and_eq_true_iff.1 g).2) hi (by simpa [hd] using hw) rfl hc hcl
  | cons d post =>
    rw [settle_withBody_cons]
    exact .writing pre d post rfl hi hd hw rfl hc hcl

theorem phase_preFail (hP : WB P) {b : Actor} (t : Bool)
    (hcfg : WithCfg b) (hcl : b.closed = false) (hi : b.inHandler = false)
    (hc : b.committed = none) (hpre : P.abortsOnAnyCloseFailure = true → t = true) : Phase P ds fl (preFail P b t) := by
  refine iteInduction (fun _ => ?_) fun hnt =>
    phase_raise hP hi hc hcfg (.inr rfl) fun g _ => absurd (hpre g) hnt
  rw [abortInClose_eq hP, if_neg (Bool.eq_false_iff.1 hcl)]
  exact iteInduction (fun _ => .aborting (.inr rfl) hi hc) fun _ => .aborting (.inl rfl) hi hc

theorem Step.phase (hP : WB P) {lt dt em : Bool} {r : Actor × Eff × Out}
    (hs : Step P a lt dt em a.pc r) (hcfg : WithCfg a) (h : Phase P ds fl a) :
    Phase P ds (fl || Out.isFailure a.pc r.2.2) r.1 := by
  cases h with
  | start hpc hi ht hw hc ho hcl =>
    rw [hpc] at hs ⊢
    cases hs with
    | giveUp => exact .done rfl (.inl hc) fun _ h1 => nomatch ho.symm.trans h1
    | retry _ _ hf => rw [hf]; exact .start hpc hi ht hw hc ho hcl
    | acquired =>
      rw [ht]
      exact phase_settle_withBody [] ds rfl hi hw hc hcl
  | writing pre d post hpc hi hd hw ht hc hcl =>
    rw [hpc] at hs ⊢
    cases hs with
    | wrFail =>
      exact phase_raise hP hi hc hcfg (.inl rfl) fun _ e => by rw [hcfg.1] at e; cases e
    | wrOk =>
      rw [ht]
      exact phase_settle_withBody (pre ++ [d]) post (hd.trans (List.append_cons ..)) hi (by simp [hw]) hc hcl
  | closing hpc hi hw ht hc hcl =>
    rcases hpc with hpc | ⟨c, t, rest, hpc, htry⟩ <;> rw [hpc] at hs ⊢
    · cases hs with
      | replaceFail => exact phase_preFail hP _ hcfg hcl hi hc fun g => (Bool.and_eq_true_iff.1 g).1
      | replaceOk hb =>
        subst hb
        -- `_closed` is set by now: the `finally: abort()` returns at its guard and the empty script goes on
        simp only [abortInClose_eq hP, hP.mark, Bool.or_true, if_true, afterClose, Bool.false_eq_true,
          if_false, ite_self]
        rw [ht]
        exact .done rfl (.inr ⟨rfl, congrArg some hw⟩) fun _ _ => .inl rfl
    · cases hs with
      | preFail | preFailFc => exact phase_preFail hP t hcfg hcl hi hc fun g => (htry g).1
      | preOk | preOkFc => exact phase_enterClose _ (fun g => (htry g).2) hi hw ht hc hcl
  | aborting hpc hi hc =>
    rcases hpc with hpc | hpc <;> rw [hpc] at hs ⊢
    · cases hs with
      | rmCloseFail => exact phase_raise hP hi hc hcfg (.inr rfl) fun _ _ => .inr (.inl rfl)
      | rmCloseOk => exact phase_raise hP hi hc hcfg (.inr rfl) fun _ _ => .inl rfl
    · cases hs with
      | fcCloseUnlink hp =>
        rw [hp rfl, unlinkInClose_eq hP]
        exact .aborting (.inl rfl) hi hc
      | fcCloseSkip => exact phase_raise hP hi hc hcfg (.inr rfl) fun _ _ => .inr (.inr rfl)
  | handler hpc ht hc =>
    rcases hpc with hpc | hpc <;> rw [hpc] at hs ⊢
    · cases hs with
      | rmAbortFail => exact .done rfl (.inl hc) fun _ _ => .inr (.inl rfl)
      | rmAbortOk =>
        rw [ht]
        exact .done rfl (.inl hc) fun _ _ => .inl rfl
    · cases hs with
      | fcAbortUnlink htd =>
        rw [unlinkInAbort_eq hP]
        exact .handler (.inl rfl) (htd ht) hc
      | fcAbortSkip => exact .done rfl (.inl hc) fun _ _ => .inr (.inr rfl)
  | done hpc hc hrel =>
    rw [hpc] at hs ⊢
    cases hs with
    | idle => cases fl <;> exact .done hpc hc hrel

theorem Phase.weaken (h : Phase P ds fl a) : Phase P ds false a := by
  cases fl
  · exact h
  · cases h with
    | aborting h1 h2 h3 => exact .aborting h1 h2 h3
    | handler h1 h2 h3 => exact .handler h1 h2 h3
    | done h1 h2 h3 => exact .done h1 (h2.imp_right fun h => nomatch h.1) h3

theorem Phase.committed (h : Phase P ds fl a) :
    a.committed = none ∨ a.committed = some ds.flatten := by
  cases h with
  | done _ hc => exact hc.imp_right (·.2)
  | start _ _ _ _ hc | writing _ _ _ _ _ _ _ _ hc | closing _ _ _ _ hc | aborting _ _ hc
  | handler _ _ hc => exact .inl hc

theorem Phase.committed_none (h : Phase P ds true a) : a.committed = none := by
  cases h with
  | aborting _ _ hc | handler _ _ hc => exact hc
  | done _ hc => exact hc.resolve_right fun h => nomatch h.1

theorem Phase.released (h : Phase P ds fl a) (hl : LInv a)
    (hd : a.pc = .done) (hrm : a.rmFailed = false) (hfc : a.fcFailed = false)
    (hg : a.hC = [.abort] ∨ P.abortsOnAnyCloseFailure = true) : a.owns = false := by
  rcases hl with hn | hr
  · exact hn.owns
  · cases h with
    | start h1 | writing _ _ _ h1 => rw [h1] at hd; cases hd
    | closing h1 => rcases h1 with h1 | ⟨_, _, _, h1, _⟩ <;> rw [h1] at hd <;> cases hd
    | aborting h1 | handler h1 => rcases h1 with h1 | h1 <;> rw [h1] at hd <;> cases hd
    | done _ _ hrel =>
      rcases hrel hg hr.opened with h5 | h5 | h5
      · rw [hr.1.owns_eq, h5]; rfl
      · rw [hrm] at h5; cases h5
      · rw [hfc] at h5; cases h5

/-! ## with-callers in reachable states -/

theorem reach_actor {s0 s : State} (i : Nat) {Q : Actor → Prop} (h : Reach P s0 s)
    (h0 : Q (s0.actors i))
    (hstep : ∀ s f, Reach P s0 s → Q (s.actors i) →
      Q (actorStep P (s.actors i) s.fs.lock.isSome s.fs.dir s.fs.isEmpty f).1) :
    Q (s.actors i) := by
  induction h with
  | init => exact h0
  | step s j f hr ih =>
    by_cases hji : i = j
    · subst hji; rw [step_actor_self]; exact hstep s f hr ih
    · rw [step_actor_other _ _ _ hji]; exact ih

theorem reach_fcFailed (hx : P.abortCloseInTry = true) {s0 s : State}
    (h0 : Initial s0) (h : Reach P s0 s) (i : Nat) : (s.actors i).fcFailed = false :=
  reach_actor i (Q := fun a => a.fcFailed = false) h (h0.fresh i).fcFailed
    fun s f _ ih => (step_step P s i f).fcFailed hx ih

theorem reach_cfg {s0 s : State} (h : Reach P s0 s) (i : Nat) :
    (s.actors i).hW = (s0.actors i).hW ∧ (s.actors i).hC = (s0.actors i).hC :=
  reach_actor i (Q := fun a => a.hW = (s0.actors i).hW ∧ a.hC = (s0.actors i).hC) h ⟨rfl, rfl⟩
    fun s f _ ih => ⟨(step_step P s i f).cfg.1.trans ih.1, (step_step P s i f).cfg.2.trans ih.2⟩

theorem WithCfg.reach {s0 s : State} {i : Nat} (hc : WithCfg (s0.actors i)) (h : Reach P s0 s) :
    WithCfg (s.actors i) := by
  unfold WithCfg; rw [(reach_cfg h i).1, (reach_cfg h i).2]; exact hc

theorem reach_phase (hP : WB P) {s0 s : State} (i : Nat) (hcfg : WithCfg (s0.actors i))
    (hph : Phase P ds fl (s0.actors i)) (h : Reach P s0 s) : Phase P ds fl (s.actors i) :=
  reach_actor i h hph fun s f hr ih => by
    have hph := (step_step P s i f).phase hP (hcfg.reach hr) ih
    cases fl
    · exact hph.weaken
    · exact hph

/-- by evaluation of the generated `Gen.Lock.exitAbortsOnException` (`hW`) and `Gen.Lock.delAborts` (`hC`) -/
theorem withCaller_cfg (mk fs pm : Bool) (ds : List Bytes) (fin : Bool) :
    WithCfg (withCaller mk fs pm ds fin) := by
  cases fin
  · exact ⟨rfl, .inl rfl⟩
  · exact ⟨rfl, .inr rfl⟩

theorem withCaller_phase (P : Program) (mk fs pm : Bool) (ds : List Bytes) (fin : Bool) :
    Phase P ds false (withCaller mk fs pm ds fin) :=
  .start rfl rfl rfl rfl rfl rfl rfl

theorem reach_with (hP : WB P) {s0 s : State} (i : Nat) {mk fs pm fin : Bool}
    {ds : List Bytes} (hi : s0.actors i = withCaller mk fs pm ds fin) (h : Reach P s0 s) :
    Phase P ds false (s.actors i) :=
  reach_phase hP i (hi ▸ withCaller_cfg mk fs pm ds fin) (hi ▸ withCaller_phase P mk fs pm ds fin) h

/-- A `with GitFile(...)` caller that is done holds no lock, if its handle was finalised or the program
aborts on every failure inside close() — unless an unlink was made to fail, or closing the file object
inside abort() raised before the unlink.  General in the program `P`, not in the caller (`withCaller_cfg`). -/
theorem withCaller_done_releases (hP : WB P) {s0 s : State} (h0 : Initial s0) (i : Nat)
    {mk fs pm fin : Bool} {ds : List Bytes} (hi : s0.actors i = withCaller mk fs pm ds fin)
    (h : Reach P s0 s) (hg : fin = true ∨ P.abortsOnAnyCloseFailure = true)
    (hd : (s.actors i).pc = .done) (hrm : (s.actors i).rmFailed = false)
    (hfc : (s.actors i).fcFailed = false) :
    (s.actors i).owns = false ∧ s.fs.lock ≠ some i := by
  have hinv := reach_Inv hP h0 h
  have hown := (reach_with hP i hi h).released (hinv.actors i) hd hrm hfc <| hg.imp_left fun hf => by
    rw [(reach_cfg h i).2, hi, hf]; simp [withCaller, Actor.init, Gen.Lock.delAborts]
  exact ⟨hown, hinv.lock_ne hown⟩

theorem reach_with_failed (hP : WB P) {s0 s t : State} (i : Nat)
    {mk fs pm fin : Bool} {ds : List Bytes}
    (hi : s0.actors i = withCaller mk fs pm ds fin) (h : Reach P s0 s) (f : Bool)
    (hf : Out.isFailure (s.actors i).pc (stepOut P s i f) = true)
    (ht : Reach P (step P s i f) t) : Phase P ds true (t.actors i) := by
  have hcfg : WithCfg (s0.actors i) := hi ▸ withCaller_cfg mk fs pm ds fin
  have hph := (step_step P s i f).phase hP (hcfg.reach h) (reach_with hP i hi h)
  unfold stepOut at hf
  rw [hf, ← step_actor_self] at hph
  exact reach_phase hP i (hcfg.reach (.step s i f h)) hph ht

end Dulwich.Lock
