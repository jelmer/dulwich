/-
  C15 — Rust extensions and pure-Python fallbacks are observationally equivalent.

  Models: Model/RsPy*.lean (one `…Py` and one `…Rs` definition per function, each transcribed from its
  own source) and Model/Delta.lean (C03).  Constants come from Gen/RsPy.lean and Gen/Delta.lean,
  regenerated from /repo on every run.

  `obs` forgets the exception class: "the same return value, or failure in both".  Only `parse_tree_equiv`,
  `sorted_tree_items_equiv` and `bisect_equiv` are stated with it (there the two sides raise different classes); the
  other equivalences are equalities, exception class included.

  The models without suffix describe the code after the C15 repair series (findings/C15.jsonl, `fixed`);
  the theorems about them are FULL equivalences.  The `…Old` models describe the code before the series;
  the divergences it had are kept as `decide`d regression witnesses (`…_old_…`), next to the same inputs
  on the repaired models.

  From Lemmas/RsPy.lean in the statements:  modesU32 es — every mode is in 0 … 2^32-1;  rsModeTok, rsTokG, pyTokG —
  the mode parse of one token as each side does it (tied to the models by `rsModeOf_tok` and by `step_sim`, whose proof
  unfolds them against the two step functions)

  `import Mathlib.Algebra.Group.Int.Defs` supplies `Int.instMonoid`: `tree_order_equiv`, `bisect_equiv_exact` and
  `bisect_old_divergence_witnesses` read `2 ^ k` over ℤ through it (`Monoid.toNPow ℤ`; Lemmas/RsPy.lean says `Int.instNatPow`,
  the two unfold to the same `Int.pow`).  No proof uses anything else of Mathlib.
-/
import DulwichModel.Lemmas.RsPy
import DulwichModel.Props.C03
import Mathlib.Algebra.Group.Int.Defs

namespace Dulwich.Props.C15
open Dulwich Dulwich.RsPy Dulwich.Delta

/-! ## 1. apply_delta / create_delta (C03's models) -/

/-- **apply_delta: Rust ≡ Python** on every base a 64-bit machine can hold and every byte string offered
as a delta that declares a result below 2^64 (C03's `rs_equiv_py`). -/
theorem apply_delta_equiv (src delta : Bytes) (hs : src.length < 2 ^ 64)
    (hd : ∀ n, declaredDest delta = some n → n < 2 ^ 64) :
    applyDeltaRs src delta = applyDelta src delta :=
  Props.C03.rs_equiv_py src delta hs hd

/-- The two emitters (`_create_delta_py`, Rust `create_delta_internal`) produce the same bytes for the
same opcode list with non-empty literal blocks (the lists differ: difflib vs `similar`). -/
theorem create_delta_emitters_equiv (base : Bytes) (ops : List Op)
    (hins : ∀ d, Op.insert d ∈ ops → d ≠ []) : rsCreateDelta base ops = createDelta base ops := by
  simp only [rsCreateDelta, createDelta, rsEmitOps_eq ops hins]

/-- **create_delta: the bytes may differ, both decode to the target with either decoder.**  For every
base of at most 4 GiB and EVERY opcode list (difflib's or `similar`'s) whose copy blocks lie in the base and
whose literal blocks are non-empty, with a target below 2^64 bytes, either emitter's delta is decoded by
either decoder to exactly the bytes the opcode list denotes. -/
theorem create_delta_decodes_with_both (base : Bytes) (ops : List Op)
    (hv : Props.C03.OpsValid base ops) (h32 : base.length ≤ 2 ^ 32)
    (hins : ∀ d, Op.insert d ∈ ops → 0 < d.length) (ht : (opsTarget base ops).length < 2 ^ 64) :
    applyDelta base (createDelta base ops) = .ok (opsTarget base ops) ∧
    applyDeltaRs base (createDelta base ops) = .ok (opsTarget base ops) ∧
    applyDelta base (rsCreateDelta base ops) = .ok (opsTarget base ops) ∧
    applyDeltaRs base (rsCreateDelta base ops) = .ok (opsTarget base ops) := by
  have hne : ∀ d, Op.insert d ∈ ops → d ≠ [] := by
    intro d hd h; have := hins d hd; rw [h] at this; simp at this
  have hpy := Props.C03.apply_create base ops hv h32 hins
  have hrs := apply_delta_equiv base (createDelta base ops) (by omega) fun n hn => by
    rw [(Props.C03.apply_sized_built _ _ _ hpy).1] at hn
    cases hn
    exact ht
  rw [create_delta_emitters_equiv base ops hne]
  exact ⟨hpy, hrs ▸ hpy, hpy, hrs ▸ hpy⟩

/-- Non-vacuity: an opcode list with a copy and a literal. -/
example : applyDeltaRs [1, 2, 3, 4] (rsCreateDelta [1, 2, 3, 4] [.copy 1 2, .insert [9]]) = .ok [2, 3, 9] ∧
    applyDelta [1, 2, 3, 4] (createDelta [1, 2, 3, 4] [.copy 1 2, .insert [9]]) = .ok [2, 3, 9] := by
  have h := create_delta_decodes_with_both [1, 2, 3, 4] [.copy 1 2, .insert [9]]
    (by simp [Props.C03.OpsValid]) (by simp) (by simp) (by simp [opsTarget])
  simp only [opsTarget] at h
  exact ⟨h.2.2.2, h.1⟩

/-! ## 2. mode tokens: Python `[0-7]+`, `int(tok, 8)`, `≤ 0xFFFFFFFF` vs Rust no leading `+`, `u32::from_str_radix(tok, 8)` -/

/-- **The two mode parsers agree on EVERY token**, strict or not: the same value, or rejection in both. -/
theorem mode_token_equiv (strict : Bool) (tok : Bytes) :
    rsTokG rsModeTok strict tok = pyTokG pyModeTok strict tok := tokG_agree strict tok

/-- After the pattern check Python's `int(tok, 8)` cannot raise (the source does not guard it). -/
theorem mode_token_int_total (tok : Bytes) (h : pyModeRegex tok = true) : (pyInt 8 tok).isSome = true := by
  rw [pyInt_of_regex h]; rfl

/-- Non-vacuity: accepted and rejected tokens (both sides computed). -/
example :
    pyModeTok (asciiBytes "100644") = some 33188 ∧ rsModeTok (asciiBytes "100644") = some 33188 ∧
    pyModeTok (asciiBytes "37777777777") = some 4294967295 ∧ rsModeTok (asciiBytes "37777777777") = some 4294967295 ∧
    pyModeTok (asciiBytes "000000000000000644") = some 420 ∧ rsModeTok (asciiBytes "000000000000000644") = some 420 ∧
    pyModeTok (asciiBytes "+644") = none ∧ rsModeTok (asciiBytes "+644") = none ∧
    pyModeTok (asciiBytes "-644") = none ∧ rsModeTok (asciiBytes "-644") = none ∧
    pyModeTok (asciiBytes "0o644") = none ∧ pyModeTok (asciiBytes "6_44") = none ∧ pyModeTok [9, 54, 52, 52] = none ∧
    pyModeTok [54, 52, 52, 10] = none ∧ pyModeTok (asciiBytes "40000000000") = none ∧ rsModeTok (asciiBytes "40000000000") = none ∧
    pyModeTok (asciiBytes "648") = none ∧ pyModeTok [] = none ∧ rsModeTok [] = none := by
  decide +kernel

/-- **Regression witnesses (F15, fixed)**: what the parsers did before the repair — Python's `int(b, 8)`
accepted these tokens, Rust rejected them; Rust accepted a leading `+`. -/
theorem mode_token_old_divergence_witnesses :
    pyInt 8 (asciiBytes "-644") = some (-420) ∧ rsFromStrRadix 8 32 (asciiBytes "-644") = none ∧
    pyInt 8 [9, 54, 52, 52] = some 420 ∧ rsFromStrRadix 8 32 [9, 54, 52, 52] = none ∧          -- "\t644"
    pyInt 8 [54, 52, 52, 10] = some 420 ∧ rsFromStrRadix 8 32 [54, 52, 52, 10] = none ∧        -- "644\n"
    pyInt 8 (asciiBytes "0o644") = some 420 ∧ rsFromStrRadix 8 32 (asciiBytes "0o644") = none ∧
    pyInt 8 (asciiBytes "0O_644") = some 420 ∧ rsFromStrRadix 8 32 (asciiBytes "0O_644") = none ∧
    pyInt 8 (asciiBytes "6_44") = some 420 ∧ rsFromStrRadix 8 32 (asciiBytes "6_44") = none ∧
    pyInt 8 (asciiBytes "-0") = some 0 ∧ rsFromStrRadix 8 32 (asciiBytes "-0") = none ∧
    pyInt 8 (asciiBytes "40000000000") = some 4294967296 ∧ rsFromStrRadix 8 32 (asciiBytes "40000000000") = none ∧
    pyInt 8 (asciiBytes "777777777777") = some 68719476735 ∧ rsFromStrRadix 8 32 (asciiBytes "777777777777") = none ∧
    pyInt 8 (asciiBytes "+644") = some 420 ∧ rsFromStrRadix 8 32 (asciiBytes "+644") = some 420 := by
  decide +kernel

/-! ## 3. parse_tree -/

/-- **parse_tree: Rust ≡ Python on EVERY payload** — the same entries, or failure in both — for both id
lengths, strict on or off: any mode tokens, missing terminators, truncated ids, junk. -/
theorem parse_tree_equiv (text : Bytes) (n : Nat) (hn : n = 20 ∨ n = 32) (strict : Bool) :
    obs (parseTreeRs text (some n) strict) = obs (parseTreePy text (some n) strict) := by
  have := (parse_loops text n hn strict (text.length + 1) 0 (Nat.zero_le _)).1
  rwa [List.drop_zero] at this

/-- The loop bounds in the models are never reached: both parsers are total functions of the payload. -/
theorem parse_tree_fuel (text : Bytes) (n : Nat) (hn : n = 20 ∨ n = 32) (strict : Bool) :
    parseTreeRs text (some n) strict ≠ .error .fuel ∧ parseTreePy text (some n) strict ≠ .error .fuel := by
  have := (parse_loops text n hn strict (text.length + 1) 0 (Nat.zero_le _)).2 (by omega)
  rwa [List.drop_zero] at this

/-- one entry `tok ++ " a\0" ++ <20 id bytes>` -/
def entry20 (tok : Bytes) : Bytes :=
  tok ++ [32, 97, 0] ++ [1, 2, 3, 4, 5, 6, 7, 8, 9, 10, 11, 12, 13, 14, 15, 16, 17, 18, 19, 20]

/-- Non-vacuity: a two-entry payload parses identically (and non-trivially); truncating it fails in both;
the formerly divergent tokens are now rejected by both. -/
example :
    (parseTreeRs (entry20 (asciiBytes "100644") ++ entry20 (asciiBytes "40000")) (some 20) false).toOption.map List.length = some 2 ∧
    parseTreeRs (entry20 (asciiBytes "100644") ++ entry20 (asciiBytes "40000")) (some 20) true
      = parseTreePy (entry20 (asciiBytes "100644") ++ entry20 (asciiBytes "40000")) (some 20) true ∧
    obs (parseTreeRs ((entry20 (asciiBytes "100644")).take 25) (some 20) false) = none ∧
    obs (parseTreePy ((entry20 (asciiBytes "100644")).take 25) (some 20) false) = none ∧
    obs (parseTreePy (entry20 (asciiBytes "-644")) (some 20) false) = none ∧
    obs (parseTreePy (entry20 (asciiBytes "0o644")) (some 20) false) = none ∧
    obs (parseTreeRs (entry20 (asciiBytes "+644")) (some 20) false) = none := by
  decide +kernel

/-- **Regression witnesses (F15, fixed)** on the pre-repair models: Python returned entries (negative and
> 32-bit modes among them) where Rust raised. -/
theorem parse_tree_old_divergence_witnesses :
    (obs (parseTreePyOld (entry20 (asciiBytes "-644")) (some 20) false)).isSome ∧ obs (parseTreeRsOld (entry20 (asciiBytes "-644")) (some 20) false) = none ∧
    (obs (parseTreePyOld (entry20 [9, 54, 52, 52]) (some 20) true)).isSome ∧ obs (parseTreeRsOld (entry20 [9, 54, 52, 52]) (some 20) true) = none ∧
    (obs (parseTreePyOld (entry20 (asciiBytes "0o644")) (some 20) false)).isSome ∧ obs (parseTreeRsOld (entry20 (asciiBytes "0o644")) (some 20) false) = none ∧
    (obs (parseTreePyOld (entry20 (asciiBytes "6_44")) (some 20) true)).isSome ∧ obs (parseTreeRsOld (entry20 (asciiBytes "6_44")) (some 20) true) = none ∧
    (obs (parseTreePyOld (entry20 (asciiBytes "777777777777")) (some 20) false)).isSome ∧ obs (parseTreeRsOld (entry20 (asciiBytes "777777777777")) (some 20) false) = none ∧
    -- `+644` was accepted by both (git rejects it); now by neither
    (obs (parseTreeRsOld (entry20 (asciiBytes "+644")) (some 20) false)).isSome := by
  decide +kernel

/-! ## 4. sorted_tree_items -/

/-- **Tree order.**  For ALL byte-string names (NUL and `/` included) and all 32-bit modes, the Rust
comparator `cmp_with_suffix` is the lexicographic order of the Python keys (`name`, or `name + "/"`
for directories). -/
theorem tree_order_equiv (a b : TreeEntry)
    (hma : 0 ≤ a.mode ∧ a.mode < 2 ^ 32) (hmb : 0 ≤ b.mode ∧ b.mode < 2 ^ 32) :
    ∃ ka kb, pyKeyEntry a = .ok ka ∧ pyKeyEntry b = .ok kb ∧
      rsCmpWithSuffix (a.mode.toNat, a.name) (b.mode.toNat, b.name) = cmpBytes ka kb := by
  exact ⟨_, _, pyKeyEntry_ok hma, pyKeyEntry_ok hmb, cmp_suffix_eq ..⟩

/-- Non-vacuity: directory `a` against file `a.` and file `a0` (`.` < `/` < `0`), and against the names
the old comparator got wrong: file `a/b` (`a/` < `a/b`), file `a\0`. -/
example :
    rsCmpWithSuffix (16384, [97]) (33188, [97, 46]) = .gt ∧ rsCmpWithSuffix (16384, [97]) (33188, [97, 48]) = .lt ∧
    rsCmpWithSuffix (33188, [97]) (33188, [97, 46]) = .lt ∧
    rsCmpWithSuffix (16384, [97]) (33188, [97, 47, 98]) = .lt ∧ rsCmpWithSuffixOld (16384, [97]) (33188, [97, 47, 98]) = .eq ∧
    rsCmpWithSuffix (33188, [97]) (33188, [97, 0]) = .lt ∧ rsCmpWithSuffixOld (33188, [97]) (33188, [97, 0]) = .eq := by
  decide +kernel

/-- **sorted_tree_items: Rust ≡ Python on EVERY entry dictionary** (any size, any insertion order, any
names, any integer modes), in both orders: the same list, or failure in both. -/
theorem sorted_tree_items_equiv (es : List TreeEntry) (nameOrder : Bool) :
    obs (sortedTreeItemsRs es nameOrder) = obs (sortedTreeItemsPy es nameOrder) := by
  rw [sortedRs_eq, sortedPy_eq]; split <;> rfl

/-- … with identical results, exception class included, in name order (a mode outside 0 … 2^32-1 is a
`TypeError` in both) and whenever all modes are 32-bit. -/
theorem sorted_tree_items_equiv_exact (es : List TreeEntry) (nameOrder : Bool)
    (h : nameOrder = true ∨ modesU32 es) :
    sortedTreeItemsRs es nameOrder = sortedTreeItemsPy es nameOrder := by
  rw [sortedRs_eq, sortedPy_eq]
  rcases h with rfl | h
  · rfl
  · rw [if_pos h, if_pos h]

def H40 : Bytes := List.replicate 40 97

/-- Non-vacuity: the prefix family `a`, `a.`, `a-`, `a0` with `a` once as directory and once as file;
`{a/b: file, a: dir}` and `{a\0, a}` now come back in key order from Rust too. -/
example :
    sortedTreeItemsRs [⟨[97, 48], 33188, H40⟩, ⟨[97], 16384, H40⟩, ⟨[97, 46], 33188, H40⟩, ⟨[97, 45], 33188, H40⟩] false
      = .ok [⟨[97, 45], 33188, H40⟩, ⟨[97, 46], 33188, H40⟩, ⟨[97], 16384, H40⟩, ⟨[97, 48], 33188, H40⟩] ∧
    sortedTreeItemsPy [⟨[97, 48], 33188, H40⟩, ⟨[97], 33188, H40⟩, ⟨[97, 46], 33188, H40⟩, ⟨[97, 45], 33188, H40⟩] false
      = .ok [⟨[97], 33188, H40⟩, ⟨[97, 45], 33188, H40⟩, ⟨[97, 46], 33188, H40⟩, ⟨[97, 48], 33188, H40⟩] ∧
    sortedTreeItemsRs [⟨[97, 47, 98], 33188, H40⟩, ⟨[97], 16384, H40⟩] false = .ok [⟨[97], 16384, H40⟩, ⟨[97, 47, 98], 33188, H40⟩] ∧
    sortedTreeItemsRs [⟨[97, 0], 33188, H40⟩, ⟨[97], 33188, H40⟩] false = .ok [⟨[97], 33188, H40⟩, ⟨[97, 0], 33188, H40⟩] ∧
    sortedTreeItemsPy [⟨[97], 4294967296, H40⟩] true = .error .type ∧ sortedTreeItemsRs [⟨[97], 4294967296, H40⟩] true = .error .type := by
  decide +kernel

/-- **Regression witnesses (fixed)** on the pre-repair models: (1) `{a/b: file, a: dir}` — Python put the
directory first, the old Rust comparator said Equal and the stable sort kept dictionary order;
(2) `{a\0: file, a: file}` — the `0` "no suffix" sentinel collided with a real NUL; (3) name order with
mode 2^32 — Python returned, Rust raised `TypeError`. -/
theorem sorted_tree_items_old_counterexamples :
    sortedTreeItemsPyOld [⟨[97, 47, 98], 33188, H40⟩, ⟨[97], 16384, H40⟩] false = .ok [⟨[97], 16384, H40⟩, ⟨[97, 47, 98], 33188, H40⟩] ∧
    sortedTreeItemsRsOld [⟨[97, 47, 98], 33188, H40⟩, ⟨[97], 16384, H40⟩] false = .ok [⟨[97, 47, 98], 33188, H40⟩, ⟨[97], 16384, H40⟩] ∧
    sortedTreeItemsPyOld [⟨[97, 0], 33188, H40⟩, ⟨[97], 33188, H40⟩] false = .ok [⟨[97], 33188, H40⟩, ⟨[97, 0], 33188, H40⟩] ∧
    sortedTreeItemsRsOld [⟨[97, 0], 33188, H40⟩, ⟨[97], 33188, H40⟩] false = .ok [⟨[97, 0], 33188, H40⟩, ⟨[97], 33188, H40⟩] ∧
    sortedTreeItemsPyOld [⟨[97], 4294967296, H40⟩] true = .ok [⟨[97], 4294967296, H40⟩] ∧
    sortedTreeItemsRsOld [⟨[97], 4294967296, H40⟩] true = .error .type := by
  decide +kernel

/-! ## 5. bisect_find_sha -/

/-- **bisect_find_sha inside the index-sized range** `0 ≤ start ≤ end < 2^63`: identical results, the
callback's exception included (`bisect_eq_of_nonneg_le`: also without the bound on `end`). -/
theorem bisect_equiv_exact (unpack : Int → Except Exc Bytes) (sha : Bytes) (s e : Int)
    (hsha : sha.length = 20 ∨ sha.length = 32)
    (hun : ∀ i r, unpack i = .ok r → r.length = 20 ∨ r.length = 32)
    (h0 : 0 ≤ s) (hse : s ≤ e) (he : e < 2 ^ 63) :
    bisectRs unpack sha s e = bisectPy unpack sha s e :=
  bisect_eq_of_nonneg_le unpack sha s e hsha hun h0 hse

/-- **bisect_find_sha: Rust ≡ Python for ALL integer bounds**, every probe of an id length and EVERY
callback returning ids (or failing) — sorted table or not: the same index, the same `None`, or failure
in both (negative start, start > end, bounds that are not index-sized: an argument check fails on each
side).  No Rust arithmetic can overflow (the model's panic branches are unreachable: they would show as a
difference here). -/
theorem bisect_equiv (unpack : Int → Except Exc Bytes) (sha : Bytes) (s e : Int)
    (hsha : sha.length = 20 ∨ sha.length = 32)
    (hun : ∀ i r, unpack i = .ok r → r.length = 20 ∨ r.length = 32) :
    obs (bisectRs unpack sha s e) = obs (bisectPy unpack sha s e) := by
  by_cases h : 0 ≤ s ∧ s ≤ e
  · rw [bisect_eq_of_nonneg_le unpack sha s e hsha hun h.1 h.2]
  · rw [bisectRs_fails unpack sha h, bisectPy_fails unpack sha h]

/-- The Python loop needs at most `end - start + 1` iterations for ANY integers: the model's loop bound
is never reached (unless the callback itself says so). -/
theorem bisect_py_fuel (unpack : Int → Except Exc Bytes) (sha : Bytes) (s e : Int)
    (hun : ∀ i, unpack i ≠ .error .fuel) : bisectPy unpack sha s e ≠ .error .fuel := by
  unfold bisectPy
  split
  · nofun
  · split
    · nofun
    · split
      · nofun
      · exact bisectLoopPy_fuel unpack sha hun _ s e (by unfold bisectFuel; omega) (by unfold bisectFuel; omega)

def id20 (b : UInt8) : Bytes := List.replicate 20 b

/-- Non-vacuity: a three-entry table, hit and miss; the formerly divergent calls on the repaired models
(negative start: `ValueError` in both; bounds of 2^30, 2^31, 2^62: the index from both; 2^63: failure
in both). -/
example : bisectRs (unpackStrict [id20 1, id20 5, id20 9]) (id20 9) 0 2 = .ok (some 2) ∧
    bisectPy (unpackStrict [id20 1, id20 5, id20 9]) (id20 9) 0 2 = .ok (some 2) ∧
    bisectPy (unpackStrict [id20 1, id20 5, id20 9]) (id20 4) 0 2 = .ok none ∧
    bisectPy (unpackStrict [id20 7]) (id20 7) (-1) 0 = .error .value ∧
    bisectRs (unpackStrict [id20 7]) (id20 7) (-1) 0 = .error .value ∧
    bisectRs (unpackSynth (2 ^ 40) 20) (beBytes 20 (2 ^ 40 + 2 ^ 30)) (2 ^ 30) (2 ^ 30) = .ok (some (2 ^ 30)) ∧
    bisectRs (unpackSynth (2 ^ 40) 20) (beBytes 20 (2 ^ 40 + 5)) 0 (2 ^ 31) = .ok (some 5) ∧
    bisectRs (unpackSynth (2 ^ 40) 20) (beBytes 20 (2 ^ 40 + 2 ^ 62)) 0 (2 ^ 63 - 1) = .ok (some (2 ^ 62)) ∧
    bisectPy (unpackSynth (2 ^ 40) 20) (beBytes 20 (2 ^ 40 + 2 ^ 62)) 0 (2 ^ 63 - 1) = .ok (some (2 ^ 62)) ∧
    bisectRs (unpackSynth (2 ^ 40) 20) (beBytes 20 (2 ^ 63)) (2 ^ 63 - 1) (2 ^ 63 - 1) = .ok none ∧
    bisectPy (unpackSynth (2 ^ 40) 20) (beBytes 20 (2 ^ 63)) (2 ^ 63 - 1) (2 ^ 63 - 1) = .ok none ∧
    bisectPy (unpackSynth (2 ^ 40) 20) (beBytes 20 5) 0 (2 ^ 63) = .error .overflow ∧
    bisectRs (unpackSynth (2 ^ 40) 20) (beBytes 20 5) 0 (2 ^ 63) = .error .overflow := by
  -- the Rust side of the 62-step search is the Python side; the synthetic table in accumulator form
  rw [bisect_equiv_exact _ (beBytes 20 (2 ^ 40 + 2 ^ 62)) 0 (2 ^ 63 - 1) (.inl (beBytes_length ..))
    (fun _ _ h => .inl (unpackSynth_length h)) (by decide) (by decide) (by decide), unpackSynth_eq]
  decide +kernel

/-- **Regression witnesses (fixed)** on the pre-repair models: (1) `start=-1, end=0`: Python probed
⌊-1/2⌋ = −1 (IndexError from a strict table; the LAST entry with Python list indexing, so a present id was
reported absent), Rust probed trunc(−1/2) = 0 and found it; (2) `start=end=2^30`: Python found it, the Rust
`i32` sum overflowed (panic in debug builds); (3) `end=2^31`: `OverflowError` at the call boundary. -/
theorem bisect_old_divergence_witnesses :
    bisectPyOld (unpackStrict [id20 7]) (id20 7) (-1) 0 = .error .index ∧
    bisectRsOld (unpackStrict [id20 7]) (id20 7) (-1) 0 = .ok (some 0) ∧
    bisectPyOld (unpackWrap [id20 1, id20 5]) (id20 1) (-1) 0 = .ok none ∧
    bisectRsOld (unpackWrap [id20 1, id20 5]) (id20 1) (-1) 0 = .ok (some 0) ∧
    bisectPyOld (unpackSynth (2 ^ 40) 20) (beBytes 20 (2 ^ 40 + 2 ^ 30)) (2 ^ 30) (2 ^ 30) = .ok (some (2 ^ 30)) ∧
    bisectRsOld (unpackSynth (2 ^ 40) 20) (beBytes 20 (2 ^ 40 + 2 ^ 30)) (2 ^ 30) (2 ^ 30) = .error .panic ∧
    bisectRsOld (unpackSynth (2 ^ 40) 20) (beBytes 20 (2 ^ 40 + 5)) 0 (2 ^ 31) = .error .overflow := by
  decide +kernel

/-! ## 6. _merge_entries, _is_tree -/

/-- **_merge_entries: Rust ≡ Python for EVERY path and EVERY pair of trees** (or `None`): any names (leading
`/`, NUL, prefixes, twins), any path (trailing `/` included), any integer modes — identical results,
the `TypeError` for a mode outside 0 … 2^32-1 included. -/
theorem merge_entries_equiv (path : Bytes) (t1 t2 : Option (List TreeEntry)) :
    mergeEntriesRs path t1 t2 = mergeEntriesPy path t1 t2 := by
  simp only [mergeEntriesRs, mergeEntriesPy, treeEntries_eq, mergeLoop_eq]

/-- Non-vacuity: two overlapping trees under a path; a name `/a` and a path `p/` join the same way now. -/
example : mergeEntriesRs [112] (some [⟨[98], 33188, H40⟩, ⟨[97], 16384, H40⟩]) (some [⟨[98], 33188, H40⟩, ⟨[99], 33188, H40⟩])
    = .ok [(some ⟨[112, 47, 97], 16384, H40⟩, none), (some ⟨[112, 47, 98], 33188, H40⟩, some ⟨[112, 47, 98], 33188, H40⟩),
           (none, some ⟨[112, 47, 99], 33188, H40⟩)] ∧
    mergeEntriesPy [112] (some [⟨[47, 97], 33188, H40⟩]) none = .ok [(some ⟨[112, 47, 47, 97], 33188, H40⟩, none)] ∧
    mergeEntriesPy [112, 47] (some [⟨[97], 33188, H40⟩]) none = .ok [(some ⟨[112, 47, 47, 97], 33188, H40⟩, none)] ∧
    mergeEntriesPy [112] (some [⟨[97], 4294967296, H40⟩]) none = .error .type := by decide +kernel

/-- **Regression witnesses (fixed)** on the pre-repair Python model (the Rust side of `_merge_entries` did
not change): name `/a` under path `p` (Python `/a`, Rust `p//a`); path `p/` (Python `p/a`, Rust `p//a`);
mode 2^32 (Python returned, Rust `TypeError`). -/
theorem merge_entries_old_divergence_witnesses :
    mergeEntriesPyOld [112] (some [⟨[47, 97], 33188, H40⟩]) none = .ok [(some ⟨[47, 97], 33188, H40⟩, none)] ∧
    mergeEntriesRs [112] (some [⟨[47, 97], 33188, H40⟩]) none = .ok [(some ⟨[112, 47, 47, 97], 33188, H40⟩, none)] ∧
    mergeEntriesPyOld [112, 47] (some [⟨[97], 33188, H40⟩]) none = .ok [(some ⟨[112, 47, 97], 33188, H40⟩, none)] ∧
    mergeEntriesRs [112, 47] (some [⟨[97], 33188, H40⟩]) none = .ok [(some ⟨[112, 47, 47, 97], 33188, H40⟩, none)] ∧
    (obs (mergeEntriesPyOld [112] (some [⟨[97], 4294967296, H40⟩]) none)).isSome ∧
    mergeEntriesRs [112] (some [⟨[97], 4294967296, H40⟩]) none = .error .type := by
  decide +kernel

/-- **_is_tree: Rust ≡ Python** for `None`, a missing mode and EVERY integer mode (outside 0 … 2^32-1 both
raise `OverflowError`). -/
theorem is_tree_equiv (a : IsTreeArg) : isTreeRs a = isTreePy a := by
  have e1 : Gen.rsIsTreeModeBits = Gen.pyModeTBits := rfl
  have e2 : Gen.rsDiffSIfmt = Gen.pySIfmt := rfl
  have e3 : Gen.rsDiffSIfdir = Gen.pySIfdir := rfl
  cases a with
  | noEntry => rfl
  | noMode => rfl
  | mode m => simp only [isTreeRs, isTreePy, pyIsDir, e1, e2, e3]

example : isTreeRs (.mode 16877) = .ok true ∧ isTreePy (.mode 33188) = .ok false ∧
    isTreeRs (.mode (-1)) = .error .overflow ∧ isTreePy (.mode 4294967296) = .error .overflow := by decide +kernel

/-! ## 7. _count_blocks -/

/-- **_count_blocks: Rust ≡ Python** for every blob, every chunking of it and every block size: the two
loops cut the same sequence of blocks (so the dictionaries `hash(block) ↦ bytes` are equal, whatever
`hash` is). -/
theorem count_blocks_equiv (bs : Nat) (chunks : List Bytes) :
    countBlocksRs bs chunks = countBlocksPy bs chunks := chunksLoop_eq bs chunks []

/-- Non-vacuity: a line, a cut at the block size (4 here) inside a long line and an unterminated tail, split over
chunks; the block size the code uses. -/
example : countBlocksRs 4 [[97, 10, 98], [98, 98, 98, 98], [], [99]] = [[97, 10], [98, 98, 98, 98], [98, 99]] ∧
    countBlocksPy 4 [[97, 10, 98], [98, 98, 98, 98], [], [99]] = [[97, 10], [98, 98, 98, 98], [98, 99]] ∧
    Gen.blockSize = 64 := by decide +kernel

end Dulwich.Props.C15
