/- Lemmas for the pack model (C02); the property theorems are in Props/C02.lean.  What the writer emits is parsed back, up
to the whole record loop (`writeRecs`), sequentially and by offset; `resolve_layout` is the invariant of that loop under
which OFS chains resolve on the written pack.  Trailer tracking is an instance of Lemmas/Chunks.lean. -/
import DulwichModel.Model.Pack
import DulwichModel.Lemmas.Chunks
import DulwichModel.Lemmas.BigEndian
-- defines `List.Forall₂`, in which `resolve_layout` and the statement of `Props.C02.pack_random_access` are written
import Batteries.Data.List.Basic

namespace Dulwich.Pack
open Dulwich

/-! ### slices and fixed-width big-endian fields -/

theorem beBytes_length (k n : Nat) : (beBytes k n).length = k :=
  BigEndian.length_enc (fun _ => rfl) (fun _ _ => rfl) k n

/-- Peeling a whole segment off the front: with offsets written as right-nested sums of segment lengths,
a position inside a concatenation is reached by rewriting with this lemma once per segment. -/
theorem slice_skip (a b : Bytes) (n o k : Nat) (h : a.length = n) :
    slice (a ++ b) (n + o) k = slice b o k := by
  subst h
  rw [slice, List.drop_length_add_append, slice]

theorem slice_within (a b : Bytes) (o k : Nat) (h : o + k ≤ a.length) :
    slice (a ++ b) o k = slice a o k := by
  rw [slice, slice, List.drop_append_of_le_length (by omega),
    List.take_append_of_le_length (by rw [List.length_drop]; omega)]

theorem slice_beBytes (w n : Nat) (b : Bytes) : slice (beBytes w n ++ b) 0 w = beBytes w n := by
  have : slice (beBytes w n ++ b) 0 (beBytes w n).length = beBytes w n := List.take_left
  rwa [beBytes_length] at this

theorem beVal_snoc (xs : Bytes) (b : UInt8) : beVal (xs ++ [b]) = beVal xs * 256 + b.toNat :=
  BigEndian.val_snoc xs b

theorem beVal_beBytes (k : Nat) : ∀ n, n < 256 ^ k → beVal (beBytes k n) = n :=
  BigEndian.val_enc (fun _ => rfl) (fun _ _ => rfl) k

theorem beAt_of_slice {w n off : Nat} {c : Bytes} (h : slice c off w = beBytes w n) (hn : n < 256 ^ w) :
    beAt w c off = some n := by
  rw [beAt, h, beBytes_length, if_pos rfl, beVal_beBytes w n hn]

theorem beAt_beBytes (w n : Nat) (a b : Bytes) (off : Nat) (ha : a.length = off) (hn : n < 256 ^ w) :
    beAt w (a ++ (beBytes w n ++ b)) off = some n := by
  refine beAt_of_slice ?_ hn
  rw [← Nat.add_zero off, slice_skip a _ off 0 w ha, slice_beBytes]

theorem slice_flatMap_sub {α : Type} (f : α → Bytes) (w o k : Nat) (hok : o + k ≤ w) :
    ∀ (l : List α) (i : Nat) (hi : i < l.length),
    (∀ x ∈ l, (f x).length = w) → slice (l.flatMap f) (i * w + o) k = slice (f l[i]) o k
  | x :: xs, 0, _, hw => by
    rw [List.flatMap_cons, Nat.zero_mul, Nat.zero_add]
    exact slice_within _ _ _ _ (by rw [hw x List.mem_cons_self]; exact hok)
  | x :: xs, i + 1, hi, hw => by
    rw [List.flatMap_cons, Nat.succ_mul, Nat.add_comm (i * w), Nat.add_assoc,
      slice_skip _ _ w _ _ (hw x List.mem_cons_self)]
    exact slice_flatMap_sub f w o k hok xs i (Nat.lt_of_succ_lt_succ hi) fun y hy => hw y (List.mem_cons_of_mem _ hy)

theorem slice_flatMap {α : Type} (f : α → Bytes) (w : Nat) (l : List α) (i : Nat) (hi : i < l.length)
    (hw : ∀ x ∈ l, (f x).length = w) : slice (l.flatMap f) (i * w) w = f l[i] := by
  rw [← Nat.add_zero (i * w), slice_flatMap_sub f w 0 w (Nat.le_of_eq (Nat.zero_add w)) l i hi hw]
  exact hw l[i] (List.getElem_mem hi) ▸ List.take_length

theorem length_flatMap_fixed {α : Type} (f : α → Bytes) (w : Nat) : ∀ (l : List α),
    (∀ x ∈ l, (f x).length = w) → (l.flatMap f).length = w * l.length
  | [], _ => rfl
  | x :: xs, hw => by
    rw [List.flatMap_cons, List.length_append, List.length_cons, hw x List.mem_cons_self,
      length_flatMap_fixed f w xs fun y hy => hw y (List.mem_cons_of_mem _ hy), Nat.mul_succ, Nat.add_comm]

/-! ### the codec loops with the generated masks and shifts evaluated -/

theorem encVarTail_eq (c n : Nat) : encVarTail c n =
    if n = 0 then [UInt8.ofNat c] else UInt8.ofNat (c + 128) :: encVarTail (n % 128) (n / 128) := by
  rw [encVarTail]; rfl

theorem encodeOfsAux_eq (m : Nat) (acc : Bytes) : encodeOfsAux m acc =
    if m = 0 then acc else encodeOfsAux ((m - 1) / 128) (UInt8.ofNat (128 + (m - 1) % 128) :: acc) := by
  rw [encodeOfsAux]; rfl

theorem takeMsb_lt {b : UInt8} (r : Bytes) (h : b.toNat < 128) : takeMsb (b :: r) = some ([b], r) := if_pos h

theorem takeMsb_ge {b : UInt8} {r raw rest : Bytes} (h : 128 ≤ b.toNat) (hr : takeMsb r = some (raw, rest)) :
    takeMsb (b :: r) = some (b :: raw, rest) := by
  rw [takeMsb, if_neg (show ¬ b.toNat < Gen.Pack.msbBit from Nat.not_lt.mpr h), hr]

/-- What `take_msb_bytes` hands on is never empty and ends in a byte without the top bit, so the `AssertionError` of
`_decode_delta_base_offset` cannot be raised after it. -/
theorem lastHasMsb_of_takeMsb : ∀ {buf raw rest : Bytes}, takeMsb buf = some (raw, rest) →
    raw ≠ [] ∧ lastHasMsb raw = false
  | b :: r, raw, rest, h => by
    rw [takeMsb] at h
    split at h
    · cases h
      exact ⟨List.cons_ne_nil _ _, decide_eq_false (Nat.not_le.mpr ‹_›)⟩
    · cases hr : takeMsb r with
      | none => rw [hr] at h; cases h
      | some p =>
        rw [hr] at h
        cases h
        obtain ⟨hne, hl⟩ := lastHasMsb_of_takeMsb hr
        refine ⟨List.cons_ne_nil _ _, ?_⟩
        cases hp : p.1 with
        | nil => exact absurd hp hne
        | cons a t => rw [hp] at hl; exact hl

/-! ### type/size header -/

theorem takeMsb_encVarTail (n : Nat) : ∀ (c : Nat) (rest : Bytes), c < 128 →
    takeMsb (encVarTail c n ++ rest) = some (encVarTail c n, rest) := by
  induction n using Nat.strongRecOn with
  | _ n ih =>
    intro c rest hc
    rw [encVarTail_eq]
    split
    · exact takeMsb_lt _ (by rw [u8_toNat_ofNat (by omega)]; exact hc)
    · exact takeMsb_ge (by rw [u8_toNat_ofNat (by omega)]; omega) (ih (n / 128) (by omega) _ rest (by omega))

theorem sizeTail_encVarTail (n : Nat) : ∀ (c s : Nat), c < 128 →
    sizeTail s (encVarTail c n) = (c + 128 * n) * 2 ^ s := by
  induction n using Nat.strongRecOn with
  | _ n ih =>
    intro c s hc
    rw [encVarTail_eq]
    split
    · rename_i hn
      subst hn
      show (UInt8.ofNat c).toNat % 128 * 2 ^ s + 0 = _
      rw [u8_toNat_ofNat (by omega), Nat.mod_eq_of_lt hc]
      rfl
    · show (UInt8.ofNat (c + 128)).toNat % 128 * 2 ^ s + sizeTail (s + 7) _ = _
      rw [u8_toNat_ofNat (by omega), ih (n / 128) (by omega) _ _ (by omega), Nat.add_mod_right, Nat.mod_eq_of_lt hc,
        Nat.mod_add_div, Nat.pow_add, Nat.add_mul, show (2 : Nat) ^ 7 = 128 from rfl, Nat.mul_comm (2 ^ s),
        Nat.mul_left_comm, ← Nat.mul_assoc]

theorem encVarTail_ne_nil (c n : Nat) : encVarTail c n ≠ [] := by
  rw [encVarTail_eq]; split <;> exact List.cons_ne_nil _ _

theorem encodeObjHeader_ne_nil (ty size : Nat) : encodeObjHeader ty size ≠ [] := encVarTail_ne_nil _ _

theorem takeMsb_encodeObjHeader (ty size : Nat) (rest : Bytes) (hty : ty < 8) :
    takeMsb (encodeObjHeader ty size ++ rest) = some (encodeObjHeader ty size, rest) :=
  takeMsb_encVarTail _ _ _ (show ty * 2 ^ 4 + size % (15 + 1) < 128 by omega)

theorem decodeObjHeaderRaw_encodeObjHeader (ty size : Nat) (hty : ty < 8) :
    decodeObjHeaderRaw (encodeObjHeader ty size) = some (ty, size) := by
  -- first byte: `ty` in bits 4-6, the low 4 bits of `size`, the continuation bit iff more follows;
  -- the tail decodes to `size / 16` at shift 4
  have key : ∀ (j : Nat) (r : Bytes), j < 2 → sizeTail 4 r = size / 16 * 2 ^ 4 →
      decodeObjHeaderRaw (UInt8.ofNat (ty * 16 + size % 16 + 128 * j) :: r) = some (ty, size) := by
    intro j r hj hr
    show some ((UInt8.ofNat _).toNat / 2 ^ 4 % (7 + 1), (UInt8.ofNat _).toNat % (15 + 1) + sizeTail 4 r) = _
    rw [hr, u8_toNat_ofNat (by omega)]
    congr 2 <;> omega
  show decodeObjHeaderRaw (encVarTail (ty * 16 + size % 16) (size / 16)) = _
  rw [encVarTail_eq]
  split
  · rename_i h0
    exact key 0 [] (by decide) (by rw [h0]; rfl)
  · exact key 1 _ (by decide) (by
      rw [sizeTail_encVarTail _ _ _ (by omega), Nat.mul_comm 128, Nat.mod_add_div'])

/-! ### OFS distance code -/

theorem takeMsb_encodeOfsAux (m : Nat) : ∀ (acc rest : Bytes),
    takeMsb (acc ++ rest) = some (acc, rest) →
    takeMsb (encodeOfsAux m acc ++ rest) = some (encodeOfsAux m acc, rest) := by
  induction m using Nat.strongRecOn with
  | _ m ih =>
    intro acc rest h
    rw [encodeOfsAux_eq]
    split
    · exact h
    · exact ih ((m - 1) / 128) (by omega) _ rest (takeMsb_ge (by rw [u8_toNat_ofNat (by omega)]; omega) h)

theorem takeMsb_encodeOfs (n : Nat) (rest : Bytes) :
    takeMsb (encodeOfs n ++ rest) = some (encodeOfs n, rest) :=
  takeMsb_encodeOfsAux _ _ _ (takeMsb_lt _ (by
    rw [u8_toNat_ofNat (Nat.lt_trans (Nat.mod_lt _ (by decide)) (by decide))]; exact Nat.mod_lt _ (by decide)))

theorem lastHasMsb_encodeOfs (n : Nat) : lastHasMsb (encodeOfs n) = false :=
  (lastHasMsb_of_takeMsb (List.append_nil _ ▸ takeMsb_encodeOfs n [])).2

/-- The groups the encoder puts in front of `b` amount to `m`, each `- 1` of the encoder undoing the decoder's `+ 1`:
decoding `encodeOfsAux m (b :: acc)` is decoding `acc` from the accumulator `m * 128 + b % 128`, a value `v` named by an
equation so that it stands once.  The second hypothesis is the decoder's assertion on the whole code (`lastHasMsb_encodeOfs`). -/
theorem decodeOfsRaw_encodeOfsAux (m : Nat) : ∀ (b : UInt8) (acc : Bytes) (v : Nat),
    decodeOfsAux (m * 128 + b.toNat % 128) acc = v → lastHasMsb (encodeOfsAux m (b :: acc)) = false →
    decodeOfsRaw (encodeOfsAux m (b :: acc)) = if v = 0 then .error .delta else .ok v := by
  induction m using Nat.strongRecOn with
  | _ m ih =>
    intro b acc v hv
    rw [encodeOfsAux_eq]
    split
    · rename_i h0
      intro hl
      rw [h0, Nat.zero_mul, Nat.zero_add] at hv
      rw [decodeOfsRaw, hl, ← hv]
      rfl
    · rename_i h0
      refine ih ((m - 1) / 128) (by omega) _ _ v (.trans ?_ hv)
      show decodeOfsAux ((_ + 1) * 2 ^ 7 + b.toNat % (127 + 1)) acc = _
      rw [u8_toNat_ofNat (by omega), Nat.add_mod_left, Nat.mod_mod, Nat.div_add_mod' (m - 1) 128,
        Nat.sub_add_cancel (Nat.pos_of_ne_zero h0)]

theorem decodeOfsRaw_encodeOfs (n : Nat) : decodeOfsRaw (encodeOfs n) = if n = 0 then .error .delta else .ok n :=
  decodeOfsRaw_encodeOfsAux _ _ [] n (by
    show n / 128 * 128 + (UInt8.ofNat (n % 128)).toNat % 128 = n
    rw [u8_toNat_ofNat (by omega)]; omega) (lastHasMsb_encodeOfs n)

/-! ### one entry: what the writer emits parses back to what it meant -/

theorem entryBytes_ne_nil (deflate : Bytes → Bytes) (off : Nat) (ents : List WEntry) (r : Rec) :
    entryBytes deflate off ents r ≠ [] := by
  unfold entryBytes
  have := fun t s => encodeObjHeader_ne_nil t s
  split
  · intro h; exact this _ _ (List.append_eq_nil_iff.mp h).1
  · split
    · intro h; exact this _ _ (List.append_eq_nil_iff.mp (List.append_eq_nil_iff.mp h).1).1
    · intro h; exact this _ _ (List.append_eq_nil_iff.mp (List.append_eq_nil_iff.mp h).1).1

theorem lookupOff_lt {ents : List WEntry} {b : Bytes} {off o : Nat} (hinv : ∀ e ∈ ents, e.offset < off)
    (h : lookupOff ents b = some o) : o < off := by
  unfold lookupOff at h
  split at h
  · rename_i e he
    cases h
    exact hinv e (List.mem_of_find?_eq_some he)
  · cases h

theorem offsets_lt_step (deflate : Bytes → Bytes) {off : Nat} {ents : List WEntry} (r : Rec)
    (hinv : ∀ e ∈ ents, e.offset < off) :
    ∀ e ∈ (⟨r.name, off, entryBytes deflate off ents r⟩ :: ents : List WEntry),
      e.offset < off + (entryBytes deflate off ents r).length := by
  intro e he
  rcases List.mem_cons.mp he with rfl | h
  · exact Nat.lt_add_of_pos_right (List.length_pos_iff.mpr (entryBytes_ne_nil deflate off ents r))
  · exact Nat.lt_add_right _ (hinv e h)

theorem parseEntry_of_base {deflate : Bytes → Bytes} {inflate : Bytes → Option (Bytes × Bytes)}
    (hz : ZlibOk deflate inflate) {hs ty : Nat} (hty : ty < 8) {r1 data rest : Bytes} {base : BaseRef}
    (hrest : rest ≠ []) (hb : parseBase hs ty r1 = .ok (base, deflate data ++ rest)) :
    parseEntry inflate hs (encodeObjHeader ty data.length ++ r1) = .ok (⟨ty, base, data⟩, rest) := by
  have hne : rest.isEmpty = false := by cases rest with | nil => exact absurd rfl hrest | cons _ _ => rfl
  rw [parseEntry, takeMsb_encodeObjHeader _ _ _ hty]
  simp only [decodeObjHeaderRaw_encodeObjHeader _ _ hty, hb, hz data rest, hne, Bool.false_eq_true, if_false, ne_eq,
    not_true_eq_false]

theorem parseEntry_entryBytes (deflate : Bytes → Bytes) (inflate : Bytes → Option (Bytes × Bytes))
    (hz : ZlibOk deflate inflate) (hs off : Nat) (ents : List WEntry) (r : Rec) (rest : Bytes)
    (hwf : wfRec hs r = true) (hinv : ∀ e ∈ ents, e.offset < off) (hrest : rest ≠ []) :
    parseEntry inflate hs (entryBytes deflate off ents r ++ rest) = .ok (entryOf off ents r, rest) := by
  unfold entryBytes entryOf wfRec at *
  cases hb : r.base with
  | none =>
    rw [hb] at hwf
    have hw := of_decide_eq_true hwf
    rw [List.append_assoc]
    exact parseEntry_of_base hz hw.2.2 hrest (by rw [parseBase, if_neg hw.1, if_neg hw.2.1])
  | some b =>
    rw [hb] at hwf
    have hbl : b.length = hs := of_decide_eq_true hwf
    simp only
    cases hl : lookupOff ents b with
    | some baseOff =>
      have hlt := lookupOff_lt hinv hl
      simp only
      rw [List.append_assoc, List.append_assoc]
      exact parseEntry_of_base hz (by decide) hrest (by
        rw [parseBase, if_pos rfl, takeMsb_encodeOfs]
        simp only [decodeOfsRaw_encodeOfs, if_neg (show off - baseOff ≠ 0 by omega)])
    | none =>
      simp only
      rw [List.append_assoc, List.append_assoc]
      exact parseEntry_of_base hz (by decide) hrest (by
        rw [parseBase, if_neg (by decide), if_pos rfl, if_neg (by rw [List.length_append]; omega), ← hbl,
          List.take_left, List.drop_left])

/-! ### pack header -/

theorem packHeader_length (n : Nat) : (packHeader n).length = 12 := by
  simp [packHeader, Gen.Pack.packMagic, beBytes_length]

theorem readPackHeader_packHeader (n : Nat) (hn : n < 2 ^ 32) (rest : Bytes) :
    readPackHeader (packHeader n ++ rest) = .ok n := by
  have htake : (packHeader n ++ rest).take Gen.Pack.packHeaderSize = packHeader n :=
    List.take_left' (packHeader_length n)
  have h1 : (packHeader n).isEmpty = false := by simp [packHeader, Gen.Pack.packMagic]
  have h2 : (packHeader n).take Gen.Pack.packMagic.length = Gen.Pack.packMagic := by
    rw [packHeader, List.append_assoc]; exact List.take_left' rfl
  have h3 : beAt 4 (packHeader n) Gen.Pack.packVersionAt = some Gen.Pack.packVersion := by
    rw [packHeader, List.append_assoc]
    exact beAt_beBytes 4 _ _ _ _ rfl (by decide)
  have h4 : beAt 4 (packHeader n) Gen.Pack.packCountAt = some n := by
    have := beAt_beBytes 4 n (Gen.Pack.packMagic ++ beBytes 4 Gen.Pack.packVersion) [] Gen.Pack.packCountAt
      (by rw [List.length_append, beBytes_length]; rfl) (by omega)
    rwa [List.append_nil] at this
  rw [readPackHeader]
  simp only [htake, h1, Bool.false_eq_true, if_false, h2, ne_eq, not_true_eq_false, h3, h4, Gen.Pack.packVersion,
    Gen.Pack.packVersionLo, Gen.Pack.packVersionHi]
  simp

/-! ### the whole record loop -/

theorem writeRecs_fst_cons (deflate : Bytes → Bytes) (off : Nat) (ents : List WEntry) (r : Rec) (rs : List Rec) :
    (writeRecs deflate off ents (r :: rs)).1 = entryBytes deflate off ents r
      ++ (writeRecs deflate (off + (entryBytes deflate off ents r).length)
            (⟨r.name, off, entryBytes deflate off ents r⟩ :: ents) rs).1 := rfl

theorem writeRecs_snd_cons (deflate : Bytes → Bytes) (off : Nat) (ents : List WEntry) (r : Rec) (rs : List Rec) :
    (writeRecs deflate off ents (r :: rs)).2
      = (writeRecs deflate (off + (entryBytes deflate off ents r).length)
            (⟨r.name, off, entryBytes deflate off ents r⟩ :: ents) rs).2 := rfl

theorem writeRecs_snd_length (deflate : Bytes → Bytes) : ∀ (recs : List Rec) (off : Nat) (ents : List WEntry),
    (writeRecs deflate off ents recs).2.length = ents.length + recs.length := by
  intro recs
  induction recs with
  | nil => intro off ents; simp [writeRecs]
  | cons r rs ih => intro off ents; rw [writeRecs_snd_cons, ih]; simp; omega

theorem writePack_fst (deflate H : Bytes → Bytes) (recs : List Rec) : (writePack deflate H recs).1 =
    packHeader recs.length ++ ((writeRecs deflate 12 [] recs).1 ++
      H (packHeader recs.length ++ (writeRecs deflate 12 [] recs).1)) := by
  simp only [writePack, writePackBody, packHeader_length, List.append_assoc]

theorem writePack_snd (deflate H : Bytes → Bytes) (recs : List Rec) :
    (writePack deflate H recs).2 = (writeRecs deflate 12 [] recs).2 := by
  simp only [writePack, writePackBody, packHeader_length]

theorem parseEntries_writeRecs (deflate : Bytes → Bytes) (inflate : Bytes → Option (Bytes × Bytes))
    (hz : ZlibOk deflate inflate) (hs : Nat) (trailer : Bytes) (htr : trailer ≠ []) :
    ∀ (recs : List Rec) (off total : Nat) (ents : List WEntry),
      (∀ r ∈ recs, wfRec hs r = true) → (∀ e ∈ ents, e.offset < off) →
      total = off + ((writeRecs deflate off ents recs).1 ++ trailer).length →
      parseEntries inflate hs total recs.length ((writeRecs deflate off ents recs).1 ++ trailer)
        = .ok (layoutRecs deflate off ents recs, trailer) := by
  intro recs
  induction recs with
  | nil => intro off total ents _ _ _; simp [parseEntries, writeRecs, layoutRecs]
  | cons r rs ih =>
    intro off total ents hwf hinv htot
    rw [writeRecs_fst_cons] at htot ⊢
    simp only [List.length_cons, parseEntries, layoutRecs]
    rw [List.append_assoc]
    rw [parseEntry_entryBytes deflate inflate hz hs off ents r _ (hwf r List.mem_cons_self) hinv
      (List.append_ne_nil_of_right_ne_nil _ htr)]
    simp only
    rw [ih (off + (entryBytes deflate off ents r).length) total _
      (fun x hx => hwf x (List.mem_cons_of_mem _ hx)) (offsets_lt_step deflate r hinv)
      (by simp only [List.length_append] at htot ⊢; omega)]
    have hoff : total - (entryBytes deflate off ents r ++ ((writeRecs deflate
        (off + (entryBytes deflate off ents r).length)
        (⟨r.name, off, entryBytes deflate off ents r⟩ :: ents) rs).1 ++ trailer)).length = off := by
      simp only [List.length_append] at htot ⊢; omega
    rw [hoff]

theorem parseAt_layout (deflate : Bytes → Bytes) (inflate : Bytes → Option (Bytes × Bytes))
    (hz : ZlibOk deflate inflate) (hs : Nat) (trailer : Bytes) (htr : trailer ≠ []) :
    ∀ (recs : List Rec) (off : Nat) (ents : List WEntry) (pre : Bytes),
      pre.length = off → (∀ r ∈ recs, wfRec hs r = true) → (∀ e ∈ ents, e.offset < off) →
      ∀ p ∈ layoutRecs deflate off ents recs,
        parseAt inflate hs (pre ++ ((writeRecs deflate off ents recs).1 ++ trailer)) p.1 = .ok p.2 := by
  intro recs
  induction recs with
  | nil => intro off ents pre _ _ _ p hp; simp [layoutRecs] at hp
  | cons r rs ih =>
    intro off ents pre hpre hwf hinv p hp
    subst hpre
    simp only [layoutRecs, List.mem_cons] at hp
    rw [writeRecs_fst_cons, List.append_assoc]
    rcases hp with h | h
    · subst h
      unfold parseAt
      simp only
      rw [List.drop_left,
        parseEntry_entryBytes deflate inflate hz hs pre.length ents r _ (hwf r List.mem_cons_self) hinv
          (List.append_ne_nil_of_right_ne_nil _ htr)]
    · have := ih (pre.length + (entryBytes deflate pre.length ents r).length) _
        (pre ++ entryBytes deflate pre.length ents r)
        (by simp) (fun x hx => hwf x (List.mem_cons_of_mem _ hx)) (offsets_lt_step deflate r hinv) p h
      rw [List.append_assoc] at this
      exact this

/-- What the CRC of an entry is taken over: every entry this call records lies in the pack at its recorded offset
(`e ∈ ents`: it was recorded before the call). -/
theorem writeRecs_ranges (deflate : Bytes → Bytes) :
    ∀ (recs : List Rec) (off : Nat) (ents : List WEntry) (pre suf : Bytes),
    pre.length = off →
    ∀ e ∈ (writeRecs deflate off ents recs).2,
      e ∈ ents ∨ slice (pre ++ ((writeRecs deflate off ents recs).1 ++ suf)) e.offset e.raw.length = e.raw := by
  intro recs
  induction recs with
  | nil => intro off ents pre suf _ e he; exact Or.inl he
  | cons r rs ih =>
    intro off ents pre suf hpre e he
    subst hpre
    rw [writeRecs_snd_cons] at he
    rw [writeRecs_fst_cons, List.append_assoc]
    have := ih (pre.length + (entryBytes deflate pre.length ents r).length)
      (⟨r.name, pre.length, entryBytes deflate pre.length ents r⟩ :: ents)
      (pre ++ entryBytes deflate pre.length ents r) suf (by simp) e he
    rcases this with h | h
    · rcases List.mem_cons.mp h with h' | h'
      · right
        subst h'
        simp only [slice]
        rw [List.drop_left]
        simp
      · exact Or.inl h'
    · right
      rw [List.append_assoc] at h
      exact h

/-! ### random access: resolving OFS chains on the written pack -/

/-- The recorded entry `e` is the object `a`: same name, and `res` (`resolveAt` on the pack with some fuel) gives `a`'s type
and content at `e`'s offset. -/
def Resolves (res : Nat → Except Err (Nat × Bytes)) (e : WEntry) (a : Bytes × Nat × Bytes) : Prop :=
  e.name = a.1 ∧ res e.offset = .ok (a.2.1, a.2.2)

theorem forall₂_find {res : Nat → Except Err (Nat × Bytes)} (b : Bytes) :
    ∀ {ents : List WEntry} {acc : List (Bytes × Nat × Bytes)} {a : Bytes × Nat × Bytes},
      List.Forall₂ (Resolves res) ents acc → acc.find? (fun a => a.1 = b) = some a →
      ∃ e, ents.find? (fun e => e.name = b) = some e ∧ res e.offset = .ok (a.2.1, a.2.2)
  | _, _, _, .nil, hf => nomatch hf
  | e :: _, a0 :: _, a, .cons ⟨hn, hr⟩ hrest, hf => by
    rw [List.find?_cons] at hf ⊢
    rw [hn]
    by_cases hb : a0.1 = b
    · rw [decide_eq_true hb] at hf ⊢
      cases hf
      exact ⟨e, rfl, hr⟩
    · rw [decide_eq_false hb] at hf ⊢
      exact forall₂_find b hrest hf

/-- The record loop keeps "every recorded entry resolves to its object with any fuel `≥ n`", `n` counting the records
written: a new OFS entry resolves through its base, an earlier entry (`forall₂_find`), with one unit of fuel more. -/
theorem resolve_layout (deflate : Bytes → Bytes) (inflate : Bytes → Option (Bytes × Bytes)) (hs : Nat)
    (lookup : Bytes → Except Err Nat) (pack : Bytes) :
    ∀ (recs : List Rec) (off n : Nat) (ents : List WEntry) (acc final : List (Bytes × Nat × Bytes)),
      (∀ p ∈ layoutRecs deflate off ents recs, parseAt inflate hs pack p.1 = .ok p.2) →
      (∀ f, n ≤ f → List.Forall₂ (Resolves (resolveAt inflate hs lookup pack f)) ents acc) →
      Gen.Pack.packHeaderSize ≤ off → (∀ e ∈ ents, e.offset < off) →
      resolveRecs acc recs = .ok final →
      ∀ f, n + recs.length ≤ f →
        List.Forall₂ (Resolves (resolveAt inflate hs lookup pack f)) (writeRecs deflate off ents recs).2 final := by
  intro recs
  induction recs with
  | nil =>
    intro off n ents acc final _ hal _ _ hres
    simp only [resolveRecs] at hres
    cases hres
    exact hal
  | cons r rs ih =>
    intro off n ents acc final hparse hal h12 hinv hres
    have hhead : parseAt inflate hs pack off = .ok (entryOf off ents r) :=
      hparse (off, entryOf off ents r) (by simp [layoutRecs])
    have htail : ∀ p ∈ layoutRecs deflate (off + (entryBytes deflate off ents r).length)
        (⟨r.name, off, entryBytes deflate off ents r⟩ :: ents) rs, parseAt inflate hs pack p.1 = .ok p.2 :=
      fun p hp => hparse p (by simp only [layoutRecs, List.mem_cons]; exact Or.inr hp)
    have h12n := Nat.not_lt.mpr h12
    rw [writeRecs_snd_cons, List.length_cons, ← Nat.add_assoc, Nat.add_right_comm]
    -- once the new entry resolves (with any fuel above `n`), the rest of the loop follows
    have key : ∀ (ty : Nat) (data : Bytes),
        (∀ f, n ≤ f → resolveAt inflate hs lookup pack (f + 1) off = .ok (ty, data)) →
        resolveRecs ((r.name, ty, data) :: acc) rs = .ok final → _ := fun ty data hf hres =>
      ih _ (n + 1) _ ((r.name, ty, data) :: acc) final htail
        (fun | f + 1, hf' => .cons ⟨rfl, hf f (Nat.le_of_succ_le_succ hf')⟩ (hal _ (Nat.le_of_succ_le hf')))
        (Nat.le_add_right_of_le h12) (offsets_lt_step deflate r hinv) hres
    simp only [resolveRecs] at hres
    cases hb : r.base with
    | none =>
      rw [hb] at hres
      simp only at hres
      refine key _ _ (fun f _ => ?_) hres
      simp only [resolveAt, h12n, if_false, hhead, entryOf, hb]
    | some bname =>
      rw [hb] at hres
      simp only at hres
      cases hfind : acc.find? (fun a => a.1 = bname) with
      | none => rw [hfind] at hres; cases hres
      | some a =>
        rw [hfind] at hres
        simp only at hres
        cases hap : Delta.applyDelta a.2.2 r.data with
        | error x => rw [hap] at hres; cases hres
        | ok out =>
          rw [hap] at hres
          simp only at hres
          refine key _ _ (fun f hf => ?_) hres
          obtain ⟨e, hfe, hor⟩ := forall₂_find bname (hal f hf) hfind
          have hlo : lookupOff ents bname = some e.offset := by rw [lookupOff, hfe]
          have holt := lookupOff_lt hinv hlo
          have hd : ¬ (off - e.offset > off) := by omega
          have hoo : off - (off - e.offset) = e.offset := by omega
          simp only [resolveAt, h12n, if_false, hhead, entryOf, hb, hlo, hd, hoo, hor, hap]

/-! ### walking a zlib stream in slices -/

theorem zlibWalkAt_spec (B L : Nat) (buf : Bytes) (hB : 0 < B) (hL : L < buf.length) :
    ∀ (fuel pos : Nat) (fed : Bytes), pos ≤ L → L + 1 - pos ≤ fuel → fed = buf.take pos →
      zlibWalkAt 1 B L buf fuel pos fed = some (buf.take L, L)
  | 0, _, _, _, _, _ => by omega
  | fuel + 1, pos, fed, hpos, hfuel, hfed => by
    subst hfed
    obtain ⟨n, hk, hn0, hnB, hfull⟩ :
        ∃ n, (slice buf pos B).length = n ∧ 0 < n ∧ n ≤ B ∧ (pos + n ≤ L → n = B) := by
      refine ⟨_, rfl, ?_⟩
      rw [slice, List.length_take, List.length_drop]
      omega
    have hne : (slice buf pos B).isEmpty = false := by
      rw [← Bool.not_eq_true, List.isEmpty_iff, ← List.length_eq_zero_iff, hk]; omega
    rw [zlibWalkAt]
    simp only [hne, hk, Bool.false_eq_true, if_false, if_true]
    split
    · rename_i hdone
      have hd := of_decide_eq_true hdone
      rw [pyDropLast, if_neg (by omega), hk, slice, List.take_take, ← List.take_add, Nat.min_eq_left (by omega),
        show pos + (n - (pos + n - L)) = L by omega, show pos + n - (pos + n - L) = L by omega]
    · rename_i hdone
      have hd := of_decide_eq_false (Bool.not_eq_true _ ▸ hdone)
      obtain rfl := hfull (by omega)
      exact zlibWalkAt_spec n L buf hB hL fuel (pos + n) _ (by omega) (by omega) (List.take_add ..).symm

theorem zlibWalkStream_spec (L : Nat) : ∀ (chunks : List Bytes) (cum : Nat) (fed : Bytes),
    (∀ c ∈ chunks, c ≠ []) → fed.length = cum → cum ≤ L → L < (fed ++ chunks.flatten).length →
    ∃ u tail, zlibWalkStream L chunks cum fed = some ((fed ++ chunks.flatten).take L, u) ∧
      fed ++ chunks.flatten = (fed ++ chunks.flatten).take L ++ u ++ tail ∧ u ≠ []
  | [], cum, fed, _, hf, hc, hl => by rw [List.flatten_nil, List.append_nil] at hl; omega
  | add :: rest, cum, fed, hne, hf, hc, hl => by
    have hae : add.isEmpty = false := by
      rw [← Bool.not_eq_true, List.isEmpty_iff]; exact hne add List.mem_cons_self
    rw [List.flatten_cons, ← List.append_assoc] at hl ⊢
    rw [zlibWalkStream, hae]
    simp only [Bool.false_eq_true, if_false]
    by_cases hdone : 0 < cum + add.length - L
    · have htake : (fed ++ add ++ rest.flatten).take L = fed ++ add.take (L - cum) := by
        rw [List.take_append_of_le_length (by rw [List.length_append]; omega), List.take_append, hf,
          List.take_of_length_le (by omega)]
      rw [if_pos hdone, pyDropLast, pyTakeLast, if_neg (by omega), if_neg (by omega), htake,
        show add.length - (cum + add.length - L) = L - cum by omega]
      refine ⟨_, rest.flatten, rfl, ?_, ?_⟩
      · rw [List.append_assoc fed, List.append_assoc fed, List.take_append_drop, List.append_assoc]
      · intro h
        have := congrArg List.length h
        rw [List.length_drop, List.length_nil] at this
        omega
    · rw [if_neg hdone]
      exact zlibWalkStream_spec L rest (cum + add.length) (fed ++ add) (fun c hc' => hne c (List.mem_cons_of_mem _ hc'))
        (by rw [List.length_append, hf]) (by omega) hl

/-! ### trailer tracking -/

/-- `feed` unfolds to the `let`s of `trailer_step`: `pyDropLast toAdd data` is its `upd`, `pyTakeLast toAdd data` its `keep`. -/
theorem feed_invariant (hs : Nat) (hhs : 0 < hs) (s : TrailerState) (P data : Bytes)
    (h1 : s.hashed ++ s.trailer = P) (h2 : s.trailer.length = min hs P.length) :
    (feed hs s data).hashed ++ (feed hs s data).trailer = P ++ data ∧
    (feed hs s data).trailer.length = min hs (P ++ data).length :=
  trailer_step hs hhs s.hashed s.trailer P data h1 h2

theorem foldl_feed_invariant (hs : Nat) (hhs : 0 < hs) (cs : List Bytes) (s : TrailerState) (P : Bytes)
    (h1 : s.hashed ++ s.trailer = P) (h2 : s.trailer.length = min hs P.length) :
    (cs.foldl (feed hs) s).hashed ++ (cs.foldl (feed hs) s).trailer = P ++ cs.flatten ∧
    (cs.foldl (feed hs) s).trailer.length = min hs (P ++ cs.flatten).length :=
  foldl_chunks_inv (feed hs) (fun s P => s.hashed ++ s.trailer = P ∧ s.trailer.length = min hs P.length)
    (fun s P c h => feed_invariant hs hhs s P c h.1 h.2) cs s P ⟨h1, h2⟩

end Dulwich.Pack
