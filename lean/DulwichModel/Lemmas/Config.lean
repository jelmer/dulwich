/-
  Lemmas about the configuration-file model (C20), in the order of the argument.  Values: `_escape_value` byte by byte,
  what `strip()` leaves alone (`Edges`), where `split(sep, 1)` cuts, what `_format_string` writes, `_parse_string` on
  it, and why a written value line is not taken for a continued one.  Headers: subsection escaping, the bytes of names,
  and the text both quote-aware scanners pass over (`Inert`).  Files, in three layers: a written text splits into the
  written lines; the reader's loop over these lines replays the configuration through `setdefault` and append; with
  distinct sections the replay gives the configuration back.  Last, the multi-valued dictionary.

  The model takes every syntax byte from Gen/Config.lean (`Gen.Config.hdrQuote`, …); the lemmas are stated with the
  bytes themselves (34, 92, …).  This is deliberate: when the translator regenerates a table with another value, the
  lemma that unfolds that constant (`escByte_rec`, `nameChar_table`, `writeHeader_eq`, the `inert_…` lemmas) stops
  compiling, and that is where the argument has to be looked at again.
-/
import DulwichModel.Model.Config
import DulwichModel.Lemmas.Strip

namespace Dulwich.Config
open Dulwich

/-! ### the `.replace` chains are per-byte maps -/

theorem replaceByte_flatMap (a : UInt8) (to : Bytes) (f : UInt8 → Bytes) (l : Bytes) :
    replaceByte a to (l.flatMap f) = l.flatMap (fun c => replaceByte a to (f c)) := by
  simp [replaceByte, List.flatMap_assoc]

theorem applyWrites_flatMap (tbl : List (UInt8 × Bytes)) : ∀ (f : UInt8 → Bytes) (l : Bytes),
    applyWrites tbl (l.flatMap f) = l.flatMap (fun c => applyWrites tbl (f c)) := by
  induction tbl with
  | nil => intro f l; simp [applyWrites]
  | cons p tbl ih =>
    intro f l
    have := ih (fun c => replaceByte p.1 p.2 (f c)) l
    simp only [applyWrites, List.foldl_cons] at this ⊢
    rw [replaceByte_flatMap, this]

theorem applyWrites_eq_flatMap (tbl : List (UInt8 × Bytes)) (v : Bytes) :
    applyWrites tbl v = v.flatMap fun c => applyWrites tbl [c] := by
  simpa using applyWrites_flatMap tbl (fun c => [c]) v

/-- what `_escape_value` does to one byte -/
def escByte (c : UInt8) : Bytes := applyWrites Gen.Config.escapeWrites [c]

theorem escapeValue_eq (v : Bytes) : escapeValue v = v.flatMap escByte :=
  applyWrites_eq_flatMap _ v

/-- Case split on a byte by what `_escape_value` writes for it (`induction c using escByte_rec`; there is no induction
hypothesis). -/
theorem escByte_rec {motive : UInt8 → Prop} (k92 : escByte 92 = [92, 92] → motive 92)
    (k10 : escByte 10 = [92, 110] → motive 10) (k9 : escByte 9 = [92, 116] → motive 9)
    (k34 : escByte 34 = [92, 34] → motive 34)
    (other : ∀ c, c ≠ 92 → c ≠ 10 → c ≠ 9 → c ≠ 34 → escByte c = [c] → motive c) (c : UInt8) : motive c := by
  by_cases e92 : c = 92
  · exact e92 ▸ k92 rfl
  by_cases e10 : c = 10
  · exact e10 ▸ k10 rfl
  by_cases e9 : c = 9
  · exact e9 ▸ k9 rfl
  by_cases e34 : c = 34
  · exact e34 ▸ k34 rfl
  exact other c e92 e10 e9 e34 (by simp [escByte, applyWrites, replaceByte, Gen.Config.escapeWrites, e92, e10, e9, e34])

theorem escByte_ne_nil : ∀ c : UInt8, escByte c ≠ [] := by
  intro c
  induction c using escByte_rec with
  | other c _ _ _ _ e => rw [e]; exact List.cons_ne_nil _ _
  | _ => decide

/-! ### `bytes.strip()` and the reader's `value.strip(b" \t\r\n")` -/

section strip
variable {p : UInt8 → Bool} {l x r : Bytes} {a b : UInt8}

/-- `bytes.strip()` leaves `x` alone (`strip_of_edges`; the converse is `edges_of_strip_eq`).  This is what
`_format_string` knows of a value it writes bare, and what makes padding around a text come off again (`stripBy_pad`). -/
def Edges (x : Bytes) : Prop :=
  x = [] ∨ ∃ a b, x.head? = some a ∧ isPyWs a = false ∧ x.getLast? = some b ∧ isPyWs b = false

/-- `strip` with the set of removed bytes as a parameter: `strip = stripBy isPyWs` and `pstrip = stripBy isParseWs` hold
by `rfl`, so one lemma (`stripBy_pad`) serves both strips of the model -/
def stripBy (p : UInt8 → Bool) (s : Bytes) : Bytes := ((s.dropWhile p).reverse.dropWhile p).reverse

theorem stripBy_pad (hp : ∀ c, p c = true → isPyWs c = true) (hl : ∀ c ∈ l, p c = true) (hr : ∀ c ∈ r, p c = true)
    (h : Edges x) : stripBy p (l ++ (x ++ r)) = x := by
  have np : ∀ {c}, isPyWs c = false → p c = false := fun h => Bool.eq_false_iff.mpr fun h' => by simp [hp _ h'] at h
  unfold stripBy
  rcases h with rfl | ⟨a, b, ha, hpa, hb, hpb⟩
  · rw [List.nil_append, List.dropWhile_append_of_pos hl, ← List.append_nil r, List.dropWhile_append_of_pos hr]
    rfl
  · rw [Strip.dropWhile_pad hl (by rw [List.head?_append, ha]; rfl) (np hpa), Strip.rdropWhile_pad hr hb (np hpb)]

end strip

theorem strip_of_edges {x : Bytes} (h : Edges x) : strip x = x := by
  have := stripBy_pad (l := []) (r := []) (fun _ h => h) (by simp) (by simp) h
  rwa [List.append_nil] at this

/-- what `bytes.strip()` makes of the value part of a line `\tkey = VALUE\n` (a space, the value, LF); `from_file`
itself applies the narrower strip of `_parse_string` to it, see `parseString_value_line` -/
theorem strip_line_of_edges {x : Bytes} (h : Edges x) : strip (32 :: (x ++ [10])) = x :=
  stripBy_pad (l := [32]) (r := [10]) (fun _ h => h) (by decide) (by decide) h

theorem strip_snoc_space {x : Bytes} (h : Edges x) : strip (x ++ [32]) = x :=
  stripBy_pad (l := []) (r := [32]) (fun _ h => h) (by simp) (by decide) h

theorem mem_dropWhile_of_not {p : UInt8 → Bool} {c : UInt8} (hp : p c = false) {l : Bytes} (h : c ∈ l) :
    c ∈ l.dropWhile p := by
  rw [← List.takeWhile_append_dropWhile (p := p) (l := l), List.mem_append] at h
  exact h.resolve_left fun h => by simp [List.all_eq_true.mp List.all_takeWhile c h] at hp

theorem strip_ne_nil {x : Bytes} {c : UInt8} (hc : c ∈ x) (hw : isPyWs c = false) : strip x ≠ [] :=
  List.ne_nil_of_mem (List.mem_reverse.mpr
    (mem_dropWhile_of_not hw (List.mem_reverse.mpr (mem_dropWhile_of_not hw hc))))

theorem parseWs_sub (c : UInt8) (h : isParseWs c = true) : isPyWs c = true :=
  (by decide : ∀ c ∈ Gen.Config.parseStripSet, isPyWs c = true) c (List.contains_iff_mem.mp h)

theorem edges_of_strip_eq {v : Bytes} (h : strip v = v) : Edges v := by
  cases v with
  | nil => exact .inl rfl
  | cons a t =>
    have hne := List.cons_ne_nil a t
    -- `(strip v).reverse` is what `dropWhile` leaves of `(lstrip v).reverse` …
    have e := congrArg List.reverse h
    rw [strip, rstrip, List.reverse_reverse] at e
    have hl := List.head?_dropWhile_not isPyWs (lstrip (a :: t)).reverse
    rw [e, List.head?_reverse, List.getLast?_eq_some_getLast hne] at hl
    -- … and `strip v` is a prefix of `lstrip v`
    obtain ⟨s, hs⟩ : strip (a :: t) <+: lstrip (a :: t) := by
      have := List.reverse_prefix.mpr (List.dropWhile_suffix (l := (lstrip (a :: t)).reverse) isPyWs)
      rwa [List.reverse_reverse] at this
    have hh := List.head?_dropWhile_not isPyWs (a :: t)
    rw [show (a :: t).dropWhile isPyWs = lstrip (a :: t) from rfl, ← hs, h] at hh
    exact .inr ⟨a, _, rfl, hh, List.getLast?_eq_some_getLast hne, hl⟩

/-! ### `bytes.split(sep, 1)` -/

theorem splitOnce_found (sep : UInt8) (pre post : Bytes) (h : ¬ sep ∈ pre) :
    splitOnce sep (pre ++ sep :: post) = (pre, some post) := by
  induction pre with
  | nil => simp [splitOnce]
  | cons c pre ih =>
    simp only [List.mem_cons, not_or] at h
    simp [splitOnce, Ne.symm h.1, ih h.2]

theorem splitOnce_absent (sep : UInt8) (s : Bytes) (h : ¬ sep ∈ s) : splitOnce sep s = (s, none) := by
  induction s with
  | nil => simp [splitOnce]
  | cons c s ih =>
    simp only [List.mem_cons, not_or] at h
    simp [splitOnce, Ne.symm h.1, ih h.2]

/-! ### what `_format_string` writes -/

theorem edges_escaped {v : Bytes} (h : Edges v) : Edges (v.flatMap escByte) := by
  have key : ∀ c, isPyWs c = false → ∃ a b, (escByte c).head? = some a ∧ isPyWs a = false ∧
      (escByte c).getLast? = some b ∧ isPyWs b = false := by
    intro c hc
    induction c using escByte_rec with
    | other c _ _ _ _ e => exact e ▸ ⟨c, c, rfl, hc, rfl, hc⟩
    | k92 e | k10 e | k9 e | k34 e => exact e ▸ ⟨_, _, rfl, by decide, rfl, by decide⟩
  rcases h with rfl | ⟨a, b, ha, hpa, hb, hpb⟩
  · exact .inl rfl
  · obtain ⟨t, rfl⟩ := List.head?_eq_some_iff.mp ha
    obtain ⟨ys, hys⟩ := List.getLast?_eq_some_iff.mp hb
    obtain ⟨a', _, ha', hpa', _, _⟩ := key a hpa
    obtain ⟨_, b', _, _, hb', hpb'⟩ := key b hpb
    refine .inr ⟨a', b', ?_, hpa', ?_, hpb'⟩
    · rw [List.flatMap_cons, List.head?_append, ha']; rfl
    · rw [hys, List.flatMap_append, List.flatMap_singleton, List.getLast?_append, hb']; rfl

theorem formatString_cases (v : Bytes) : formatString v = 34 :: (v.flatMap escByte ++ [34]) ∨
    formatString v = v.flatMap escByte ∧ Edges v ∧ ¬ 35 ∈ v ∧ ¬ 59 ∈ v ∧ ¬ 13 ∈ v := by
  unfold formatString
  rw [escapeValue_eq]
  split
  · exact .inl rfl
  · rename_i h
    simp only [needsQuote, Bool.or_eq_true, Gen.Config.quoteIfStripChanges, Bool.true_and, bne_iff_ne, ne_eq, not_or,
      Decidable.not_not, List.any_eq_true, Gen.Config.quoteIfContains, not_exists, not_and] at h
    -- the two arms dropped are `startswith`/`endswith` over tables the translator finds empty
    obtain ⟨⟨⟨hs, _⟩, _⟩, hc⟩ := h
    exact .inr ⟨rfl, edges_of_strip_eq hs, fun hm => hc 35 hm (by decide), fun hm => hc 59 hm (by decide),
      fun hm => hc 13 hm (by decide)⟩

theorem edges_format (v : Bytes) : Edges (formatString v) := by
  rcases formatString_cases v with e | ⟨e, he, _⟩ <;> rw [e]
  · exact .inr ⟨34, 34, rfl, by decide, List.cons_append .. ▸ List.getLast?_concat, by decide⟩
  · exact edges_escaped he

theorem escaped_ne_lf_cr {v : Bytes} {d : UInt8} (h : d ∈ v.flatMap escByte) : d ≠ 10 ∧ (d = 13 → 13 ∈ v) := by
  obtain ⟨c, hc, hd⟩ := List.mem_flatMap.mp h
  have : ∀ d ∈ escByte c, d ≠ 10 ∧ (d = 13 → c = 13) := by
    induction c using escByte_rec with
    | other c _ h10 _ _ e => simp_all
    | _ => decide
  exact ⟨(this d hd).1, fun e => (this d hd).2 e ▸ hc⟩

theorem formatString_no_lf (v : Bytes) : ¬ 10 ∈ formatString v := by
  have : ¬ 10 ∈ v.flatMap escByte := fun h => (escaped_ne_lf_cr h).1 rfl
  rcases formatString_cases v with e | ⟨e, _⟩ <;> simp [e, -List.mem_flatMap, this]

/-! ### `_parse_string` on what `_format_string` writes -/

theorem parseLoop_quote (rest ret ws : Bytes) (inq : Bool) :
    parseLoop (34 :: rest) ret ws inq = parseLoop rest ret ws (!inq) := by
  cases rest <;> simp [parseLoop, Gen.Config.parseEscapeChar, Gen.Config.parseQuoteChar]

theorem parseLoop_esc (d v : UInt8) (rest ret ws : Bytes) (inq : Bool) (h : escLookup d = some v) :
    parseLoop (92 :: d :: rest) ret ws inq = parseLoop rest (ret ++ ws ++ [v]) [] inq := by
  simp [parseLoop, Gen.Config.parseEscapeChar, h]

/-- `_escape_value` writes TAB as `\t`, so the space is the only blank the loop meets raw.  Outside quotes the comment
bytes `#` and `;` must not occur (`_format_string` quotes such values). -/
theorem parseLoop_step (c : UInt8) (inq : Bool) (hc : inq = false → c ≠ 35 ∧ c ≠ 59) (tail ret ws : Bytes) :
    parseLoop (escByte c ++ tail) ret ws inq =
      if c = 32 then (if inq then parseLoop tail (ret ++ [c]) ws inq else parseLoop tail ret (ws ++ [c]) inq)
      else parseLoop tail (ret ++ ws ++ [c]) [] inq := by
  induction c using escByte_rec with
  | k92 e => exact e ▸ parseLoop_esc 92 92 tail ret ws inq rfl
  | k10 e => exact e ▸ parseLoop_esc 110 10 tail ret ws inq rfl
  | k9 e => exact e ▸ parseLoop_esc 116 9 tail ret ws inq rfl
  | k34 e => exact e ▸ parseLoop_esc 34 34 tail ret ws inq rfl
  | other c h92 h10 h9 h34 e =>
    rw [e, List.singleton_append]
    cases tail <;> cases inq <;>
      simp [parseLoop, Gen.Config.parseEscapeChar, isCommentChar, isBlankChar, Gen.Config.parseQuoteChar,
        Gen.Config.whitespaceChars, Gen.Config.commentChars, h92, h34, h9, hc]

theorem parseLoop_quoted (v : Bytes) : ∀ (tail ret : Bytes),
    parseLoop (v.flatMap escByte ++ tail) ret [] true = parseLoop tail (ret ++ v) [] true := by
  induction v with
  | nil => intro tail ret; simp
  | cons c v ih =>
    intro tail ret
    rw [List.flatMap_cons, List.append_assoc, parseLoop_step c true (by simp)]
    split <;> simp [ih]

/-- A space waits in `ws` until the next other byte moves it to `ret`, so `ret ++ ws` grows by the source byte, and
after a last byte that is no space nothing is left waiting. -/
theorem parseLoop_plain (v : Bytes) : ∀ (c : UInt8) (tail ret ws : Bytes), ¬ 35 ∈ c :: v → ¬ 59 ∈ c :: v →
    (c :: v).getLast? ≠ some 32 →
    parseLoop ((c :: v).flatMap escByte ++ tail) ret ws false = parseLoop tail (ret ++ ws ++ c :: v) [] false := by
  induction v with
  | nil =>
    intro c tail ret ws h35 h59 hl
    have hc : c ≠ 32 := by simpa using hl
    rw [List.flatMap_cons, List.append_assoc, parseLoop_step c false (by simp_all [eq_comm])]
    simp [hc]
  | cons d v ih =>
    intro c tail ret ws h35 h59 hl
    simp only [List.mem_cons, not_or] at h35 h59
    rw [List.flatMap_cons, List.append_assoc, parseLoop_step c false fun _ => ⟨Ne.symm h35.1, Ne.symm h59.1⟩]
    have hv := fun ret ws => ih d tail ret ws (by simp [h35.2]) (by simp [h59.2]) (by simpa using hl)
    simp only [Bool.false_eq_true, if_false]
    split <;> (rw [hv]; simp)

theorem parseLoop_format (v : Bytes) : parseLoop (formatString v) [] [] false = .ok v := by
  rcases formatString_cases v with e | ⟨e, he, h35, h59, _⟩ <;> rw [e]
  · rw [parseLoop_quote, Bool.not_false, parseLoop_quoted v [34] [], parseLoop_quote]
    rfl
  · cases v with
    | nil => rfl
    | cons c v =>
      have hl : (c :: v).getLast? ≠ some 32 := by
        rcases he with h | ⟨_, b, _, _, hb, hpb⟩
        · cases h
        · rw [hb]; intro e; cases e; cases hpb
      have := parseLoop_plain v c [] [] [] h35 h59 hl
      rw [List.append_nil] at this
      rw [this]; rfl

/-- **Value round trip**, with any of the bytes the reader strips (space, TAB, CR, LF) around what the writer
emitted: `from_file` hands `_parse_string` a space, the formatted value and LF. -/
theorem parseString_format_padded {l r : Bytes} (hl : ∀ c ∈ l, isParseWs c = true) (hr : ∀ c ∈ r, isParseWs c = true)
    (v : Bytes) : parseString (l ++ (formatString v ++ r)) = .ok v := by
  rw [parseString, show pstrip _ = formatString v from stripBy_pad parseWs_sub hl hr (edges_format v),
    parseLoop_format v]

theorem parseString_value_line (v : Bytes) : parseString (32 :: (formatString v ++ [10])) = .ok v :=
  parseString_format_padded (l := [32]) (r := [10]) (by decide) (by decide) v

/-! ### a written value line is never taken for a continued line -/

theorem trailingCount_snoc (x c : UInt8) (s : Bytes) :
    trailingCount x (s ++ [c]) = if c = x then trailingCount x s + 1 else 0 := by
  simp only [trailingCount, List.reverse_append, List.reverse_singleton, List.singleton_append, List.takeWhile_cons]
  split <;> simp_all

/-- `\` is written `\\`, and no other escape ends in a backslash -/
theorem trailing_bs_even (v : Bytes) : ∀ s : Bytes, trailingCount 92 s % 2 = 0 →
    trailingCount 92 (s ++ v.flatMap escByte) % 2 = 0 := by
  induction v with
  | nil => simp
  | cons c v ih =>
    intro s hs
    rw [List.flatMap_cons, ← List.append_assoc]
    apply ih
    induction c using escByte_rec with
    | k92 e => rw [e, List.append_cons, trailingCount_snoc, trailingCount_snoc]; simp; omega
    | other c h92 _ _ _ e => rw [e, trailingCount_snoc, if_neg h92]
    | k10 e | k9 e | k34 e => rw [e, List.append_cons, trailingCount_snoc]; rfl

theorem isLineContinuation_false (X : Bytes) (h13 : X.getLast? ≠ some 13) (hev : trailingCount 92 X % 2 = 0) :
    isLineContinuation (X ++ [10]) = false := by
  rcases List.eq_nil_or_concat X with rfl | ⟨Y, r, rfl⟩
  · decide
  · rw [List.concat_eq_append] at h13 hev ⊢
    have h13' : ¬ 13 = r := by simpa [eq_comm] using h13
    by_cases h92 : 92 = r
    · subst h92
      have ht : (Y ++ [92, 10]).take (Y.length + 1) = Y ++ [92] := by simp [List.take_append, List.take_of_length_le]
      simp [isLineContinuation, List.isSuffixOf, List.isPrefixOf, Gen.Config.contSuffixLF, Gen.Config.contSuffixCRLF,
        Gen.Config.contBackslash, dropLast, ht, hev]
    · simp [isLineContinuation, List.isSuffixOf, List.isPrefixOf, Gen.Config.contSuffixLF, Gen.Config.contSuffixCRLF,
        h92, h13']

theorem no_continuation (v : Bytes) : isLineContinuation (32 :: (formatString v ++ [10])) = false := by
  rcases formatString_cases v with e | ⟨e, _, _, _, h13⟩ <;> rw [e]
  · -- quoted: the line ends in `"`
    refine isLineContinuation_false (32 :: 34 :: (v.flatMap escByte ++ [34])) ?_ ?_ <;>
      rw [← List.cons_append, ← List.cons_append]
    · rw [List.getLast?_concat]; decide
    · rw [trailingCount_snoc]; rfl
  · -- bare: the value has no CR, so the line does not end in one; the backslashes at its end come in pairs
    refine isLineContinuation_false (32 :: v.flatMap escByte) (fun h => ?_) (trailing_bs_even v [32] (by decide))
    rcases List.mem_cons.mp (List.mem_of_getLast? h) with h | h
    · cases h
    · exact h13 ((escaped_ne_lf_cr h).2 rfl)

/-! ### subsection escaping -/

/-- what `_escape_subsection` does to one byte -/
def subEscByte (c : UInt8) : Bytes := applyWrites Gen.Config.subsectionWrites [c]

theorem subEscByte_rec {motive : UInt8 → Prop} (k92 : subEscByte 92 = [92, 92] → motive 92)
    (k34 : subEscByte 34 = [92, 34] → motive 34)
    (other : ∀ c, c ≠ 92 → c ≠ 34 → subEscByte c = [c] → motive c) (c : UInt8) : motive c := by
  by_cases e92 : c = 92
  · exact e92 ▸ k92 rfl
  by_cases e34 : c = 34
  · exact e34 ▸ k34 rfl
  exact other c e92 e34 (by simp [subEscByte, applyWrites, replaceByte, Gen.Config.subsectionWrites, e92, e34])

theorem escapeSubsection_eq (s : Bytes) :
    escapeSubsection s = if wfSubsection s then .ok (s.flatMap subEscByte) else .error .format := by
  have : applyWrites Gen.Config.subsectionWrites s = s.flatMap subEscByte := applyWrites_eq_flatMap _ s
  unfold escapeSubsection wfSubsection
  rw [this]
  generalize s.any _ = b
  cases b <;> rfl

theorem wfSubsection_iff {s : Bytes} : wfSubsection s = true ↔ ¬ 10 ∈ s ∧ ¬ 0 ∈ s := by
  simp only [wfSubsection, Bool.not_eq_true', List.any_eq_false, Gen.Config.subsectionForbidden,
    List.contains_iff_mem, List.mem_cons, List.not_mem_nil, or_false, not_or]
  exact ⟨fun h => ⟨fun hm => (h 10 hm).1 rfl, fun hm => (h 0 hm).2 rfl⟩,
    fun h c hc => ⟨fun e => h.1 (e ▸ hc), fun e => h.2 (e ▸ hc)⟩⟩

theorem unescape_step (c : UInt8) (rest : Bytes) :
    unescapeSubsection (subEscByte c ++ rest) = c :: unescapeSubsection rest := by
  induction c using subEscByte_rec with
  | other c h92 _ e => rw [e]; cases rest <;> simp [unescapeSubsection, Gen.Config.unescapeChar, h92]
  | k92 e | k34 e => simp [e, unescapeSubsection, Gen.Config.unescapeChar]

theorem unescape_escaped (s : Bytes) : unescapeSubsection (s.flatMap subEscByte) = s := by
  induction s with
  | nil => rfl
  | cons c s ih => rw [List.flatMap_cons, unescape_step, ih]

/-! ### the bytes of section and variable names -/

/-- bytes with no meaning to `_strip_comments` or to the closing-bracket scan -/
def Plain (c : UInt8) : Prop := c ≠ 34 ∧ c ≠ 92 ∧ c ≠ 93 ∧ c ≠ 35 ∧ c ≠ 59

/-- what every byte that `_check_section_name` or `_check_variable_name` lets through has in common: it is
ordinary text to every scanner of the reader -/
structure NameChar (c : UInt8) : Prop where
  notWs : isPyWs c = false
  neEq : c ≠ 61
  neOpen : c ≠ 91
  plain : Plain c

/-- Passing either check is membership in a table, so the members of the table are what is evaluated. -/
theorem nameChar_table : ∀ c ∈ Gen.Config.pyAlnum ++ Gen.Config.sectionNameExtra, NameChar c := by
  have : ∀ c ∈ Gen.Config.pyAlnum ++ Gen.Config.sectionNameExtra,
      isPyWs c = false ∧ c ≠ 61 ∧ c ≠ 91 ∧ Plain c := by unfold Plain; decide +kernel
  exact fun c hc => let ⟨h1, h2, h3, h4⟩ := this c hc; ⟨h1, h2, h3, h4⟩

theorem sectionName_char {s : Bytes} (h : checkSectionName s = true) {c : UInt8} (hc : c ∈ s) : NameChar c := by
  have := List.all_eq_true.mp h c hc
  simp only [isAlnum, Bool.or_eq_true, List.contains_iff_mem] at this
  exact nameChar_table c (List.mem_append.mpr this)

theorem variableName_char {s : Bytes} (h : checkVariableName s = true) {c : UInt8} (hc : c ∈ s) : NameChar c := by
  have := List.all_eq_true.mp h c hc
  simp only [isAlnum, Bool.or_eq_true, List.contains_iff_mem] at this
  exact nameChar_table c (List.mem_append.mpr (this.imp_right fun h => List.mem_cons.mpr (.inl (List.mem_singleton.mp h))))

/-! ### section headers -/

/-- a stretch of text that `_strip_comments` and the closing-bracket scan both pass over, in quote state `q` and not
behind a backslash, and leave in that state: the two are the same lexer and differ in what stops them outside quotes
(`#`/`;`, resp. `]`) -/
def Inert (q : Bool) (S : Bytes) : Prop :=
  ∀ rest, stripCommentsAux (S ++ rest) q false = S ++ stripCommentsAux rest q false ∧
    ∀ i, findClose (S ++ rest) q false i = findClose rest q false (i + S.length)

theorem Inert.append {q : Bool} {S T : Bytes} (hS : Inert q S) (hT : Inert q T) : Inert q (S ++ T) := fun rest => by
  rw [List.append_assoc, (hS _).1, (hT _).1, List.append_assoc]
  refine ⟨rfl, fun i => ?_⟩
  rw [(hS _).2, (hT _).2, List.length_append, Nat.add_assoc]

theorem Inert.flatMap {q : Bool} {f : UInt8 → Bytes} {s : Bytes} (h : ∀ c ∈ s, Inert q (f c)) :
    Inert q (s.flatMap f) := by
  induction s with
  | nil => exact fun _ => ⟨rfl, fun _ => rfl⟩
  | cons c s ih => exact List.flatMap_cons ▸ (h c (by simp)).append (ih fun d hd => h d (by simp [hd]))

theorem inert_byte {q : Bool} {c : UInt8} (h : Plain c) : Inert q [c] := fun rest => by
  obtain ⟨h34, h92, h93, h35, h59⟩ := h
  simp [stripCommentsAux, findClose, Gen.Config.stripCommentQuote, Gen.Config.stripCommentChars,
    Gen.Config.stripCommentEscape, Gen.Config.hdrQuote, Gen.Config.hdrClose, Gen.Config.hdrEscape, h34, h92, h93, h35, h59]

theorem inert_plain {q : Bool} {P : Bytes} (hP : ∀ c ∈ P, Plain c) : Inert q P :=
  List.flatMap_singleton' P ▸ Inert.flatMap (f := fun c => [c]) fun c hc => inert_byte (hP c hc)

theorem inert_subEsc (c : UInt8) : Inert true (subEscByte c) := fun rest => by
  induction c using subEscByte_rec with
  | other c h92 h34 e =>
    simp [e, h34, h92, stripCommentsAux, findClose, Gen.Config.stripCommentQuote, Gen.Config.stripCommentEscape,
      Gen.Config.hdrQuote, Gen.Config.hdrClose, Gen.Config.hdrEscape]
  | k92 e | k34 e =>
    simp [e, stripCommentsAux, findClose, Gen.Config.stripCommentEscape, Gen.Config.hdrQuote, Gen.Config.hdrClose,
      Gen.Config.hdrEscape, Nat.add_assoc]

theorem inert_quoted {E : Bytes} (h : Inert true E) : Inert false (34 :: (E ++ [34])) := fun rest => by
  have := h (34 :: rest)
  simp [stripCommentsAux, findClose, Gen.Config.stripCommentQuote, Gen.Config.stripCommentEscape,
    Gen.Config.hdrQuote, Gen.Config.hdrClose, Gen.Config.hdrEscape, this.1, this.2]
  exact fun i => congrArg _ (by omega)

/-- what `write_to_file` puts between the brackets of a section's line: `name` or `name "escaped-subsection"` -/
def headerBody (sec : Section) : Bytes :=
  match sec.2 with
  | none => sec.1
  | some sub => sec.1 ++ 32 :: 34 :: (sub.flatMap subEscByte ++ [34])

/-- the line `write_to_file` emits for a section (`writeHeader_eq`) -/
def headerLine (sec : Section) : Bytes := (91 :: headerBody sec) ++ [93, 10]

theorem writeHeader_eq (sec : Section) :
    writeHeader sec = if sec.2.all wfSubsection then .ok (headerLine sec) else .error .format := by
  obtain ⟨name, sub⟩ := sec
  cases sub with
  | none => simp [writeHeader, headerLine, headerBody, Gen.Config.wHdrOpen, Gen.Config.wHdrClose]
  | some sub =>
    cases h : wfSubsection sub <;>
      simp [writeHeader, escapeSubsection_eq, h, headerLine, headerBody, Gen.Config.wHdrOpen, Gen.Config.wSubOpen,
        Gen.Config.wSubClose]

theorem header_scan {M : Bytes} (hM : Inert false M) :
    rstrip (stripComments ((91 :: M) ++ [93, 10])) = (91 :: M) ++ [93] ∧
      findClose ((91 :: M) ++ [93]) false false 0 = some (M.length + 1) := by
  have h : Inert false (91 :: M) := (inert_byte (c := 91) (by unfold Plain; decide)).append hM
  constructor
  · rw [stripComments, (h _).1, show stripCommentsAux [93, 10] false false = [93, 10] by decide,
      show (91 :: M) ++ [93, 10] = ((91 :: M) ++ [93]) ++ [10] by simp]
    exact Strip.rdropWhile_pad (p := isPyWs) (b := 93) (by decide) List.getLast?_concat (by decide)
  · rw [(h _).2]
    simp [findClose, Gen.Config.hdrQuote, Gen.Config.hdrClose]

theorem parseHeader_headerLine (sec : Section) (hn : checkSectionName sec.1 = true)
    (hd : sec.2 = none → ¬ 46 ∈ sec.1) : parseHeader (headerLine sec) = .ok (sec, []) := by
  obtain ⟨name, sub⟩ := sec
  have hname : Inert false name := inert_plain fun c hc => (sectionName_char hn hc).plain
  have h32 : ¬ 32 ∈ name := fun h => absurd (sectionName_char hn h).notWs (by decide)
  have hM : Inert false (headerBody (name, sub)) := by
    cases sub with
    | none => exact hname
    | some sub =>
      show Inert false (name ++ ([32] ++ _))
      exact hname.append
        ((inert_byte (by unfold Plain; decide)).append (inert_quoted (Inert.flatMap fun c _ => inert_subEsc c)))
  -- the slices `line[1:last]` and `line[last+1:]` of `[M]` once the scan has stopped at the last byte
  have mid : ∀ M : Bytes, (((91 :: M) ++ [93]).take (M.length + 1)).drop 1 = M ∧
      ((91 :: M) ++ [93]).drop (M.length + 1 + 1) = [] := fun M => by simp
  unfold headerLine parseHeader
  simp only [header_scan hM, mid]
  cases sub with
  | none =>
    simp only [headerBody, splitOnce_absent Gen.Config.hdrSplit _ h32, hn, Bool.not_true, Bool.false_eq_true, if_false]
    rw [splitOnce_absent Gen.Config.hdrDot _ (hd rfl)]
  | some sub =>
    generalize hE : sub.flatMap subEscByte = E
    have e6 : isQuoted (34 :: (E ++ [34])) = true := by
      simp [isQuoted, Gen.Config.hdrQuote, show (34 :: (E ++ [34])).getLast? = some 34 from
        List.cons_append .. ▸ List.getLast?_concat]
    simp only [headerBody, hE, show splitOnce Gen.Config.hdrSplit _ = _ from splitOnce_found 32 name _ h32, e6, if_true,
      show inner (34 :: (E ++ [34])) = E by simp [inner], hn]
    rw [← hE, unescape_escaped]

/-! ### the lines of a written file -/

theorem splitLinesAux_line (body : Bytes) (h : ¬ 10 ∈ body) (rest cur : Bytes) :
    splitLinesAux (body ++ 10 :: rest) cur = (cur.reverse ++ body ++ [10]) :: splitLinesAux rest [] := by
  induction body generalizing cur with
  | nil => simp [splitLinesAux]
  | cons c body ih =>
    simp only [List.mem_cons, not_or] at h
    have hc : c ≠ 10 := fun e => h.1 e.symm
    simp [splitLinesAux, hc, ih h.2]

theorem splitLines_line (body : Bytes) (h : ¬ 10 ∈ body) (rest : Bytes) :
    splitLines ((body ++ [10]) ++ rest) = (body ++ [10]) :: splitLines rest := by
  unfold splitLines
  have := splitLinesAux_line body h rest []
  simpa using this

def IsLine (l : Bytes) : Prop := ∃ body, l = body ++ [10] ∧ ¬ 10 ∈ body

theorem splitLines_flatten (ls : List Bytes) (h : ∀ l ∈ ls, IsLine l) : splitLines ls.flatten = ls := by
  induction ls with
  | nil => rfl
  | cons l ls ih =>
    obtain ⟨body, rfl, hb⟩ := h l (by simp)
    rw [List.flatten_cons, splitLines_line body hb, ih fun l hl => h l (by simp [hl])]

theorem wfSection_iff {sec : Section} : wfSection sec = true ↔
    checkSectionName sec.1 = true ∧ (sec.2.isSome || !sec.1.contains 46) = true ∧ sec.2.all wfSubsection = true := by
  obtain ⟨name, sub⟩ := sec
  cases sub <;> simp [wfSection, Gen.Config.hdrDot]

theorem headerLine_shape (sec : Section) (h : wfSection sec = true) : IsLine (headerLine sec) := by
  obtain ⟨hn, _, hs⟩ := wfSection_iff.mp h
  obtain ⟨name, sub⟩ := sec
  have h1 : ¬ 10 ∈ name := fun hm => absurd (sectionName_char hn hm).notWs (by decide)
  refine ⟨(91 :: headerBody (name, sub)) ++ [93], by simp [headerLine], ?_⟩
  cases sub with
  | none => simp [headerBody, h1]
  | some sub =>
    have h2 : ¬ 10 ∈ sub.flatMap subEscByte := by
      intro hm
      obtain ⟨c, hc, hcm⟩ := List.mem_flatMap.mp hm
      induction c using subEscByte_rec with
      | other c _ _ e => rw [e, List.mem_singleton] at hcm; exact (wfSubsection_iff.mp hs).1 (hcm ▸ hc)
      | _ => exact absurd hcm (by decide)
    simp [headerBody, h1, h2]

/-- the line `write_to_file` emits for one setting (`writeEntry_eq`) -/
def entryLine (e : Bytes × Bytes) : Bytes := 9 :: (e.1 ++ 32 :: 61 :: 32 :: (formatString e.2 ++ [10]))

theorem writeEntry_eq (e : Bytes × Bytes) : writeEntry e = entryLine e := by
  simp [writeEntry, entryLine, Gen.Config.wIndent, Gen.Config.wSep, Gen.Config.wEnd]

theorem key_facts {k : Bytes} (hk : wfKey k = true) :
    k ≠ [] ∧ checkVariableName k = true ∧ ∀ c ∈ k, NameChar c := by
  simp only [wfKey, Bool.and_eq_true, Bool.not_eq_true', List.isEmpty_eq_false_iff] at hk
  exact ⟨hk.1, hk.2, fun c hc => variableName_char hk.2 hc⟩

theorem entryLine_shape (k v : Bytes) (hk : wfKey k = true) : IsLine (entryLine (k, v)) := by
  obtain ⟨_, _, hc⟩ := key_facts hk
  refine ⟨9 :: (k ++ 32 :: 61 :: 32 :: formatString v), by simp [entryLine], ?_⟩
  have h1 : ¬ 10 ∈ k := fun hm => absurd (hc 10 hm).notWs (by decide)
  simp [h1, formatString_no_lf v]

/-- the lines `write_to_file` emits (`writeFile_eq`) -/
def fileLines (cfg : Cfg) : List Bytes := cfg.flatMap fun e => headerLine e.1 :: e.2.map entryLine

theorem writeFile_eq (cfg : Cfg) : writeFile cfg =
    if cfg.all (fun e => e.1.2.all wfSubsection) then .ok (fileLines cfg).flatten else .error .format := by
  induction cfg with
  | nil => rfl
  | cons sd cfg ih =>
    have : writeEntries sd.2 = (sd.2.map entryLine).flatten := by
      rw [writeEntries, List.flatMap_def, funext writeEntry_eq]
    simp only [writeFile, writeHeader_eq, ih, List.all_cons, fileLines, List.flatMap_cons, List.flatten_append,
      List.flatten_cons, this]
    generalize sd.1.2.all wfSubsection = a
    generalize cfg.all _ = b
    cases a <;> cases b <;> simp

/-- `wfCfg` without the distinctness of the sections (`wfCfg cfg = (wfSections cfg && distinctSections cfg)` by `rfl`):
what the text and the reader's loop ask of a configuration -/
def wfSections (cfg : Cfg) : Bool := cfg.all fun e => wfSection e.1 && wfEntries e.2

theorem fileLines_shape (cfg : Cfg) (h : wfSections cfg = true) :
    ∀ l ∈ fileLines cfg, IsLine l := by
  intro l hl
  obtain ⟨e, he, hl⟩ := List.mem_flatMap.mp hl
  have := List.all_eq_true.mp h e he
  rw [Bool.and_eq_true] at this
  rcases List.mem_cons.mp hl with rfl | hl
  · exact headerLine_shape e.1 this.1
  · obtain ⟨kv, hkv, rfl⟩ := List.mem_map.mp hl
    exact entryLine_shape kv.1 kv.2 (List.all_eq_true.mp this.2 kv hkv)

/-! ### the reader on one written line: a header line is `setdefault`, an entry line an append -/

theorem readLine_header (cfg : Cfg) (s0 : Option Section) (first : Bool) (sec : Section)
    (hn : checkSectionName sec.1 = true) (hd : sec.2 = none → ¬ 46 ∈ sec.1) :
    readLine { cfg := cfg, sec := s0, pending := none } first (headerLine sec) =
      .ok { cfg := cfgSetDefault cfg sec, sec := some sec, pending := none } := by
  have hph := parseHeader_headerLine sec hn hd
  obtain ⟨T, hT⟩ : ∃ T, headerLine sec = 91 :: T := ⟨_, rfl⟩
  rw [hT] at hph ⊢
  have h1 : (first && Gen.Config.bom.isPrefixOf (91 :: T)) = false := by
    simp [Gen.Config.bom, List.isPrefixOf]
  have h2 : lstrip (91 :: T) = 91 :: T := List.dropWhile_cons_of_neg (by decide)
  have h3 : (91 :: T).head? = some Gen.Config.lineHeaderStart := rfl
  unfold readLine
  simp only [h1, Bool.false_eq_true, if_false, h2, h3, if_true, hph]
  rfl

/-- (an entry line is never the first line of a written file, hence `first = false`) -/
theorem readLine_entry (cfg : Cfg) (sec : Section) (k v : Bytes) (hk : wfKey k = true) :
    readLine { cfg := cfg, sec := some sec, pending := none } false (entryLine (k, v)) =
      .ok { cfg := cfgAppend cfg sec k v, sec := some sec, pending := none } := by
  obtain ⟨hne, hcv, hc⟩ := key_facts hk
  obtain ⟨a, k', rfl⟩ := List.exists_cons_of_ne_nil hne
  have ha := hc a (by simp)
  have hke : Edges (a :: k') :=
    .inr ⟨a, _, rfl, ha.notWs, List.getLast?_eq_some_getLast hne, (hc _ (List.getLast_mem hne)).notWs⟩
  let L : Bytes := (a :: k') ++ 32 :: 61 :: 32 :: (formatString v ++ [10])
  have f1 : lstrip (entryLine (a :: k', v)) = L := Strip.dropWhile_pad (l := [9]) (p := isPyWs) (by decide) rfl ha.notWs
  have f2 : L.head? = some a := rfl
  have f2' : ¬ (some a = some Gen.Config.lineHeaderStart) := fun e => ha.neOpen (Option.some.inj e)
  have f3 : strip (stripComments L) ≠ [] := by
    rw [stripComments, show L = [a] ++ _ from rfl, (inert_byte ha.plain _).1]
    exact strip_ne_nil (c := a) (by simp) ha.notWs
  have f4 : splitOnce Gen.Config.settingSep L = ((a :: k') ++ [32], some (32 :: (formatString v ++ [10]))) := by
    rw [show L = ((a :: k') ++ [32]) ++ 61 :: (32 :: (formatString v ++ [10])) by simp [L]]
    apply splitOnce_found
    intro hm
    rcases List.mem_append.mp hm with h | h
    · exact (hc 61 h).neEq rfl
    · exact absurd h (by decide)
  unfold readLine
  simp only [Bool.false_and, Bool.false_eq_true, if_false, f1, f2, f2', f3, f4, strip_snoc_space hke, hcv,
    Bool.not_true, no_continuation v, parseString_value_line v]

/-! ### the reader on the lines of a written file replays it through `setdefault` and append -/

/-- what `from_file` does with one written section: `setdefault`, then one append per entry -/
def replaySection (acc : Cfg) (e : Section × Entries) : Cfg :=
  e.2.foldl (fun a kv => cfgAppend a e.1 kv.1 kv.2) (cfgSetDefault acc e.1)

theorem readLines_entries (sec : Section) (ls : List Bytes) (d : Entries) : ∀ acc : Cfg, wfEntries d = true →
    readLines { cfg := acc, sec := some sec, pending := none } false (d.map entryLine ++ ls) =
      readLines { cfg := d.foldl (fun a kv => cfgAppend a sec kv.1 kv.2) acc, sec := some sec, pending := none }
        false ls := by
  induction d with
  | nil => intro acc _; rfl
  | cons kv d ih =>
    intro acc hwf
    simp only [wfEntries, List.all_cons, Bool.and_eq_true] at hwf
    rw [List.map_cons, List.cons_append, readLines, readLine_entry acc sec kv.1 kv.2 hwf.1]
    exact ih _ hwf.2

/-- No hypothesis on the sections being distinct: a section written twice is merged by the reader, as `replaySection`
says. -/
theorem readLines_fileLines (cfg : Cfg) : ∀ (acc : Cfg) (s0 : Option Section) (first : Bool),
    wfSections cfg = true →
    ∃ s1, readLines { cfg := acc, sec := s0, pending := none } first (fileLines cfg) =
      .ok { cfg := cfg.foldl replaySection acc, sec := s1, pending := none } := by
  induction cfg with
  | nil => exact fun acc s0 first _ => ⟨s0, rfl⟩
  | cons e cfg ih =>
    intro acc s0 first hwf
    simp only [wfSections, List.all_cons, Bool.and_eq_true] at hwf
    obtain ⟨hn, hdot, _⟩ := wfSection_iff.mp hwf.1.1
    rw [fileLines, List.flatMap_cons, List.cons_append, readLines,
      readLine_header acc s0 first e.1 hn fun h => by simpa [h] using hdot]
    simp only
    rw [readLines_entries e.1 _ e.2 _ hwf.1.2]
    exact ih _ _ _ hwf.2

/-! ### replaying a configuration with distinct sections gives it back -/

theorem sameSection_refl (s : Section) : sameSection s s = true := by simp [sameSection]

theorem sameSection_comm (a b : Section) : sameSection a b = sameSection b a := BEq.comm

theorem cfgSetDefault_new (cfg : Cfg) (sec : Section) (h : ∀ e ∈ cfg, sameSection e.1 sec = false) :
    cfgSetDefault cfg sec = cfg ++ [(sec, [])] := by
  have : cfg.any (fun e => sameSection e.1 sec) = false := List.any_eq_false.mpr fun e he => by simp [h e he]
  simp [cfgSetDefault, this]

theorem cfgModify_last (pre : Cfg) (sec : Section) (ds : Entries) (f : Entries → Entries)
    (h : ∀ e ∈ pre, sameSection e.1 sec = false) :
    cfgModify (pre ++ [(sec, ds)]) sec f = pre ++ [(sec, f ds)] := by
  have : pre.map (fun e => if sameSection e.1 sec then (e.1, f e.2) else e) = pre := by
    conv => rhs; rw [← List.map_id pre]
    exact List.map_congr_left fun e he => by simp [h e he]
  simp [cfgModify, this, sameSection_refl]

theorem replaySection_new (pre : Cfg) (sec : Section) (h : ∀ e ∈ pre, sameSection e.1 sec = false) (d : Entries) :
    replaySection pre (sec, d) = pre ++ [(sec, d)] := by
  have : ∀ ds, d.foldl (fun a kv => cfgAppend a sec kv.1 kv.2) (pre ++ [(sec, ds)]) = pre ++ [(sec, ds ++ d)] := by
    induction d with
    | nil => simp
    | cons kv d ih => intro ds; rw [List.foldl_cons, cfgAppend, cfgModify_last pre sec ds _ h, entAdd, ih]; simp
  rw [replaySection, cfgSetDefault_new pre sec h]
  exact this []

theorem distinctSections_iff (cfg : Cfg) :
    distinctSections cfg = true ↔ cfg.Pairwise fun a b => sameSection a.1 b.1 = false := by
  induction cfg with
  | nil => simp [distinctSections]
  | cons e cfg ih => simp [distinctSections, ih, sameSection_comm e.1]

theorem replay_distinct (cfg : Cfg) : ∀ pre : Cfg, distinctSections (pre ++ cfg) = true →
    cfg.foldl replaySection pre = pre ++ cfg := by
  induction cfg with
  | nil => simp
  | cons sd cfg ih =>
    intro pre hd
    have hnew := fun e he => (List.pairwise_append.mp ((distinctSections_iff _).mp hd)).2.2 e he sd (by simp)
    rw [List.foldl_cons, replaySection_new pre sd.1 hnew sd.2, ih (pre ++ [sd]) (by simpa using hd)]
    simp

theorem readFile_fileLines (cfg : Cfg) (h : wfSections cfg = true) :
    readFile (fileLines cfg).flatten = .ok (cfg.foldl replaySection []) := by
  obtain ⟨s1, hs1⟩ := readLines_fileLines cfg [] none true h
  rw [readFile, splitLines_flatten _ (fileLines_shape cfg h), hs1]

theorem readFile_written (cfg : Cfg) (h : wfCfg cfg = true) : readFile (fileLines cfg).flatten = .ok cfg := by
  rw [wfCfg, Bool.and_eq_true] at h
  rw [readFile_fileLines cfg h.1, replay_distinct cfg [] h.2]
  rfl

/-! ### the multi-valued dictionary -/

theorem getAll_filter_ne (d : Entries) (k k' : Bytes) :
    entGetAll (d.filter fun e => !sameKey e.1 k) k' = if sameKey k k' then [] else entGetAll d k' := by
  unfold entGetAll
  rw [List.filter_filter]
  split
  · rename_i h
    rw [List.filter_eq_nil_iff.mpr]
    · rfl
    · intro e _
      simp only [sameKey, beq_iff_eq] at h ⊢
      simp [h]
  · rename_i h
    congr 1
    apply List.filter_congr
    intro e _
    simp only [sameKey, beq_iff_eq] at h ⊢
    by_cases e1 : lowerBytes e.1 = lowerBytes k' <;> simp [e1, Ne.symm h]

/-! ### `ConfigDict.set/add/remove` keep the sections pairwise distinct -/

theorem distinct_setDefault (cfg : Cfg) (sec : Section) (h : distinctSections cfg = true) :
    distinctSections (cfgSetDefault cfg sec) = true := by
  unfold cfgSetDefault
  split
  · exact h
  · rename_i hn
    rw [distinctSections_iff] at h ⊢
    exact List.pairwise_append.mpr ⟨h, List.pairwise_singleton _ _, fun a ha b hb =>
      List.mem_singleton.mp hb ▸ Bool.eq_false_iff.mpr fun e => hn (List.any_eq_true.mpr ⟨a, ha, e⟩)⟩

theorem distinct_modify (cfg : Cfg) (sec : Section) (f : Entries → Entries) (h : distinctSections cfg = true) :
    distinctSections (cfgModify cfg sec f) = true := by
  rw [distinctSections_iff] at h ⊢
  rw [cfgModify, List.pairwise_map]
  exact h.imp fun {a b} hab => by split <;> split <;> exact hab

end Dulwich.Config
