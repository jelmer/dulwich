/-
  C05 — fetch, clone and push transfer a complete, byte-identical object closure (objects are abstract
  here; byte identity is left to the harness).

  The model is Model/Graph.lean (object graph, `Reach`) + Model/Missing.lean (`_split_commits_and_tags`,
  `_collect_ancestors`, `_collect_filetree_revs`, `MissingObjectFinder` with an arbitrary pop order,
  thin-pack completion) + Model/Negotiate.lean (have/ack walkers) + Model/Shallow.lean (request head,
  `find_shallow`); the structural facts the model depends on come from Gen/ObjGraph.lean, regenerated
  from /repo on every run (`validation_checks_in_source` and `kind_of_git_modes` are obligations on them).

  Reading guide.  `s` is the sender's object store, `haves`/`wants` the arguments of
  `MissingObjectFinder`, `present s haves` the haves the sender actually has (the others are ignored),
  `pick` the pop order of `objects_to_send` (ANY function), `tagged` the `get_tagged()` map.
  `mof … = .ok sent` means the real iteration finished without an exception and yielded `sent`.
-/
import DulwichModel.Lemmas.Missing
import DulwichModel.Lemmas.Negotiate
import DulwichModel.Lemmas.Shallow
import DulwichModel.Lemmas.ExceptEq

namespace Dulwich.Props.C05
open Dulwich Dulwich.Graph Dulwich.Missing Dulwich.Worklist

/-! ## The executable closure (`closure`, what the driver computes) is exactly `Reach`. -/

theorem closure_eq_reach (s : Store) (fuel : Nat) (roots l : List Id)
    (h : closure s fuel roots = some l) : ∀ x, x ∈ l ↔ Reach s roots x :=
  (closureAux_inv (.init (fun _ => List.not_mem_nil) fun _ => .rfl) h).unique (reach_least s roots)

/-! ## Soundness: nothing outside the closure of the wants is selected, apart from tags followed
automatically.  No hypothesis: any store (closed or not, well-typed or not), any haves, any
shallow set, any pop order, any fuel. -/

theorem mof_sound (s : Store) (tagged : List (Id × Id)) (pick : Nat → List (Id × Bool) → Nat)
    (fuel : Nat) (haves wants shallow sent : List Id)
    (h : mof s tagged pick fuel haves wants shallow = .ok sent) :
    ∀ x ∈ sent, Reach s wants x ∨ x ∈ tagged.map (·.2) := by
  obtain ⟨st0, st, h0, hrun, rfl⟩ := mof_ok h
  exact run_sound h0 hrun

/-- Without `include-tag` (empty `get_tagged`) the selection lies inside the closure of the wants. -/
theorem mof_sound_no_tags (s : Store) (pick : Nat → List (Id × Bool) → Nat)
    (fuel : Nat) (haves wants shallow sent : List Id)
    (h : mof s [] pick fuel haves wants shallow = .ok sent) : ∀ x ∈ sent, Reach s wants x := by
  intro x hx
  rcases mof_sound s [] pick fuel haves wants shallow sent h x hx with h1 | h1
  · exact h1
  · simp at h1

/-- What the sender assumes the receiver has (`get_remote_has()`, the initial `sha_done`; no shallow cut) is
reachable from haves *the sender's store contains*: a have is never taken as common on the
client's word alone. -/
theorem remote_has_reachable_from_known_haves (s : Store) (fuel : Nat) (haves wants rh : List Id)
    (h : mofRemoteHas s fuel haves wants [] = .ok rh) : ∀ x ∈ rh, Reach s (present s haves) x := by
  obtain ⟨st0, h0, rfl⟩ := mofRemoteHas_ok h
  obtain ⟨M, hi⟩ := init_spec h0
  exact hi.done_reach

/-! ## Completeness: everything reachable from the wants is selected or reachable from a have
the sender knows.  Hypotheses: the store is well typed (tree-entry modes agree with object types —
an assumption on the sender's repository), `get_tagged` maps a name to a tag *of that name* or to a
name the store lacks (direct tags), no shallow cut.  Any pop order, any fuel for which the run ends. -/

theorem mof_complete (s : Store) (tagged : List (Id × Id)) (pick : Nat → List (Id × Bool) → Nat)
    (fuel : Nat) (haves wants sent : List Id) (hwt : WellTyped s) (htg : TaggedDirect s tagged)
    (h : mof s tagged pick fuel haves wants [] = .ok sent) :
    ∀ x, Reach s wants x → x ∈ sent ∨ Reach s (present s haves) x := by
  obtain ⟨st0, st, h0, hrun, rfl⟩ := mof_ok h
  obtain ⟨M, hi⟩ := init_spec h0
  exact run_complete hwt htg hi hrun

/-- `mof_complete` without `TaggedDirect`.  It does not hold: on `demo` below with `tagged = [(5, 4)]`, haves `[2]`,
wants `[5]` and newest-first pops, tree 4 is yielded as a leaf, unexpanded, and blob 3 is never sent. -/
def MofCompleteStatement : Prop :=
  ∀ (s : Store) (tagged : List (Id × Id)) (pick : Nat → List (Id × Bool) → Nat) (fuel : Nat)
    (haves wants sent : List Id), WellTyped s →
    mof s tagged pick fuel haves wants [] = .ok sent →
    ∀ x, Reach s wants x → x ∈ sent ∨ Reach s (present s haves) x

/-! ## Refinement to "receiver := receiver ∪ sent": after the transfer the receiver holds every
object reachable from the wants, identical to the sender's.

Hypotheses about the receiver `r` (exactly these):
 * `hR`  — on every name reachable in `s` from a have the sender knows, `r` equals `s`: where `s` holds
           that closure, so does the receiver, with the sender's contents (the receiver only claims
           commits whose closure it holds, and content addressing makes equal names equal objects);
 * `hA`  — on every name both stores have, they agree (content addressing);
 and about the sender: `hS` — it holds the closure of the wants. -/

theorem transfer_complete (s r : Store) (tagged : List (Id × Id))
    (pick : Nat → List (Id × Bool) → Nat) (fuel : Nat) (haves wants sent : List Id)
    (hwt : WellTyped s) (htg : TaggedDirect s tagged)
    (h : mof s tagged pick fuel haves wants [] = .ok sent)
    (hS : ClosedFor s wants)
    (hR : ∀ x, Reach s (present s haves) x → r x = s x)
    (hA : ∀ x o o', r x = some o → s x = some o' → o = o') :
    (∀ x, Reach s wants x → union r (restrict s sent) x = s x ∧ (s x).isSome = true) ∧
    ClosedFor (union r (restrict s sent)) wants :=
  union_restrict_complete hS hA fun x hx =>
    (mof_complete s tagged pick fuel haves wants sent hwt htg h x hx).imp_right (hR x)

/-! ## The selected SET does not depend on the order in which `objects_to_send.pop()` returns
entries (same hypotheses as completeness; both runs with the same `fuel`). -/

theorem mof_order_independent (s : Store) (tagged : List (Id × Id))
    (pick₁ pick₂ : Nat → List (Id × Bool) → Nat) (fuel : Nat) (haves wants sent₁ sent₂ : List Id)
    (hwt : WellTyped s) (htg : TaggedDirect s tagged)
    (h₁ : mof s tagged pick₁ fuel haves wants [] = .ok sent₁)
    (h₂ : mof s tagged pick₂ fuel haves wants [] = .ok sent₂) :
    ∀ x, x ∈ sent₁ ↔ x ∈ sent₂ := by
  obtain ⟨st0, st1, h0, hrun1, rfl⟩ := mof_ok h₁
  obtain ⟨st0', st2, h0', hrun2, rfl⟩ := mof_ok h₂
  cases h0.symm.trans h0'
  obtain ⟨M, hi⟩ := init_spec h0
  exact (run_cinv hwt htg hi hrun1).2.unique (run_cinv hwt htg hi hrun2).2

/-- Nothing the sender believes the receiver has is sent again (`Missing.mof_disjoint_remoteHas`: neither `hwt` nor
`htg` is needed, nor that there is no shallow cut). -/
theorem mof_skips_remote_has (s : Store) (tagged : List (Id × Id))
    (pick : Nat → List (Id × Bool) → Nat) (fuel : Nat) (haves wants sent rh : List Id)
    (hwt : WellTyped s) (htg : TaggedDirect s tagged)
    (h : mof s tagged pick fuel haves wants [] = .ok sent)
    (hrh : mofRemoteHas s fuel haves wants [] = .ok rh) : ∀ x ∈ sent, x ∉ rh :=
  mof_disjoint_remoteHas h hrh

/-! ## Thin packs: after `extend_pack` has appended the external bases the pack is
self-contained (every delta base is in the pack). -/

theorem thin_pack_completion (have_ : Id → Bool) (p p' : List PackEntry)
    (h : completeThin have_ p = .ok p') : SelfContained p' := by
  unfold completeThin at h
  split at h
  · cases h
    intro e he b hb
    rw [List.map_append, List.mem_append]
    rcases List.mem_append.1 he with he | he
    · by_cases hin : b ∈ p.map (·.1)
      · exact .inl hin
      · have : b ∈ extRefs p :=
          List.mem_filter.2 ⟨List.mem_filterMap.2 ⟨e, he, hb⟩, decide_eq_true hin⟩
        exact .inr (List.mem_map.2 ⟨(b, none), List.mem_map_of_mem (List.mem_eraseDups.2 this), rfl⟩)
    · obtain ⟨b', _, rfl⟩ := List.mem_map.1 he
      cases hb
  · cases h

/-- …and completion fails (instead of installing an unusable pack) when a base is missing. -/
theorem thin_pack_missing_base (have_ : Id → Bool) (p : List PackEntry) (b : Id)
    (hb : b ∈ extRefs p) (hm : have_ b = false) : completeThin have_ p = .error .key := by
  unfold completeThin
  have : (extRefs p).all have_ = false := by
    rw [List.all_eq_false]
    exact ⟨b, hb, by simp [hm]⟩
  simp [this]

/-! ## Negotiation only ever shrinks the haves to (what the client claimed) ∩ (what the server's
store contains), in every ack mode, for every client transcript. -/

open Dulwich.Negotiate in
theorem negotiation_sound (mode : AckMode) (stateless : Bool) (has : Id → Bool) (sat : List Id → Bool)
    (lines : List CLine) (r : NegoResult) (h : negotiate mode stateless has sat lines = .ok r) :
    ∀ x ∈ r.haves, has x = true ∧ CLine.have_ x ∈ lines := fun x hx =>
  (loop_haves_sound mode stateless has sat lines {} r h x hx).resolve_left nofun

open Dulwich.Negotiate in
/-- A pack is sent only after `done`, unless `no-done` was negotiated and something is common. -/
theorem negotiation_pack_needs_done (mode : AckMode) (stateless : Bool) (has : Id → Bool)
    (sat : List Id → Bool) (lines : List CLine) (r : NegoResult)
    (_h : negotiate mode stateless has sat lines = .ok r) (noDone : Bool)
    (hp : sendsPack mode r noDone = true) : r.doneReceived = true ∨ (noDone = true ∧ r.common ≠ []) :=
  sendsPack_needs_done mode r noDone hp

/-- The server-side want validation is present in the source
(`determine_wants`: `if sha_result not in values: raise GitProtocolError`), as is the store
check on haves (`find_common_revisions`: `if sha in self`).  Regenerated from /repo on every run:
removing either check breaks this obligation. -/
theorem validation_checks_in_source :
    Gen.wantCheckedAgainstAdvertised = true ∧ Gen.haveCheckedAgainstStore = true := by decide

/-! ## Shallow boundaries on the wire.

A shallow receiver announces its whole boundary in every request — whatever the depth argument
(none, 0, finite, infinite), with or without deepen-since / deepen-not, protocol v0/v1 or v2. -/

open Dulwich.Shallow in
theorem request_announces_boundary (st : ClientSt) (wants : List Id) (depthOpt : Option Nat)
    (since exclude v2 : Bool) :
    shallowLines (mkRequest st wants depthOpt since exclude v2) = st.shallow := by
  have nil : shallowLines [] = [] := rfl
  have one : ∀ e, shallowLines [e] = match e with | .shallow x => [x] | _ => [] :=
    fun e => by cases e <;> rfl
  have announce : ∀ g : Bool, (if (g || Gen.headAnnouncesWhenShallow && !st.shallow.isEmpty) = true
      then st.shallow else []) = st.shallow := by
    intro g
    cases hs : st.shallow with
    | nil => exact ite_self _
    | cons a l => simp [Gen.headAnnouncesWhenShallow]
  unfold mkRequest
  simp only [shallowLines_append, shallowLines_want, shallowLines_shallow,
    apply_ite shallowLines, nil, one, ite_self, List.append_nil, List.nil_append]
  cases depthOpt <;> simp only [nil, one, List.append_nil, announce]

open Dulwich.Shallow in
/-- The server never tells the client to unshallow a commit the wants do not reach, at any depth
(the infinite one included): every `unshallow X` names one of the client's shallow commits that is
reachable from this fetch's wants. -/
theorem unshallow_sound (s : Store) (fuel : Nat) (wants clientShallow : List Id) (depth : Nat)
    (a : Answer) (h : shallowAnswer s fuel wants clientShallow depth = .ok a) :
    ∀ x ∈ a.unshallow, Reach s wants x ∧ x ∈ clientShallow := by
  unfold shallowAnswer at h
  split at h
  · cases h
  · rename_i r hr
    cases h
    have hs := findShallow_sound s fuel wants depth r hr
    intro x hx
    -- `Gen.unshallowFromWalk` is evaluated here: `a.unshallow` is the filtered `not_shallow`
    obtain ⟨hx, hc⟩ := List.mem_filter.1 hx
    exact ⟨hs.2 x hx, of_decide_eq_true hc⟩

open Dulwich.Shallow in
/-- …and a new boundary commit is reachable from the wants and was not a boundary of the client. -/
theorem new_shallow_sound (s : Store) (fuel : Nat) (wants clientShallow : List Id) (depth : Nat)
    (a : Answer) (h : shallowAnswer s fuel wants clientShallow depth = .ok a) :
    ∀ x ∈ a.newShallow, Reach s wants x ∧ x ∉ clientShallow := by
  unfold shallowAnswer at h
  split at h
  · cases h
  · rename_i r hr
    cases h
    have hs := findShallow_sound s fuel wants depth r hr
    intro x hx
    obtain ⟨hx, hc⟩ := List.mem_filter.1 hx
    exact ⟨hs.1 x (List.mem_filter.1 hx).1, of_decide_eq_true hc⟩

/-! ## Non-vacuity: a concrete history (root commit 2, child commit 5 sharing a subtree and
carrying a gitlink, a tag 6 of the commit, a tag 7 of the tag) on which the hypotheses of `mof_complete`
hold. -/

def demo : List (Id × Obj) :=
  [(0, .blob), (1, .tree [(.file, 0)]), (2, .commit 1 []),
   (3, .blob), (4, .tree [(.file, 3), (.dir, 1), (.gitlink, 9)]), (5, .commit 4 [2]),
   (6, .tag 5), (7, .tag 6)]

theorem demo_wellTyped : WellTyped (ofList demo) := wellTyped_ofList demo (by decide)

theorem demo_taggedDirect : TaggedDirect (ofList demo) [(5, 6)] := by
  intro x t h
  simp only [List.lookup] at h
  split at h
  · cases h
    rename_i heq
    cases eq_of_beq heq
    exact .inl rfl
  · cases h

/-- Receiver has the root commit; wants the outer tag: newest-first and oldest-first pop orders
yield the same set; the gitlink target 9 is not selected; the root tree 1 of the boundary commit is
selected again (`get_tree_objects` leaves the root out of `remote_has` — over-sending inside the
closure of the wants, which the property allows). -/
example : mof (ofList demo) [] (fun _ _ => 0) 40 [2] [7] [] = .ok [6, 7, 1, 3, 4, 5] := by decide +kernel
example : mof (ofList demo) [] (fun _ t => t.length - 1) 40 [2] [7] [] = .ok [3, 1, 4, 5, 7, 6] := by
  decide +kernel
/-- With `include-tag` the tag of the sent commit travels although only the commit was wanted. -/
example : mof (ofList demo) [(5, 6)] (fun _ _ => 0) 40 [2] [5] [] = .ok [1, 3, 4, 6, 5] := by decide +kernel

example : ∀ x, Reach (ofList demo) [7] x → x ∈ [6, 7, 1, 3, 4, 5] ∨ Reach (ofList demo) (present (ofList demo) [2]) x :=
  mof_complete (ofList demo) [] (fun _ _ => 0) 40 [2] [7] _ demo_wellTyped
    (by intro x t h; simp at h) (by decide +kernel)

/-- Infinite deepen of `main` (7 → commit 5) by a client shallow at 5 and at a commit the wants do not
reach (12, on another root): only 5 is unshallowed. -/
example :
    (Dulwich.Shallow.shallowAnswer (ofList (demo ++ [(10, .blob), (11, .tree [(.file, 10)]), (12, .commit 11 [])]))
      40 [7] [5, 12] 0x7FFFFFFF).map (·.unshallow) = .ok [5] := by decide +kernel

/-! ## Negation witnesses: what the hypotheses are for. -/

/-- `get_tagged` maps the *peeled* target of a tag chain to the outer tag (as
`UploadPackHandler.get_tagged` does): the outer tag 7 is queued as a leaf and yielded, the inner
tag 6 it points to is not — the yielded set is not closed.  (The wants' own closure is still
complete.) -/
theorem autotag_chain_counterexample :
    mof (ofList demo) [(5, 7)] (fun _ _ => 0) 40 [2] [5] [] = .ok [1, 3, 4, 7, 5] ∧
    ofList demo 7 = some (.tag 6) ∧ 6 ∉ [1, 3, 4, 7, 5] := by decide +kernel

/-- A have whose closure the receiver does not hold: the receiver claims commit 2 but lacks its
tree 1's blob 0; the sender (rightly, by the protocol) does not send it and the receiver stays
incomplete.  This is hypothesis `hR` of `transfer_complete`. -/
theorem have_without_closure_counterexample :
    let s := ofList demo
    let r : Store := ofList [(2, .commit 1 []), (1, .tree [(.file, 0)])]
    mof s [] (fun _ _ => 0) 40 [2] [5] [] = .ok [1, 3, 4, 5] ∧
    Reach s [5] 0 ∧ union r (restrict s [1, 3, 4, 5]) 0 = none := by
  refine ⟨by decide +kernel, ?_, by decide +kernel⟩
  exact .step (.step (.step (.root (.head _)) (o := .commit 4 [2]) rfl (.head _))
    (o := .tree [(.file, 3), (.dir, 1), (.gitlink, 9)]) rfl (.tail _ (.head _)))
    (o := .tree [(.file, 0)]) rfl (.head _)

/-- Gitlinks are not edges: the submodule commit 9 named by tree 4 is not reachable. -/
theorem gitlink_not_followed : ¬ Reach (ofList demo) [7] 9 := fun h =>
  absurd ((closure_eq_reach (ofList demo) 40 [7] [2, 0, 1, 3, 4, 5, 6, 7] (by decide +kernel) 9).2 h)
    (by decide)

/-- The mode classification the walk uses agrees with `S_ISGITLINK` / `S_ISDIR` on git's modes. -/
theorem kind_of_git_modes :
    kindOfMode 0o160000 = .gitlink ∧ kindOfMode 0o040000 = .dir ∧ kindOfMode 0o100644 = .file ∧
    kindOfMode 0o100755 = .file ∧ kindOfMode 0o120000 = .file := by decide

end Dulwich.Props.C05
