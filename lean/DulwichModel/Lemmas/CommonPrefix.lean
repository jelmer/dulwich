/- Length of the longest common prefix of two lists.  Model/Index.lean (`commonPrefixLen`, on the bytes of two paths:
   `_compress_path` of index version 4) and Model/Checkout.lean (`commonLen`, on the components of two paths: the cache
   of `verify_leading_dirs`) each count it by the same recursion.  Stated for any function `f` with the defining
   equations; a copy instantiates with `(fun _ => rfl) (fun a => by cases a <;> rfl) (fun _ _ _ _ => rfl)`.
   Core Lean only. -/

namespace Dulwich.CommonPrefix

variable {α : Type} [DecidableEq α] {f : List α → List α → Nat}
  (hl : ∀ b, f [] b = 0) (hr : ∀ a, f a [] = 0)
  (hstep : ∀ x a y b, f (x :: a) (y :: b) = if x = y then f a b + 1 else 0)
include hl hr hstep

theorem spec (a b : List α) : a.take (f a b) = b.take (f a b) ∧ f a b ≤ a.length ∧ f a b ≤ b.length := by
  induction a generalizing b with
  | nil => simp [hl]
  | cons x a ih =>
    cases b with
    | nil => simp [hr]
    | cons y b =>
      rw [hstep]
      split
      · next e => simpa [e] using ih b
      · simp

end Dulwich.CommonPrefix
