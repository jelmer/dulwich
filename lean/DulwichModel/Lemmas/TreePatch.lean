/-
  commit_tree_changes (C12).  The three loops, each by what it leaves at every name (through `find`): `ctcDirect_eq` and
  `groupAll_spec` on any change list, `delAll_spec`, `groups_fold_spec` and `ctcSets_spec` on lists that name nothing twice.
  A well-formed tree as the finite map `Tree.get : Path → Option Leaf`, and the change lists that take a tree `a` to a tree
  `b`, characterised on that map (`Patch`: closed under "the nested changes below a name", its direct parts read off the map
  at one-component paths): commit_tree_changes on such a list returns `b` (`commitTreeChanges_patch`).  The list made from
  any change list whose patched listing is valid is one (`commitTreeChanges_applyChanges`), and so is the one made from an
  exact diff of two trees (`commitTreeChanges_exact_diff`, what the property theorem rests on).
-/
import DulwichModel.Lemmas.TreeOps

namespace Dulwich.TreeOps

/-! ### commit_tree_changes: the three loops

The first loop sorts the changes into three kinds: a one-component path without a value is a direct removal (`delName`; all
of them `dDels`, carried out by `delAll`), one with a value a direct entry to store in the third loop (`setEntry`, `dSets`),
a longer path a change for the sub-tree at its first component (`nestedChange`, `nestedOf`; `groupAll` collects them by that
name for the second loop). -/

def delName : TChange → Option Name
  | ([n], none) => some n
  | _ => none

def setEntry : TChange → Option (Name × Leaf)
  | ([n], some l) => some (n, l)
  | _ => none

def nestedChange : TChange → Option (Name × TChange)
  | (n :: m :: q, v) => some (n, (m :: q, v))
  | _ => none

def dDels (cs : List TChange) : List Name := cs.filterMap delName

def dSets (cs : List TChange) : List (Name × Leaf) := cs.filterMap setEntry

def nestedOf (cs : List TChange) : List (Name × TChange) := cs.filterMap nestedChange

def delAll : Tree → List Name → Option Tree
  | t, [] => some t
  | t, n :: ns => match t.del n with
    | none => none
    | some t' => delAll t' ns

def groupAll (gs : List (Name × List TChange)) (nd : List (Name × TChange)) : List (Name × List TChange) :=
  nd.foldl (fun gs x => groupAdd x.1 x.2 gs) gs

theorem ctcDirect_eq (cs : List TChange) (hne : ∀ c ∈ cs, c.1 ≠ []) :
    ∀ (t : Tree) (gs : List (Name × List TChange)) (ss : List (Name × Leaf)),
      ctcDirect t gs ss cs = match delAll t (dDels cs) with
        | none => .error .key
        | some t' => .ok (t', groupAll gs (nestedOf cs), ss ++ dSets cs) := by
  induction cs with
  | nil => intro t gs ss; simp [ctcDirect, dDels, delAll, groupAll, nestedOf, dSets]
  | cons c cs ih =>
    intro t gs ss
    have ih' := ih (fun c hc => hne c (List.mem_cons_of_mem _ hc))
    obtain ⟨_ | ⟨n, _ | ⟨m, q⟩⟩, v⟩ := c
    · exact absurd rfl (hne _ List.mem_cons_self)
    · cases v with
      | none =>
        simp only [ctcDirect, dDels, nestedOf, dSets, List.filterMap_cons, delName, setEntry, nestedChange, delAll]
        cases t.del n with
        | none => rfl
        | some t' => exact ih' _ _ _
      | some l =>
        simp only [ctcDirect, dDels, nestedOf, dSets, List.filterMap_cons, delName, setEntry, nestedChange, ih',
          List.append_assoc, List.singleton_append]
    · simp only [ctcDirect, dDels, nestedOf, dSets, List.filterMap_cons, delName, setEntry, nestedChange, ih',
        groupAll, List.foldl_cons]

/-! #### groups -/

theorem assoc_groupAdd (n : Name) (c : TChange) (gs : List (Name × List TChange)) (k : Name) :
    assoc (groupAdd n c gs) k = if k = n then some ((assoc gs n).getD [] ++ [c]) else assoc gs k := by
  induction gs with
  | nil =>
    simp only [groupAdd, assoc_cons, eq_comm (a := n)]
    rfl
  | cons g gs ih =>
    obtain ⟨m, l⟩ := g
    simp only [groupAdd]
    by_cases hmn : m = n
    · subst hmn
      rw [if_pos rfl]
      simp only [assoc_cons, eq_comm (a := m)]
      by_cases h : k = m <;> simp [h]
    · rw [if_neg hmn]
      simp only [assoc_cons, ih, eq_comm (a := m)]
      by_cases h : k = m
      · simp [h, hmn]
      · simp [h, Ne.symm hmn]

theorem gnames_groupAdd (n : Name) (c : TChange) (gs : List (Name × List TChange)) (k : Name) :
    k ∈ gnames (groupAdd n c gs) ↔ k = n ∨ k ∈ gnames gs := by
  rw [mem_gnames_iff, mem_gnames_iff, assoc_groupAdd]
  by_cases hk : k = n <;> simp [hk]

theorem nodup_groupAdd (n : Name) (c : TChange) (gs : List (Name × List TChange)) (h : (gnames gs).Nodup) :
    (gnames (groupAdd n c gs)).Nodup := by
  induction gs with
  | nil => simp [groupAdd, gnames]
  | cons g gs ih =>
    obtain ⟨m, l⟩ := g
    have h' := List.nodup_cons.mp h
    simp only [groupAdd]
    by_cases hmn : m = n
    · rw [if_pos hmn]; exact h
    · rw [if_neg hmn]
      refine List.nodup_cons.mpr ⟨fun hm => ?_, ih h'.2⟩
      rcases (gnames_groupAdd n c gs m).mp hm with h1 | h1
      · exact hmn h1
      · exact h'.1 h1

/-- the nested changes below the name `k`, in order, `k` stripped: the group `groupAll` makes for `k` -/
def subOf (k : Name) (nd : List (Name × TChange)) : List TChange :=
  nd.filterMap (fun x => if x.1 = k then some x.2 else none)

theorem subOf_cons (k : Name) (x : Name × TChange) (nd : List (Name × TChange)) :
    subOf k (x :: nd) = (if x.1 = k then [x.2] else []) ++ subOf k nd := by
  simp only [subOf, List.filterMap_cons]
  by_cases h : x.1 = k <;> simp [h]

theorem groupAll_spec (nd : List (Name × TChange)) :
    ∀ gs : List (Name × List TChange), (gnames gs).Nodup →
      (gnames (groupAll gs nd)).Nodup ∧
      ∀ k, assoc (groupAll gs nd) k =
        if subOf k nd = [] then assoc gs k else some ((assoc gs k).getD [] ++ subOf k nd) := by
  induction nd with
  | nil => intro gs h; exact ⟨h, fun k => rfl⟩
  | cons x nd ih =>
    intro gs h
    have := ih (groupAdd x.1 x.2 gs) (nodup_groupAdd _ _ _ h)
    refine ⟨this.1, fun k => ?_⟩
    show assoc (groupAll (groupAdd x.1 x.2 gs) nd) k = _
    rw [this.2 k, assoc_groupAdd, subOf_cons]
    by_cases hk : x.1 = k
    · subst hk
      by_cases hs : subOf x.1 nd = [] <;> simp [hs, List.append_assoc]
    · simp [hk, Ne.symm hk]

/-! #### the three folds -/

theorem delAll_spec : ∀ (ns : List Name) (t : Tree), t.WF = true → ns.Nodup → (∀ n ∈ ns, t.find n ≠ none) →
    ∃ t1, delAll t ns = some t1 ∧ t1.WF = true ∧ ∀ k, t1.find k = if k ∈ ns then none else t.find k := by
  intro ns
  induction ns with
  | nil => intro t hwf _ _; exact ⟨t, rfl, hwf, fun k => rfl⟩
  | cons n ns ih =>
    intro t hwf hnd hex
    have hnd' := List.nodup_cons.mp hnd
    obtain ⟨t', hd, hwf', hf⟩ := del_spec hwf (hex n List.mem_cons_self)
    obtain ⟨t1, h1, hwf1, hfind⟩ := ih t' hwf' hnd'.2 (fun m hm => by
      rw [hf, if_neg (fun hh : m = n => hnd'.1 (hh ▸ hm))]
      exact hex m (List.mem_cons_of_mem _ hm))
    refine ⟨t1, by simp only [delAll, hd, h1], hwf1, fun k => ?_⟩
    rw [hfind, hf]
    by_cases hk : k = n <;> simp [hk]

theorem ctcSets_spec : ∀ (ss : List (Name × Leaf)) (t : Tree), t.WF = true →
    (∀ s ∈ ss, isDirMode s.2.mode = false) → (gnames ss).Nodup →
    (ctcSets t ss).WF = true ∧
    ∀ k, (ctcSets t ss).find k = match assoc ss k with
      | some l => some (.file l)
      | none => t.find k := by
  intro ss
  induction ss with
  | nil => intro t hwf _ _; exact ⟨hwf, fun k => rfl⟩
  | cons s ss ih =>
    intro t hwf hl hnd
    have hnd' := List.nodup_cons.mp hnd
    have := ih (t.set s.1 (.file s.2)) (set_WF hwf (by simp [Node.ok, hl s List.mem_cons_self]))
      (fun x hx => hl x (List.mem_cons_of_mem _ hx)) hnd'.2
    refine ⟨this.1, fun k => ?_⟩
    show (ctcSets (t.set s.1 (.file s.2)) ss).find k = _
    rw [this.2 k, assoc_cons, find_set]
    by_cases hk : s.1 = k
    · subst hk
      simp [(assoc_none_iff ss s.1).mpr hnd'.1]
    · simp [hk, Ne.symm hk]

/-- what the second loop needs of a group `g` met at tree `t`: the sub-tree at its name can be loaded, the
recursive call on it yields `r`, and if `r` is empty the name is there to be deleted -/
def GroupOk (rec : Tree → List TChange → Except CtcErr Tree) (r : Tree) (t : Tree) (g : Name × List TChange) : Prop :=
  ∃ sub, ctcOrig t g.1 = .ok sub ∧ rec sub g.2 = .ok r ∧ r.WF = true ∧ (r.isNil = true → t.find g.1 ≠ none)

theorem ctcGroup_spec {rec : Tree → List TChange → Except CtcErr Tree} {r t : Tree} {g : Name × List TChange}
    (hwf : t.WF = true) (hg : GroupOk rec r t g) :
    ∃ t', ctcGroup rec (.ok t) g = .ok t' ∧ t'.WF = true ∧
      ∀ k, t'.find k = if k = g.1 then (if r.isNil then none else some (.dir r)) else t.find k := by
  obtain ⟨sub, horig, hrec, hrwf, hnil⟩ := hg
  by_cases hn : r.isNil = true
  · obtain ⟨t', hd, hwf', hf⟩ := del_spec hwf (hnil hn)
    exact ⟨t', by simp [ctcGroup, horig, hrec, hn, hd], hwf', fun k => by rw [hf, hn]; rfl⟩
  · have hn' : r.isNil = false := by simpa using hn
    exact ⟨t.set g.1 (.dir r), by simp [ctcGroup, horig, hrec, hn'], set_WF hwf (by simp [Node.ok, hn', hrwf]),
      fun k => by rw [find_set, hn']; rfl⟩

theorem groups_fold_spec (rec : Tree → List TChange → Except CtcErr Tree) (rb : Name → Tree) :
    ∀ (G : List (Name × List TChange)) (t1 : Tree), t1.WF = true → (gnames G).Nodup →
      (∀ g ∈ G, GroupOk rec (rb g.1) t1 g) →
      ∃ t2, G.foldl (ctcGroup rec) (.ok t1) = .ok t2 ∧ t2.WF = true ∧
        ∀ k, t2.find k = if k ∈ gnames G then (if (rb k).isNil then none else some (.dir (rb k))) else t1.find k := by
  intro G
  induction G with
  | nil => intro t1 hwf _ _; exact ⟨t1, rfl, hwf, fun k => rfl⟩
  | cons g G ih =>
    intro t1 hwf hnd hg
    have hnd' := List.nodup_cons.mp hnd
    obtain ⟨t1', hs, hwf', hf'⟩ := ctcGroup_spec hwf (hg g List.mem_cons_self)
    -- the later groups have other names, so they find at `t1'` what they found at `t1`
    obtain ⟨t2, h2, hwf2, hf2⟩ := ih t1' hwf' hnd'.2 fun g' hg' => by
      have hfe : t1'.find g'.1 = t1.find g'.1 := by
        rw [hf', if_neg (fun heq : g'.1 = g.1 => hnd'.1 (show g.1 ∈ gnames G from heq ▸ mem_gnames hg'))]
      simpa only [GroupOk, ctcOrig, hfe] using hg g' (List.mem_cons_of_mem _ hg')
    refine ⟨t2, by rw [List.foldl_cons, hs, h2], hwf2, fun k => ?_⟩
    rw [hf2, hf']
    show _ = if k ∈ g.1 :: gnames G then _ else _
    by_cases hk : k = g.1
    · simp [hk, show g.1 ∉ gnames G from hnd'.1]
    · simp [hk]

/-! #### direct and nested parts of a change list -/

theorem delName_eq_some {c : TChange} {k : Name} : delName c = some k ↔ c = ([k], none) := by
  obtain ⟨_ | ⟨n, _ | _⟩, _ | l⟩ := c <;> simp [delName]

theorem setEntry_eq_some {c : TChange} {s : Name × Leaf} : setEntry c = some s ↔ c = ([s.1], some s.2) := by
  obtain ⟨_ | ⟨n, _ | _⟩, _ | l⟩ := c <;> simp [setEntry, Prod.ext_iff]

theorem mem_dDels {cs : List TChange} {k : Name} : k ∈ dDels cs ↔ ([k], none) ∈ cs := by
  simp [dDels, List.mem_filterMap, delName_eq_some]

theorem mem_dSets {cs : List TChange} {s : Name × Leaf} : s ∈ dSets cs ↔ ([s.1], some s.2) ∈ cs := by
  simp [dSets, List.mem_filterMap, setEntry_eq_some]

theorem nodup_direct {cs : List TChange} (h : (cs.map (·.1)).Nodup) : (dDels cs).Nodup ∧ (gnames (dSets cs)).Nodup := by
  rw [List.Nodup, List.pairwise_map] at h
  constructor
  · rw [dDels, List.Nodup, List.pairwise_filterMap]
    refine h.imp fun {c c'} hne n hn n' hn' heq => hne ?_
    rw [delName_eq_some.mp hn, delName_eq_some.mp hn', heq]
  · rw [gnames, dSets, List.Nodup, List.pairwise_map, List.pairwise_filterMap]
    refine h.imp fun {c c'} hne s hs s' hs' heq => hne ?_
    rw [setEntry_eq_some.mp hs, setEntry_eq_some.mp hs', heq]

/-- `subOf k (nestedOf ·)` on one change: the change with `k` stripped if its path goes on below `k` -/
def stripT (k : Name) (c : TChange) : Option TChange :=
  (nestedChange c).bind (fun x => if x.1 = k then some x.2 else none)

theorem subOf_nestedOf (k : Name) (cs : List TChange) : subOf k (nestedOf cs) = cs.filterMap (stripT k) :=
  List.filterMap_filterMap ..

theorem stripT_eq_some {k : Name} {c0 c : TChange} : stripT k c0 = some c ↔ c.1 ≠ [] ∧ c0 = (k :: c.1, c.2) := by
  constructor
  · intro h
    obtain ⟨_ | ⟨n, _ | ⟨m, q⟩⟩, v⟩ := c0
    · cases h
    · cases h
    · rw [stripT, nestedChange, Option.bind_some] at h
      split at h
      · rename_i hn
        cases h
        exact ⟨List.cons_ne_nil _ _, hn ▸ rfl⟩
      · cases h
  · rintro ⟨hne, rfl⟩
    obtain ⟨m, q, hq⟩ := List.exists_cons_of_ne_nil hne
    obtain ⟨p, v⟩ := c
    cases hq
    exact if_pos rfl

theorem mem_subOf {k : Name} {cs : List TChange} {c : TChange} :
    c ∈ subOf k (nestedOf cs) ↔ c.1 ≠ [] ∧ (k :: c.1, c.2) ∈ cs := by
  rw [subOf_nestedOf, List.mem_filterMap]
  constructor
  · rintro ⟨c0, hc0, hs⟩
    obtain ⟨hne, rfl⟩ := stripT_eq_some.mp hs
    exact ⟨hne, hc0⟩
  · exact fun ⟨hne, hc⟩ => ⟨_, hc, stripT_eq_some.mpr ⟨hne, rfl⟩⟩

theorem le_maxLen : ∀ (cs : List TChange), ∀ c ∈ cs, c.1.length ≤ maxLen cs := by
  intro cs
  induction cs with
  | nil => intro c hc; cases hc
  | cons x xs ih =>
    intro c hc
    rcases List.mem_cons.mp hc with rfl | hc
    · exact Nat.le_max_left _ _
    · exact Nat.le_trans (ih c hc) (Nat.le_max_right _ _)

/-! ### a well-formed tree as a finite map from paths to leaves -/

/-- the sub-tree `t` holds at `k`, the empty tree if it holds a leaf or nothing there: with `leafAt`, the two halves of
`t.find k` (`ctcOrig` is `dirOr` with an error for a leaf) -/
def dirOr (t : Tree) (k : Name) : Tree :=
  match t.find k with
  | some (.dir s) => s
  | _ => .nil

theorem dirOr_WF {t : Tree} (h : t.WF = true) (k : Name) : (dirOr t k).WF = true := by
  unfold dirOr
  split
  · rename_i hf; exact (find_dir h hf).2
  · rfl

def leafAt (t : Tree) (k : Name) : Option Leaf :=
  match t.find k with
  | some (.file l) => some l
  | _ => none

theorem leafAt_eq_some {t : Tree} {k : Name} {l : Leaf} : leafAt t k = some l ↔ t.find k = some (.file l) := by
  unfold leafAt
  rcases t.find k with _ | l' | s <;> simp

theorem dirOr_of_leafAt {t : Tree} {k : Name} (h : leafAt t k ≠ none) : dirOr t k = .nil := by
  rw [leafAt] at h
  rw [dirOr]
  revert h
  rcases t.find k with _ | l | s
  · exact fun _ => rfl
  · exact fun _ => rfl
  · exact fun h => absurd rfl h

/-- a tree as a finite map from paths to leaves; its graph is the flat listing (`lookupL_flatten_get`) -/
def Tree.get : Tree → Path → Option Leaf
  | _, [] => none
  | t, [k] => leafAt t k
  | t, k :: m :: q => (dirOr t k).get (m :: q)

theorem get_nil (p : Path) : Tree.nil.get p = none := by
  induction p with
  | nil => rfl
  | cons k q ih =>
    cases q with
    | nil => rfl
    | cons m q => exact ih

theorem lookupL_flatten_get {t : Tree} (hwf : t.WF = true) (p : Path) :
    lookupL t.flatten p = (t.get p).map fun l => ⟨p, l.mode, l.id⟩ := by
  induction p generalizing t with
  | nil => exact lookupL_flatten_nil t
  | cons k q ih =>
    rw [lookupL_flatten_find hwf]
    cases q with
    | nil =>
      show _ = (leafAt t k).map _
      unfold leafAt
      rcases t.find k with _ | l | s
      · rfl
      · rfl
      · exact congrArg _ (lookupL_flatten_nil s)
    | cons m q =>
      show _ = ((dirOr t k).get (m :: q)).map _
      unfold dirOr
      rcases hf : t.find k with _ | l | s
      · rw [get_nil]; rfl
      · rw [get_nil]; rfl
      · rw [flattenN, ih (find_dir hwf hf).2, Option.map_map]
        rfl

theorem get_eq {t : Tree} (hwf : t.WF = true) (p : Path) : t.get p = (lookupL t.flatten p).map fun e => ⟨e.mode, e.id⟩ := by
  rw [lookupL_flatten_get hwf, Option.map_map]
  exact (Option.map_id' (x := t.get p)).symm

theorem get_ext {a b : Tree} (ha : a.WF = true) (hb : b.WF = true) (h : ∀ p, a.get p = b.get p) : a = b :=
  flatten_inj ha hb <| sorted_ext (flatten_sorted ha) (flatten_sorted hb) fun p => by
    rw [lookupL_flatten_get ha, lookupL_flatten_get hb, h]

theorem tree_ext_parts {a b : Tree} (ha : a.WF = true) (hb : b.WF = true) (hL : ∀ k, leafAt a k = leafAt b k)
    (hT : ∀ k, dirOr a k = dirOr b k) : a = b :=
  get_ext ha hb fun p => match p with
    | [] => rfl
    | [k] => hL k
    | k :: m :: q => congrArg (·.get (m :: q)) (hT k)

/-! ### change lists that take `a` to `b` -/

/-- `cs` can be handed to commit_tree_changes to turn `a` into `b`.  Entries that `a` already holds may be installed again,
in any order. -/
structure Patch (a b : Tree) (cs : List TChange) : Prop where
  nodup : (cs.map (·.1)).Nodup
  sound : ∀ c ∈ cs, b.get c.1 = c.2 ∧ (c.2 = none → a.get c.1 ≠ none)
  complete : ∀ p, a.get p ≠ b.get p → (p, b.get p) ∈ cs

namespace Patch
variable {a b : Tree} {cs : List TChange}

theorem ne_nil (h : Patch a b cs) : ∀ c ∈ cs, c.1 ≠ [] := fun c hc hp => by
  have := h.sound c hc
  rw [hp] at this
  exact this.2 this.1.symm rfl

theorem sub (h : Patch a b cs) (k : Name) : Patch (dirOr a k) (dirOr b k) (subOf k (nestedOf cs)) where
  nodup := by
    have := h.nodup
    rw [List.Nodup, List.pairwise_map] at this
    rw [subOf_nestedOf, List.Nodup, List.pairwise_map, List.pairwise_filterMap]
    refine this.imp fun {c c'} hne d hd d' hd' heq => hne ?_
    rw [(stripT_eq_some.mp hd).2, (stripT_eq_some.mp hd').2, heq]
  sound := fun c hc => by
    obtain ⟨hne, hc⟩ := mem_subOf.mp hc
    obtain ⟨m, q, hq⟩ := List.exists_cons_of_ne_nil hne
    have := h.sound _ hc
    rw [hq] at this ⊢
    exact this
  complete := fun p hp => by
    rcases p with _ | ⟨m, q⟩
    · exact absurd rfl hp
    · exact mem_subOf.mpr ⟨List.cons_ne_nil _ _, h.complete (k :: m :: q) hp⟩

theorem sub_eq (h : Patch a b cs) (ha : a.WF = true) (hb : b.WF = true) {k : Name} (hG : subOf k (nestedOf cs) = []) :
    dirOr a k = dirOr b k :=
  get_ext (dirOr_WF ha k) (dirOr_WF hb k) fun p => Classical.byContradiction fun hp => by
    have := (h.sub k).complete p hp
    rw [hG] at this
    cases this

theorem sub_nil (h : Patch a b cs) {k : Name} (h1 : dirOr a k = .nil) (h2 : dirOr b k = .nil) :
    subOf k (nestedOf cs) = [] :=
  List.eq_nil_iff_forall_not_mem.mpr fun c hc => by
    have := (h.sub k).sound c hc
    rw [h1, h2, get_nil] at this
    exact this.2 this.1.symm rfl

theorem mem_dDels_iff (h : Patch a b cs) {k : Name} : k ∈ dDels cs ↔ leafAt b k = none ∧ leafAt a k ≠ none := by
  rw [mem_dDels]
  exact ⟨fun hc => ⟨(h.sound _ hc).1, (h.sound _ hc).2 rfl⟩, fun ⟨hb, ha⟩ => hb ▸ h.complete [k] (fun e => ha (e.trans hb))⟩

theorem of_mem_dSets (h : Patch a b cs) {s : Name × Leaf} (hs : s ∈ dSets cs) : leafAt b s.1 = some s.2 :=
  (h.sound _ (mem_dSets.mp hs)).1

theorem assoc_dSets (h : Patch a b cs) (k : Name) :
    (∀ l, assoc (dSets cs) k = some l → leafAt b k = some l) ∧
    (assoc (dSets cs) k = none → leafAt b k = none ∨ leafAt a k = leafAt b k) := by
  refine ⟨fun l hl => h.of_mem_dSets (assoc_mem hl), fun hn => ?_⟩
  cases hb : leafAt b k with
  | none => exact .inl rfl
  | some l =>
    refine .inr (Classical.byContradiction fun hne => ?_)
    have := h.complete [k] (fun e => hne (e.trans hb))
    have hm : (k, l) ∈ dSets cs := mem_dSets.mpr (by rwa [show b.get [k] = some l from hb] at this)
    exact (assoc_none_iff _ k).mp hn (mem_gnames hm)

end Patch

/-! ### commit_tree_changes on a patch -/

theorem ctcOrig_of_leafAt {t : Tree} {k : Name} (h : leafAt t k = none) : ctcOrig t k = .ok (dirOr t k) := by
  rw [leafAt] at h
  rw [dirOr, ctcOrig]
  revert h
  rcases t.find k with _ | l | s
  · exact fun _ => rfl
  · nofun
  · exact fun _ => rfl

/-- A name `k` with nested changes, met by the second loop at the tree `a1` the first loop left: the sub-tree of `a` can
be loaded, and `k` is there to be deleted if the sub-tree of `b` is empty. -/
theorem ctc_group_ok {a b a1 : Tree} {cs : List TChange} (hp : Patch a b cs) (k : Name)
    (hf1 : a1.find k = if k ∈ dDels cs then none else a.find k) (hG : subOf k (nestedOf cs) ≠ []) :
    ctcOrig a1 k = .ok (dirOr a k) ∧ ((dirOr b k).isNil = true → a1.find k ≠ none) := by
  by_cases hd : k ∈ dDels cs
  · -- a leaf of `a` was removed: the group starts from the empty tree, and `b` gets a sub-tree
    have hTa := dirOr_of_leafAt (hp.mem_dDels_iff.mp hd).2
    rw [if_pos hd] at hf1
    refine ⟨?_, fun hn => absurd (hp.sub_nil hTa (isNil_iff.mp hn)) hG⟩
    rw [ctcOrig, hf1, hTa]
  · rw [if_neg hd] at hf1
    -- `a` holds no leaf here: one that is not removed stays in `b`, and two leaves leave no room for nested changes
    have hla : leafAt a k = none := Classical.byContradiction fun hla =>
      hG (hp.sub_nil (dirOr_of_leafAt hla) (dirOr_of_leafAt fun hlb => hd (hp.mem_dDels_iff.mpr ⟨hlb, hla⟩)))
    have h1 : leafAt a1 k = leafAt a k ∧ dirOr a1 k = dirOr a k := by
      rw [leafAt, dirOr, hf1]
      exact ⟨rfl, rfl⟩
    refine ⟨by rw [ctcOrig_of_leafAt (h1.1.trans hla), h1.2], fun hn h0 => hG (hp.sub_nil ?_ (isNil_iff.mp hn))⟩
    rw [dirOr, ← hf1, h0]

/-- One name `k` after the three loops (`a1`, `a2`, `r` the trees they leave): `r` holds at `k` the leaf and the
sub-tree that `b` holds. -/
theorem ctc_parts {a b a1 a2 r : Tree} {cs : List TChange} (ha : a.WF = true) (hb : b.WF = true) (hp : Patch a b cs)
    (k : Name) (hf1 : a1.find k = if k ∈ dDels cs then none else a.find k)
    (hf2 : a2.find k = if subOf k (nestedOf cs) ≠ [] then
      (if (dirOr b k).isNil then none else some (.dir (dirOr b k))) else a1.find k)
    (hf3 : r.find k = match assoc (dSets cs) k with
      | some l => some (.file l)
      | none => a2.find k) :
    leafAt r k = leafAt b k ∧ dirOr r k = dirOr b k := by
  rw [leafAt, dirOr, hf3]
  cases hS : assoc (dSets cs) k with
  | some l =>
    -- the third loop stores the leaf of `b`
    have hlb := (hp.assoc_dSets k).1 l hS
    exact ⟨hlb.symm, (dirOr_of_leafAt (by rw [hlb]; nofun)).symm⟩
  | none =>
    have hS2 := (hp.assoc_dSets k).2 hS
    rw [hf2]
    by_cases hG : subOf k (nestedOf cs) = []
    · -- no nested changes: the sub-trees agree; the leaf is removed, kept or absent, as in `b`
      have hT := hp.sub_eq ha hb hG
      rw [if_neg (fun h => h hG), hf1]
      by_cases hd : k ∈ dDels cs
      · obtain ⟨hlb, hla⟩ := hp.mem_dDels_iff.mp hd
        rw [if_pos hd]
        exact ⟨hlb.symm, (dirOr_of_leafAt hla).symm.trans hT⟩
      · rw [if_neg hd]
        refine ⟨?_, hT⟩
        rcases hS2 with hlb | h
        · exact (Classical.byContradiction fun hla => hd (hp.mem_dDels_iff.mpr ⟨hlb, hla⟩) : leafAt a k = none).trans hlb.symm
        · exact h
    · -- nested changes: the second loop stores the sub-tree of `b`, which holds no leaf here (it would be a leaf of `a`
      -- as well, leaving no room for nested changes)
      rw [if_pos hG]
      have hlb : leafAt b k = none := Classical.byContradiction fun hlb =>
        hG (hp.sub_nil (dirOr_of_leafAt fun h => hlb ((hS2.resolve_left hlb).symm.trans h)) (dirOr_of_leafAt hlb))
      rw [hlb]
      by_cases hn : (dirOr b k).isNil = true
      · rw [if_pos hn]
        exact ⟨rfl, (isNil_iff.mp hn).symm⟩
      · rw [if_neg hn]
        exact ⟨rfl, rfl⟩

theorem ctc_step (fuel : Nat) {a b : Tree} {cs : List TChange} (ha : a.WF = true) (hb : b.WF = true)
    (hp : Patch a b cs)
    (hrec : ∀ k, subOf k (nestedOf cs) ≠ [] → ctcAux fuel (dirOr a k) (subOf k (nestedOf cs)) = .ok (dirOr b k)) :
    ctcAux (fuel + 1) a cs = .ok b := by
  have hnd := nodup_direct hp.nodup
  obtain ⟨a1, hda, hwf1, hf1⟩ := delAll_spec _ a ha hnd.1 (fun n hn h => by
    have := (hp.mem_dDels_iff.mp hn).2
    rw [leafAt, h] at this
    exact this rfl)
  have hG := groupAll_spec (nestedOf cs) [] List.nodup_nil
  have hGa : ∀ k, assoc (groupAll [] (nestedOf cs)) k =
      if subOf k (nestedOf cs) = [] then none else some (subOf k (nestedOf cs)) := fun k => by
    rw [hG.2 k]; rfl
  have hGmem : ∀ k, k ∈ gnames (groupAll [] (nestedOf cs)) ↔ subOf k (nestedOf cs) ≠ [] := fun k => by
    rw [mem_gnames_iff, hGa]
    by_cases h : subOf k (nestedOf cs) = [] <;> simp [h]
  obtain ⟨a2, hfold, hwf2, hf2⟩ := groups_fold_spec (ctcAux fuel) (dirOr b) _ a1 hwf1 hG.1 (fun g hg => by
    have hne := (hGmem g.1).mp (mem_gnames hg)
    have hg2 := (assoc_of_mem hG.1 hg).symm.trans (hGa g.1)
    rw [if_neg hne] at hg2
    have hgk := ctc_group_ok hp g.1 (hf1 g.1) hne
    exact ⟨_, hgk.1, Option.some.inj hg2 ▸ hrec g.1 hne, dirOr_WF hb g.1, hgk.2⟩)
  have hS := ctcSets_spec (dSets cs) a2 hwf2 (fun s hs => by
    simpa [Node.ok] using find_ok hb (leafAt_eq_some.mp (hp.of_mem_dSets hs))) hnd.2
  have hres : ctcAux (fuel + 1) a cs = .ok (ctcSets a2 (dSets cs)) := by
    simp only [ctcAux, ctcDirect_eq _ hp.ne_nil, hda, List.nil_append, hfold]
  have hk := fun k => ctc_parts ha hb hp k (hf1 k) (by rw [hf2 k]; simp only [hGmem k]) (hS.2 k)
  rw [hres]
  exact congrArg _ (tree_ext_parts hS.1 hb (fun k => (hk k).1) fun k => (hk k).2)

theorem ctcAux_patch : ∀ (fuel : Nat) {a b : Tree} {cs : List TChange}, a.WF = true → b.WF = true → Patch a b cs →
    (∀ c ∈ cs, c.1.length ≤ fuel) → ctcAux (fuel + 1) a cs = .ok b := by
  intro fuel
  induction fuel with
  | zero =>
    intro a b cs ha hb hp hlen
    refine ctc_step 0 ha hb hp fun k hne => ?_
    obtain ⟨c, hc⟩ := List.exists_mem_of_ne_nil _ hne
    exact absurd (hlen _ (mem_subOf.mp hc).2) (Nat.not_succ_le_zero _)
  | succ f ih =>
    intro a b cs ha hb hp hlen
    exact ctc_step (f + 1) ha hb hp fun k _ =>
      ih (dirOr_WF ha k) (dirOr_WF hb k) (hp.sub k) fun c hc => Nat.le_of_succ_le_succ (hlen _ (mem_subOf.mp hc).2)

theorem commitTreeChanges_patch {a b : Tree} {cs : List TChange} (ha : a.WF = true) (hb : b.WF = true)
    (hp : Patch a b cs) : commitTreeChanges a cs = .ok b :=
  ctcAux_patch _ ha hb hp (le_maxLen cs)

/-! ### the change list made from any change list whose patched listing is valid -/

theorem mem_toTChanges_none {cs : List Change} {p : Path} :
    (p, none) ∈ toTChanges cs ↔ p ∈ removedPaths cs ∧ p ∉ (addedEntries cs).map (·.path) := by
  simp only [toTChanges, List.mem_append, List.mem_map, List.mem_filter, Prod.mk.injEq, reduceCtorEq, and_false,
    exists_false, or_false, and_true, exists_eq_right, Bool.not_eq_true', ← Bool.not_eq_true, List.contains_iff_mem]

theorem mem_toTChanges_some {cs : List Change} {p : Path} {l : Leaf} :
    (p, some l) ∈ toTChanges cs ↔ ⟨p, l.mode, l.id⟩ ∈ addedEntries cs := by
  simp only [toTChanges, List.mem_append, List.mem_map, Prod.mk.injEq, reduceCtorEq, and_false, exists_false, false_or,
    Option.some.injEq]
  constructor
  · rintro ⟨e, he, rfl, rfl⟩; exact he
  · exact fun h => ⟨_, h, rfl, rfl⟩

theorem applyChanges_patch {t t' : Tree} {cs : List Change} (hwf : t.WF = true) (hwf' : t'.WF = true)
    (hA : ((addedEntries cs).map (·.path)).Nodup) (hR : (removedPaths cs).Nodup)
    (hheld : ∀ p ∈ removedPaths cs, (lookupL t.flatten p).isSome)
    (hf : t'.flatten = applyChanges cs t.flatten) : Patch t t' (toTChanges cs) := by
  have hget : ∀ p, t'.get p = ((lastAt (addedEntries cs) p).map fun e => ⟨e.mode, e.id⟩).or
      (if (removedPaths cs).contains p then none else t.get p) := fun p => by
    rw [get_eq hwf', hf, lookupL_applyChanges, get_eq hwf]
    cases lastAt (addedEntries cs) p <;> cases (removedPaths cs).contains p <;> rfl
  refine ⟨?_, fun ⟨p, v⟩ hc => ?_, fun p hp => ?_⟩
  · simp only [toTChanges, List.map_append, List.map_map, Function.comp_def, List.map_id']
    refine List.nodup_append.mpr ⟨hR.filter _, hA, fun p hp q hq heq => ?_⟩
    have h := (List.mem_filter.mp hp).2
    rw [heq, List.contains_iff_mem.mpr hq] at h
    cases h
  · cases v with
    | none =>
      obtain ⟨hr, hn⟩ := mem_toTChanges_none.mp hc
      refine ⟨?_, fun _ h => ?_⟩
      · rw [hget, lastAt_eq_none.mpr hn, List.contains_iff_mem.mpr hr]; rfl
      · have := hheld p hr
        rw [get_eq hwf] at h
        rw [Option.map_eq_none_iff.mp h] at this
        cases this
    | some l =>
      have := (lastAt_eq_some_iff hA).mpr ⟨mem_toTChanges_some.mp hc, rfl⟩
      exact ⟨by rw [hget, this]; rfl, nofun⟩
  · rw [hget] at hp ⊢
    cases hl : lastAt (addedEntries cs) p with
    | some e =>
      obtain ⟨he, rfl⟩ := (lastAt_eq_some_iff hA).mp hl
      exact mem_toTChanges_some.mpr he
    | none =>
      rw [hl] at hp
      by_cases hc : (removedPaths cs).contains p = true
      · rw [Option.map_none, Option.none_or, if_pos hc]
        exact mem_toTChanges_none.mpr ⟨List.contains_iff_mem.mp hc, lastAt_eq_none.mp hl⟩
      · rw [Option.map_none, Option.none_or, if_neg hc] at hp
        exact absurd rfl hp

/-- commit_tree_changes on the change list made from `cs` gives the tree commit_tree builds from the patched listing -/
theorem commitTreeChanges_applyChanges {t : Tree} {cs : List Change} (hwf : t.WF = true)
    (hA : ((addedEntries cs).map (·.path)).Nodup) (hR : (removedPaths cs).Nodup)
    (hheld : ∀ p ∈ removedPaths cs, (lookupL t.flatten p).isSome)
    (hv : validListing (applyChanges cs t.flatten) = true) :
    ∃ t', t'.WF = true ∧ t'.flatten = applyChanges cs t.flatten ∧
      commitTreeChanges t (toTChanges cs) = .ok t' ∧ commitTree (applyChanges cs t.flatten) = some t' := by
  obtain ⟨t', ht', hwf', hf⟩ := buildFrom_spec (t0 := .nil) rfl hv (fun e he => by cases he)
  have hf' : t'.flatten = applyChanges cs t.flatten :=
    hf.trans (sortListing_of_sorted ((flatten_sorted hwf).applyChanges cs))
  exact ⟨t', hwf', hf', commitTreeChanges_patch hwf hwf' (applyChanges_patch hwf hwf' hA hR hheld hf'), ht'⟩

/-! ### the change list made from an exact diff -/

/-- the patched listing of `a` is the listing of `b` (`apply_diff`), so the list is a `Patch a b`; commit_tree plays no part -/
theorem commitTreeChanges_exact_diff {a b : Tree} {cs : List Change} (ha : a.WF = true) (hb : b.WF = true)
    (hA : addedEntries cs = changed a.flatten b.flatten) (hR : removedPaths cs = (changed b.flatten a.flatten).map (·.path)) :
    commitTreeChanges a (toTChanges cs) = .ok b := by
  have hsa := flatten_sorted ha
  have hsb := flatten_sorted hb
  refine commitTreeChanges_patch ha hb (applyChanges_patch ha hb (hA ▸ changed_nodup_paths hsb)
    (hR ▸ changed_nodup_paths hsa) (fun p hp => ?_) (apply_diff hsa hsb hA hR).symm)
  rw [hR] at hp
  obtain ⟨e, he, rfl⟩ := List.mem_map.mp hp
  rw [lookupL_of_mem hsa (List.mem_filter.mp he).1]
  rfl

end Dulwich.TreeOps
