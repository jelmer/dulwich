/-
  C18 — Work tree round trip: checkout then stage reproduces the tree; status is exact.

  The property theorems, what an exact status is (`ExactStatus`), non-vacuity examples and negation witnesses live
  here; helper lemmas are in Lemmas/WorkTree.lean, which begins with the notions the statements use (`StatHonest`, `TreeWF`, `Flat`,
  `NoGoneEntries`).  The model is Model/WorkTree.lean; the constants and the list of compared
  fields come from Gen/WorkTree.lean, which the translator regenerates from /repo on every run.
-/
import DulwichModel.Lemmas.WorkTree

namespace Dulwich.Props.C18
open Dulwich Dulwich.WorkTree

/-! ## 0. what comes from the source: `cleanup_mode`, the stat short-cut, the scan of the index -/

/-- What checkout writes for a tree entry of kind `k` (`os.chmod(path, cleanup_mode(mode))`, or a
symbolic link) is read back by `index_entry_from_stat` as the same kind — which is why the model carries
a `Kind` where the code carries a mode. -/
theorem kind_roundtrip (k : Kind) :
    kindOfMode (cleanupMode (stModeAfterCheckout (modeOfKind k))) = some k := by
  cases k <;> decide

/-- `cleanup_mode` is idempotent and only ever yields the five canonical modes. -/
theorem cleanupMode_canonical (m : Nat) :
    cleanupMode (cleanupMode m) = cleanupMode m ∧
    (cleanupMode m = 0o100644 ∨ cleanupMode m = 0o100755 ∨ cleanupMode m = 0o120000 ∨
     cleanupMode m = 0o40000 ∨ cleanupMode m = 0o160000) := by
  have h : cleanupMode m = 0o100644 ∨ cleanupMode m = 0o100755 ∨ cleanupMode m = 0o120000 ∨
      cleanupMode m = 0o40000 ∨ cleanupMode m = 0o160000 := by
    unfold cleanupMode
    by_cases c1 : fileType m = 10
    · rw [if_pos c1]; exact .inr (.inr (.inl rfl))
    rw [if_neg c1]
    by_cases c2 : fileType m = 4
    · rw [if_pos c2]; exact .inr (.inr (.inr (.inl rfl)))
    rw [if_neg c2]
    by_cases c3 : fileType m = 14
    · rw [if_pos c3]; exact .inr (.inr (.inr (.inr rfl)))
    rw [if_neg c3]
    by_cases c4 : m / Gen.WorkTree.execTestMask % 2 = 1
    · rw [if_pos c4]; exact .inr (.inl rfl)
    · rw [if_neg c4]; exact .inl rfl
  refine ⟨?_, h⟩
  rcases h with h | h | h | h | h <;> rw [h] <;> rfl

/-- The stat short-cut of the source IS the exact comparison of the model: `_stat_matches_entry`,
evaluated from its source by the translator on a grid of (seconds, nanoseconds) time stamps — index
entries with 0 nanoseconds, as `WorkTree.unstage` writes them, included — gives the model's answer in
every row.  A rule that ignores nanoseconds (or any field) changes a row and breaks this theorem. -/
theorem stat_shortcut_as_in_source :
    Gen.WorkTree.statProbes.all (fun r =>
      match r with
      | (trust, sc, sm, sz, ec, em, ez, res) => statMatchesWith trust ⟨sc, sm, sz⟩ ⟨ec, em, ez⟩ == res) = true := by
  decide +kernel

/-- non-vacuity of the probe table: it has rows that differ only in the nanoseconds of an index entry
whose own nanoseconds are 0, answered "no match". -/
example : (true, 100000000007, 100000000007, 4, 100000000007, 100000000000, 4, false) ∈ Gen.WorkTree.statProbes ∧
    (true, 100000000007, 100000000007, 4, 100000000000, 100000000007, 4, false) ∈ Gen.WorkTree.statProbes := by
  decide +kernel

/-- The scan of `get_unstaged_changes` as `scanSlices` models it, serial or divided among threads
(`core.preloadIndex`: one task per entry, whatever the number of workers), visits every index entry exactly once:
the slices, put end to end, are the positions `0 … n-1` in index order.  This is the reason why `unstagedOf` is a
single pass over the index; `unstagedOf` itself does not go through `scanSlices`. -/
theorem scan_slices_cover (n workers : Nat) : (scanSlices n workers).flatten = List.range n := by
  rw [scanSlices, ← List.flatMap_def, List.flatMap_singleton']

/-- … and the source agrees: `get_unstaged_changes`, run from its source by the translator on fake
indexes of 0 … 41 entries with 1 … 16 workers (and serially) with `_check_entry_for_changes` replaced
by a recorder, calls it for every position exactly once.  (For 63 … 4001 entries the translator makes
the same check itself and refuses to translate otherwise.) -/
theorem scan_probes_exact :
    Gen.WorkTree.scanProbes.all (fun r =>
      match r with
      | (n, _, visited) => visited.length == n && (List.range n).all (fun i => visited.contains i)) = true := by
  -- the translator records the visits sorted, so each row is `0 … n-1` itself
  have h : Gen.WorkTree.scanProbes.all (fun r => r.2.2 == List.range r.1) = true := by decide +kernel
  rw [List.all_eq_true] at h ⊢
  intro ⟨n, w, v⟩ hr
  obtain rfl : v = List.range n := beq_iff_eq.mp (h _ hr)
  simp

example : (17, 8, List.range 17) ∈ Gen.WorkTree.scanProbes ∧ (41, 3, List.range 41) ∈ Gen.WorkTree.scanProbes := by
  decide +kernel

/-! ## 1. status is exact -/

/-- What "exact" means: the five lists are the three-way comparison of HEAD, index and directory. -/
def ExactStatus (w : World) (s : Status) : Prop :=
  (∀ p, p ∈ s.add ↔ (w.head.get p = none ∧ ∃ i, w.index.get p = some i)) ∧
  (∀ p, p ∈ s.del ↔ ((∃ h, w.head.get p = some h) ∧ w.index.get p = none)) ∧
  (∀ p, p ∈ s.mod ↔ ∃ h i, w.head.get p = some h ∧ w.index.get p = some i ∧ h ≠ i.entry) ∧
  (∀ p, p ∈ s.unstaged ↔ ∃ i, w.index.get p = some i ∧ wdEntry w.wd p ≠ some i.entry) ∧
  (∀ p, p ∈ s.untracked ↔ ((∃ e, wdEntry w.wd p = some e) ∧ w.index.get p = none))

/-- `staged = {p | head p ≠ index p}`: the union of the three staged lists. -/
theorem exact_staged_union {w : World} {s : Status} (h : ExactStatus w s) (p : Path) :
    p ∈ s.add ++ s.del ++ s.mod ↔ w.head.get p ≠ (w.index.get p).map IEntry.entry := by
  obtain ⟨ha, hd, hm, _, _⟩ := h
  simp only [List.mem_append, ha, hd, hm]
  cases hh : w.head.get p <;> cases hi : w.index.get p <;> simp

/-- The property's second sentence on the model: whatever the working directory, index and HEAD look
like (so: after any sequence of edits), status succeeds and is exact, assuming only the racy-git
hypothesis `StatHonest`. -/
def StatusExactStatement : Prop :=
  ∀ w : World, StatHonest w → ∃ s, status cur w = .ok s ∧ ExactStatus w s

/-- `status_exact`: the full statement, for the code as it is (`cur`), under `StatHonest` alone.  (With the
`legacy` flags it fails on worlds in which `StatHonest` holds: the `legacy_…` witnesses below.) -/
theorem status_exact : StatusExactStatement := fun w hstat =>
  ⟨_, status_cur w, And.intro (fun _ => mem_stagedAdd) ⟨fun _ => mem_stagedDel, fun _ => mem_stagedMod,
    fun _ => mem_unstaged hstat, fun _ => mem_untrackedOf⟩⟩

/-- "normal" mode (the default of `porcelain.status`) changes only the untracked list: every untracked
file is reported either by name or by one of its leading directories, and a directory is reported only
if the index has nothing below it. -/
theorem status_normal_untracked (w : World) (s : Status) (h : statusNormal cur w = .ok s) :
    (∀ u ∈ untrackedOf cur w.wd w.index, collapse w.index u ∈ s.untracked) ∧
    (∀ q ∈ s.untracked, ∃ u ∈ untrackedOf cur w.wd w.index, q = collapse w.index u) ∧
    (∀ u d, (ancestorsOf u).find? (fun d => !hasDescendant w.index d) = some d →
      collapse w.index u = d ++ [slash] ∧ d ∈ ancestorsOf u ∧ hasDescendant w.index d = false) ∧
    (∀ u, (ancestorsOf u).find? (fun d => !hasDescendant w.index d) = none → collapse w.index u = u) := by
  rw [statusNormal, status_cur] at h
  cases h
  refine ⟨fun u hu => ?_, fun q hq => ?_, fun u d hf => ?_, fun u hf => by simp [collapse, hf]⟩
  · exact List.mem_eraseDups.mpr (List.mem_map_of_mem hu)
  · obtain ⟨u, hu, he⟩ := List.mem_map.mp (List.mem_eraseDups.mp hq)
    exact ⟨u, hu, he.symm⟩
  · exact ⟨by simp [collapse, hf], List.mem_of_find?_eq_some hf, by simpa using List.find?_some hf⟩

/-- The same, phrased over the edit operations of the property's quantifier: start anywhere, apply ANY
sequence of edits (modify same/different size, chmod, delete, rmtree, create/replace by file, link or
directory, arbitrary rearrangement, stage, unstage, remove from index, add everything). -/
theorem status_exact_after_edits (env : Env) (w0 : World) (es : List Edit)
    (hstat : StatHonest (runEdits cur env w0 es)) :
    ∃ s, status cur (runEdits cur env w0 es) = .ok s ∧ ExactStatus (runEdits cur env w0 es) s :=
  status_exact _ hstat

/-! ### a non-trivial instance, the witness that `StatHonest` is needed, and regression witnesses for
the behaviour before the fix series (`legacy`) -/

def reg : LinkRes := ⟨.file, none⟩
def pa : Path := [97]            -- a
def pb : Path := [98]            -- b
def pc : Path := [99]            -- c
def pn : Path := [110]           -- n
def pu : Path := [117]           -- u
def pde : Path := [100, 47, 101] -- d/e
def pd : Path := [100]           -- d

/-- HEAD has a, b, c, d/e; the index has a modification of b staged, n added, c removed; in the
directory a was rewritten (new mtime), d/e is a link leading nowhere, u is new. -/
def wDemo : World :=
  { head := [(pa, ⟨.regular, 1⟩), (pb, ⟨.regular, 2⟩), (pc, ⟨.executable, 3⟩), (pde, ⟨.symlink, 4⟩)],
    index := [(pa, ⟨.regular, 1, ⟨5, 5, 10⟩⟩), (pb, ⟨.regular, 7, ⟨6, 6, 3⟩⟩), (pn, ⟨.executable, 8, ⟨6, 6, 1⟩⟩),
              (pde, ⟨.symlink, 4, ⟨5, 5, 9⟩⟩)],
    wd := [(pa, ⟨.regular, 9, ⟨7, 7, 10⟩, reg⟩), (pb, ⟨.regular, 7, ⟨6, 6, 3⟩, reg⟩), (pn, ⟨.executable, 8, ⟨6, 6, 1⟩, reg⟩),
           (pde, ⟨.symlink, 4, ⟨5, 5, 9⟩, ⟨.missing, some pb⟩⟩), (pu, ⟨.regular, 1, ⟨8, 8, 10⟩, reg⟩)] }

example : StatHonest wDemo := by decide +kernel

example : status cur wDemo = .ok ⟨[pn], [pc], [pb], [pa], [pu]⟩ := by decide +kernel

/-- the same state reached by edits from a clean checkout -/
example : status cur (runEdits cur ⟨[], 0⟩
    { head := wDemo.head,
      index := [(pa, ⟨.regular, 1, ⟨5, 5, 10⟩⟩), (pb, ⟨.regular, 2, ⟨5, 5, 3⟩⟩), (pc, ⟨.executable, 3, ⟨5, 5, 2⟩⟩), (pde, ⟨.symlink, 4, ⟨5, 5, 9⟩⟩)],
      wd := [(pa, ⟨.regular, 1, ⟨5, 5, 10⟩, reg⟩), (pb, ⟨.regular, 2, ⟨5, 5, 3⟩, reg⟩), (pc, ⟨.executable, 3, ⟨5, 5, 2⟩, reg⟩),
             (pde, ⟨.symlink, 4, ⟨5, 5, 9⟩, ⟨.missing, some pb⟩⟩)] }
    [.modify pb 7 ⟨6, 6, 3⟩, .stage pb, .create pn ⟨.executable, 8, ⟨6, 6, 1⟩, reg⟩, .stage pn, .rmCached pc, .delete pc,
     .modify pa 9 ⟨7, 7, 10⟩, .create pu ⟨.regular, 1, ⟨8, 8, 10⟩, reg⟩])
    = .ok ⟨[pn], [pc], [pb], [pa], [pu]⟩ := by decide +kernel

/-- Same-size rewrite within the same time stamp: the cached stat key still matches. -/
def wRacy : World :=
  { head := [(pa, ⟨.regular, 1⟩)], index := [(pa, ⟨.regular, 1, ⟨5, 5, 4⟩⟩)],
    wd := [(pa, ⟨.regular, 2, ⟨5, 5, 4⟩, reg⟩)] }

/-- `StatHonest` is needed: without it status reports a clean tree although the file's content
differs from the index. -/
theorem stat_honest_needed_counterexample :
    ¬ StatHonest wRacy ∧ status cur wRacy = .ok ⟨[], [], [], [], []⟩ ∧
    wdEntry wRacy.wd pa ≠ (wRacy.index.get pa).map IEntry.entry := by decide +kernel

/-- chmod +x on a tracked file (stat key differs: ctime moved). -/
def wChmod : World :=
  { head := [(pa, ⟨.regular, 1⟩)], index := [(pa, ⟨.regular, 1, ⟨5, 5, 4⟩⟩)],
    wd := [(pa, ⟨.executable, 1, ⟨6, 5, 4⟩, reg⟩)] }

/-- REGRESSION (fixed: mode-only change): the old code reported nothing, the code now lists `a`. -/
theorem legacy_mode_only_witness :
    StatHonest wChmod ∧ status legacy wChmod = .ok ⟨[], [], [], [], []⟩ ∧
    status cur wChmod = .ok ⟨[], [], [], [pa], []⟩ := by decide +kernel

/-- A file replaced by a link whose target bytes are the old content (same blob id). -/
def wType : World :=
  { head := [(pa, ⟨.regular, 1⟩)], index := [(pa, ⟨.regular, 1, ⟨5, 5, 1⟩⟩)],
    wd := [(pa, ⟨.symlink, 1, ⟨6, 6, 1⟩, ⟨.missing, none⟩⟩)] }

/-- REGRESSION (fixed: type change with the same blob). -/
theorem legacy_type_change_witness :
    StatHonest wType ∧ status legacy wType = .ok ⟨[], [], [], [], []⟩ ∧
    status cur wType = .ok ⟨[], [], [], [pa], []⟩ := by decide +kernel

/-- A tracked directory `d` (with `d/e`) replaced by a file `d`. -/
def wDirFile : World :=
  { head := [(pde, ⟨.regular, 1⟩)], index := [(pde, ⟨.regular, 1, ⟨5, 5, 1⟩⟩)],
    wd := [(pd, ⟨.regular, 2, ⟨6, 6, 3⟩, reg⟩)] }

/-- REGRESSION (fixed: `NotADirectoryError`): now `d/e` is unstaged and `d` untracked, as git says. -/
theorem legacy_notdir_witness :
    StatHonest wDirFile ∧ status legacy wDirFile = .error .notADirectory ∧
    status cur wDirFile = .ok ⟨[], [], [], [pde], [pd]⟩ := by decide +kernel

/-- A modified tracked file whose name is the single byte 0xff. -/
def wNonUtf8 : World :=
  { head := [([255], ⟨.regular, 1⟩)], index := [([255], ⟨.regular, 1, ⟨5, 5, 1⟩⟩)],
    wd := [([255], ⟨.regular, 2, ⟨6, 6, 7⟩, reg⟩)] }

/-- REGRESSION (fixed: `UnicodeDecodeError`). -/
theorem legacy_utf8_witness :
    StatHonest wNonUtf8 ∧ status legacy wNonUtf8 = .error .unicodeDecode ∧
    status cur wNonUtf8 = .ok ⟨[], [], [], [[255]], []⟩ := by decide +kernel

/-- `l -> a` untracked next to the tracked `a`; `k -> d` untracked, `d` a directory; the tracked
link `m -> b` leads nowhere. -/
def wLinks : World :=
  { head := [(pa, ⟨.regular, 1⟩), (pde, ⟨.regular, 2⟩), ([109], ⟨.symlink, 5⟩)],
    index := [(pa, ⟨.regular, 1, ⟨5, 5, 1⟩⟩), (pde, ⟨.regular, 2, ⟨5, 5, 1⟩⟩), ([109], ⟨.symlink, 5, ⟨5, 5, 1⟩⟩)],
    wd := [(pa, ⟨.regular, 1, ⟨5, 5, 1⟩, reg⟩), (pde, ⟨.regular, 2, ⟨5, 5, 1⟩, reg⟩),
           ([109], ⟨.symlink, 5, ⟨5, 5, 1⟩, ⟨.missing, some pb⟩⟩),
           ([108], ⟨.symlink, 3, ⟨6, 6, 1⟩, ⟨.file, some pa⟩⟩), ([107], ⟨.symlink, 4, ⟨6, 6, 1⟩, ⟨.dir, some pd⟩⟩)] }

/-- REGRESSION (fixed: symbolic links in untracked detection): the old code listed the tracked link
`m` and missed the untracked links `l` and `k`; the code now lists exactly `l` and `k`. -/
theorem legacy_untracked_link_witness :
    StatHonest wLinks ∧ status legacy wLinks = .ok ⟨[], [], [], [], [[109]]⟩ ∧
    status cur wLinks = .ok ⟨[], [], [], [], [[108], [107]]⟩ := by decide +kernel

/-! ## 2. checkout: status is clean, and staging everything reproduces the tree -/

/-- Status is clean right after the checkout of any well-formed tree of valid paths. -/
def CleanAfterCheckoutStatement : Prop :=
  ∀ (t : FMap Entry) (obs : Obs), t.keys.all validPath = true → t.keys.all obs.has = true → TreeWF t →
    ∃ w, checkoutFresh t obs = .ok w ∧ status cur w = .ok ⟨[], [], [], [], []⟩

theorem clean_after_checkout : CleanAfterCheckoutStatement := fun _ _ hvalid hobs hwf =>
  ⟨_, checkoutFresh_ok hvalid hobs, (checkedOut_synced hobs hwf).status⟩

/-- non-vacuity: a tree with a file, an executable in a directory, and links leading to a tracked file,
nowhere, and to a directory -/
example : ∃ w, checkoutFresh
      [(pa, ⟨.regular, 1⟩), (pde, ⟨.executable, 2⟩), ([108], ⟨.symlink, 3⟩), ([107], ⟨.symlink, 4⟩), ([109], ⟨.symlink, 5⟩)]
      [(pa, (⟨5, 5, 1⟩, reg)), (pde, (⟨5, 5, 2⟩, reg)), ([108], (⟨5, 5, 1⟩, ⟨.file, some pa⟩)),
       ([107], (⟨5, 5, 9⟩, ⟨.missing, some pb⟩)), ([109], (⟨5, 5, 1⟩, ⟨.dir, some pd⟩))] = .ok w ∧
      status cur w = .ok ⟨[], [], [], [], []⟩ :=
  clean_after_checkout _ _ (by decide +kernel) (by decide +kernel) (by decide +kernel)

/-- REGRESSION (fixed): a tracked link whose target does not exist (resolves to the untracked path
`b`) was listed as untracked right after checkout. -/
theorem legacy_clean_after_checkout_witness :
    status legacy (checkedOut [(pa, ⟨.symlink, 1⟩)] [(pa, (⟨5, 5, 1⟩, ⟨.missing, some pb⟩))]) =
      .ok ⟨[], [], [], [], [pa]⟩ ∧
    status cur (checkedOut [(pa, ⟨.symlink, 1⟩)] [(pa, (⟨5, 5, 1⟩, ⟨.missing, some pb⟩))]) =
      .ok ⟨[], [], [], [], []⟩ := by decide +kernel

/-- `checkout_stage_roundtrip`: check out any well-formed tree of valid paths, stage everything
(`porcelain.add()`), and the index's tree is the tree that was checked out. -/
theorem checkout_stage_roundtrip (t : FMap Entry) (obs : Obs)
    (hvalid : t.keys.all validPath = true) (hobs : t.keys.all obs.has = true) (hwf : TreeWF t) :
    ∃ w w', checkoutFresh t obs = .ok w ∧ stageAll cur w = .ok w' ∧
      ∀ p, (treeOf w'.index).get p = t.get p :=
  have hsync := checkedOut_synced hobs hwf
  have ⟨w', h1, _, _, h2⟩ := stageAll_exact hsync.statHonest
  ⟨_, w', checkoutFresh_ok hvalid hobs, h1, fun p => (h2 p).trans (hsync.wdEntry p)⟩

/-- The stronger round trip: throw the index away after the checkout, add everything from scratch, and
the index's tree is again the tree. -/
theorem checkout_clear_stage_roundtrip (t : FMap Entry) (obs : Obs)
    (hvalid : t.keys.all validPath = true) (hobs : t.keys.all obs.has = true) (hwf : TreeWF t) :
    ∃ w w', checkoutFresh t obs = .ok w ∧ stageAll cur (clearIndex w) = .ok w' ∧
      ∀ p, (treeOf w'.index).get p = t.get p :=
  -- with an empty index the racy-git hypothesis says nothing
  have ⟨w', h1, _, _, h2⟩ := stageAll_exact (w := clearIndex (checkedOut t obs)) rfl
  ⟨_, w', checkoutFresh_ok hvalid hobs, h1, fun p => (h2 p).trans ((checkedOut_synced hobs hwf).wdEntry p)⟩

/-- non-vacuity for both round trips (with a link that leads to a directory) -/
example : ∃ w w', checkoutFresh
      [(pa, ⟨.regular, 1⟩), (pde, ⟨.executable, 2⟩), ([107], ⟨.symlink, 3⟩)]
      [(pa, (⟨5, 5, 1⟩, reg)), (pde, (⟨5, 5, 2⟩, reg)), ([107], (⟨5, 5, 1⟩, ⟨.dir, some pd⟩))] = .ok w ∧
      stageAll cur (clearIndex w) = .ok w' ∧
      ∀ p, (treeOf w'.index).get p = FMap.get [(pa, ⟨.regular, 1⟩), (pde, ⟨.executable, 2⟩), ([107], ⟨.symlink, 3⟩)] p :=
  checkout_clear_stage_roundtrip _ _ (by decide +kernel) (by decide +kernel) (by decide +kernel)

/-- REGRESSION (fixed): a link that leads to a directory was not picked up by "add everything". -/
theorem legacy_clear_stage_witness :
    (stageAll legacy (clearIndex (checkedOut [(pde, ⟨.regular, 1⟩), ([107], ⟨.symlink, 2⟩)]
        [(pde, (⟨5, 5, 1⟩, reg)), ([107], (⟨5, 5, 1⟩, ⟨.dir, some pd⟩))]))).toOption.map
      (fun w => (treeOf w.index).get [107]) = some none ∧
    (stageAll cur (clearIndex (checkedOut [(pde, ⟨.regular, 1⟩), ([107], ⟨.symlink, 2⟩)]
        [(pde, (⟨5, 5, 1⟩, reg)), ([107], (⟨5, 5, 1⟩, ⟨.dir, some pd⟩))]))).toOption.map
      (fun w => (treeOf w.index).get [107]) = some (some ⟨.symlink, 2⟩) := by decide +kernel

/-! ## 3. branch switch -/

/-- From a clean checkout of any tree `a`, `porcelain.checkout` of any tree `b` succeeds, HEAD is `b`,
the directory and the index then hold exactly `b`, and status is clean. -/
def BranchSwitchStatement : Prop :=
  ∀ (a b : FMap Entry) (obsA obsB : Obs),
    a.keys.all validPath = true → b.keys.all validPath = true →
    a.keys.all obsA.has = true → b.keys.all obsB.has = true → TreeWF a → TreeWF b →
    ∃ w', switchTo cur (checkedOut a obsA) b obsB = ⟨w', none⟩ ∧ w'.head = b ∧
      (∀ p, wdEntry w'.wd p = b.get p) ∧ (∀ p, (treeOf w'.index).get p = b.get p) ∧
      status cur w' = .ok ⟨[], [], [], [], []⟩

/-- `branch_switch`: the full statement, for ALL pairs of well-formed trees of valid paths: every
combination of added, deleted, modified, re-moded and type-changed (file ↔ executable ↔ symbolic
link) paths at any depth, files that become directories and directories that become files.  All
deletions are applied first (which empties and so removes the directories that go away), then all
writes; each path is independent of the others because no path of a tree lies below another. -/
theorem branch_switch : BranchSwitchStatement := by
  intro a b obsA obsB hva hvb hoa hob hwfa hwfb
  obtain ⟨w', h1, rfl, h3⟩ := switchTo_synced (checkedOut_synced hoa hwfa) (obs := obsB) hva hvb hob hwfb
  exact ⟨w', h1, rfl, h3.wdEntry, h3.treeOf, h3.status⟩

/-- non-vacuity: one switch that adds, deletes, rewrites, re-modes, changes the type of paths, turns
the file `x` into a directory and the directory `d` into a file -/
example : ∃ w', switchTo cur
      (checkedOut [(pa, ⟨.regular, 1⟩), (pb, ⟨.regular, 2⟩), (pc, ⟨.regular, 3⟩), (pde, ⟨.regular, 4⟩), (pu, ⟨.symlink, 5⟩), ([120], ⟨.regular, 7⟩)]
        [(pa, (⟨5, 5, 1⟩, reg)), (pb, (⟨5, 5, 1⟩, reg)), (pc, (⟨5, 5, 1⟩, reg)), (pde, (⟨5, 5, 1⟩, reg)),
         (pu, (⟨5, 5, 1⟩, ⟨.missing, none⟩)), ([120], (⟨5, 5, 1⟩, reg))])
      [(pa, ⟨.regular, 1⟩), (pb, ⟨.executable, 2⟩), (pc, ⟨.symlink, 3⟩), (pn, ⟨.regular, 6⟩), (pu, ⟨.regular, 5⟩), ([120, 47, 121], ⟨.regular, 8⟩), (pd, ⟨.regular, 9⟩)]
      [(pa, (⟨9, 9, 1⟩, reg)), (pb, (⟨9, 9, 1⟩, reg)), (pc, (⟨9, 9, 1⟩, ⟨.missing, none⟩)), (pn, (⟨9, 9, 1⟩, reg)),
       (pu, (⟨9, 9, 1⟩, reg)), ([120, 47, 121], (⟨9, 9, 1⟩, reg)), (pd, (⟨9, 9, 1⟩, reg))] = ⟨w', none⟩ ∧
      status cur w' = .ok ⟨[], [], [], [], []⟩ :=
  (branch_switch _ _ _ _ (by decide +kernel) (by decide +kernel) (by decide +kernel) (by decide +kernel)
    (by decide +kernel) (by decide +kernel)).imp fun _ ⟨h1, _, _, _, h5⟩ => ⟨h1, h5⟩

/-- REGRESSION (fixed): directory → file.  `a` has `x/y`, `b` has the file `x`: the old code wrote `x`
before it deleted `x/y` and failed with `IsADirectoryError`; the code now switches. -/
theorem legacy_dir_to_file_witness :
    (switchTo legacy (checkedOut [([120, 47, 121], ⟨.regular, 1⟩)] [([120, 47, 121], (⟨5, 5, 1⟩, reg))])
      [([120], ⟨.regular, 1⟩)] [([120], (⟨9, 9, 1⟩, reg))]).err = some .isADirectory ∧
    (switchTo cur (checkedOut [([120, 47, 121], ⟨.regular, 1⟩)] [([120, 47, 121], (⟨5, 5, 1⟩, reg))])
      [([120], ⟨.regular, 1⟩)] [([120], (⟨9, 9, 1⟩, reg))]).err = none ∧
    wdEntry (switchTo cur (checkedOut [([120, 47, 121], ⟨.regular, 1⟩)] [([120, 47, 121], (⟨5, 5, 1⟩, reg))])
      [([120], ⟨.regular, 1⟩)] [([120], (⟨9, 9, 1⟩, reg))]).world.wd [120] = some ⟨.regular, 1⟩ := by decide +kernel

/-- REGRESSION: file → directory worked in the old order too and still works. -/
theorem file_to_dir_both_orders :
    ∀ fl ∈ [legacy, cur],
      (switchTo fl (checkedOut [([120], ⟨.symlink, 1⟩)] [([120], (⟨5, 5, 1⟩, ⟨.missing, none⟩))])
        [([120, 47, 121], ⟨.regular, 1⟩)] [([120, 47, 121], (⟨9, 9, 1⟩, reg))]).err = none := by decide +kernel

/-! ## 4. reset --hard: index, work tree and target three-way different -/

/-- `reset_hard_exact`: `porcelain.reset(repo, "hard", commit)` from any state in which no path of index, work
tree and target lies below another — for every path the
staged entry `I`, the file on disk `W` and the target entry `T` may be absent or present and differ in
content, executable bit and type in every combination (in particular `W = T ≠ I`: the old bytes put
back by hand under a staged modification).  The reset succeeds, HEAD is the target, the index's tree is
the target, every tracked path holds the target's entry on disk, untracked files are untouched, and nothing
is staged or unstaged.  (On the variant of the code that keeps the index entry of a file already deleted, the lemma
`resetHard_outcome` needs the hypothesis `NoGoneEntries`; `reset_hard_gone_entry_witness` shows both variants.) -/
theorem reset_hard_exact (w : World) (t : FMap Entry) (obs : Obs)
    (hflat : Flat (w.index.keys ++ w.wd.keys ++ t.keys))
    (hvi : w.index.keys.all validPath = true) (hvt : t.keys.all validPath = true)
    (hobs : t.keys.all obs.has = true) :
    ∃ w', resetHard cur w t obs = ⟨w', none⟩ ∧ w'.head = t ∧
      (∀ p, (treeOf w'.index).get p = t.get p) ∧
      (∀ p, ((w.index.get p).isSome = true ∨ (t.get p).isSome = true) → wdEntry w'.wd p = t.get p) ∧
      (∀ p, w.index.get p = none → t.get p = none → w'.wd.get p = w.wd.get p) ∧
      stagedAdd w'.head w'.index = [] ∧ stagedDel w'.head w'.index = [] ∧ stagedMod w'.head w'.index = [] ∧
      unstagedOf cur w'.wd w'.index = .ok [] :=
  -- `_transition_to_absent` drops the index entry of a file that is already gone (translated flag)
  resetHard_exact cur rfl w t obs hflat hvi hvt hobs (Or.inl rfl)

/-- non-vacuity, with every relation between `I`, `W` and `T` at some path:
`a`: `W = T ≠ I` (modified and staged, then the old bytes put back by hand);
`b`: `I = W ≠ T`; `c`: all three differ (and the executable bit); `n`: staged addition the target lacks;
`d/e`: absent from index and disk, present in the target; `u`: an untracked file. -/
def wThreeWay : World :=
  { head := [(pa, ⟨.regular, 1⟩), (pb, ⟨.regular, 2⟩), (pc, ⟨.regular, 3⟩)],
    index := [(pa, ⟨.regular, 7, ⟨6, 6, 1⟩⟩), (pb, ⟨.regular, 8, ⟨6, 6, 1⟩⟩), (pc, ⟨.executable, 9, ⟨6, 6, 1⟩⟩),
              (pn, ⟨.regular, 10, ⟨6, 6, 1⟩⟩)],
    wd := [(pa, ⟨.regular, 1, ⟨7, 7, 1⟩, reg⟩), (pb, ⟨.regular, 8, ⟨6, 6, 1⟩, reg⟩), (pc, ⟨.regular, 11, ⟨7, 7, 1⟩, reg⟩),
           (pn, ⟨.regular, 10, ⟨6, 6, 1⟩, reg⟩), (pu, ⟨.regular, 12, ⟨7, 7, 1⟩, reg⟩)] }

def tThreeWay : FMap Entry := [(pa, ⟨.regular, 1⟩), (pb, ⟨.regular, 2⟩), (pc, ⟨.executable, 3⟩), (pde, ⟨.symlink, 4⟩)]

def obsThreeWay : Obs := [(pa, (⟨9, 9, 1⟩, reg)), (pb, (⟨9, 9, 1⟩, reg)), (pc, (⟨9, 9, 1⟩, reg)), (pde, (⟨9, 9, 1⟩, ⟨.missing, none⟩))]

example : ∃ w', resetHard cur wThreeWay tThreeWay obsThreeWay = ⟨w', none⟩ ∧ w'.head = tThreeWay ∧
    (∀ p, (treeOf w'.index).get p = tThreeWay.get p) ∧ w'.wd.get pu = wThreeWay.wd.get pu := by
  obtain ⟨w', h1, h2, h3, _, h5, _⟩ := reset_hard_exact wThreeWay tThreeWay obsThreeWay
    (by decide +kernel) (by decide +kernel) (by decide +kernel) (by decide +kernel)
  exact ⟨w', h1, h2, h3, h5 pu (by decide +kernel) (by decide +kernel)⟩

/-- at `a` (`W = T ≠ I`) the file is left alone and only the index entry is rewritten, from the file's
own stat data; status is clean apart from the untracked `u`, and a second reset changes nothing -/
example :
    let r := resetHard cur wThreeWay tThreeWay obsThreeWay
    r.err = none ∧ r.world.wd.get pa = wThreeWay.wd.get pa ∧
    r.world.index.get pa = some ⟨.regular, 1, ⟨7, 7, 1⟩⟩ ∧
    status cur r.world = .ok ⟨[], [], [], [], [pu]⟩ ∧
    (resetHard cur r.world tThreeWay obsThreeWay).world.index = r.world.index ∧
    (resetHard cur r.world tThreeWay obsThreeWay).world.wd = r.world.wd := by decide +kernel

/-- REGRESSION (fixed, hardreset-deleted-file-keeps-index-entry), on the variant of the code that returns from
`_transition_to_absent` before dropping the index entry: `a` is staged, deleted from disk, and absent
from the target; after `reset --hard` the index still has it.  With the entry dropped it is gone. -/
theorem reset_hard_gone_entry_witness :
    let w : World := { head := [(pa, ⟨.regular, 1⟩)], index := [(pa, ⟨.regular, 1, ⟨5, 5, 1⟩⟩)], wd := [] }
    (resetHard { cur with absentDropsIndex := false } w [] []).err = none ∧
    (resetHard { cur with absentDropsIndex := false } w [] []).world.index.get pa = some ⟨.regular, 1, ⟨5, 5, 1⟩⟩ ∧
    ¬ NoGoneEntries { cur with absentDropsIndex := false } w [] ∧
    (resetHard { cur with absentDropsIndex := true } w [] []).world.index.get pa = none := by decide +kernel

/-- FINDING (force-checkout-starts-from-head): `checkout(force=True)` on the variant that takes the
changes from HEAD's tree and skips equal entries keeps a staged and an unstaged modification of a path
that HEAD and the target agree on; started from the index (as `reset --hard`) it resets them. -/
theorem force_checkout_witness :
    let w : World := { head := [(pa, ⟨.regular, 1⟩)], index := [(pa, ⟨.regular, 2, ⟨6, 6, 1⟩⟩)],
                       wd := [(pa, ⟨.regular, 3, ⟨7, 7, 1⟩, reg⟩)] }
    let t : FMap Entry := [(pa, ⟨.regular, 1⟩)]
    (switchForce { cur with forceUsesIndex := false } w t [(pa, (⟨9, 9, 1⟩, reg))]).world.index.get pa
      = some ⟨.regular, 2, ⟨6, 6, 1⟩⟩ ∧
    (treeOf (switchForce { cur with forceUsesIndex := true } w t [(pa, (⟨9, 9, 1⟩, reg))]).world.index).get pa
      = some ⟨.regular, 1⟩ ∧
    wdEntry (switchForce { cur with forceUsesIndex := true } w t [(pa, (⟨9, 9, 1⟩, reg))]).world.wd pa
      = some ⟨.regular, 1⟩ := by decide +kernel

end Dulwich.Props.C18
