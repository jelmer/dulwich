/- Stable insertion into a sorted list.  The model files are independent and several have their own insertion sort
   (`Objects.insertBy`, `Index.insertSorted`, `TreeOps.insertCanon`, `LCA.insertByStamp`, `RsPy.insertRev`).  The lemmas are stated for any
   function `ins` with the two defining equations; a copy instantiates them with `(fun _ => rfl) (fun _ _ _ => rfl)`,
   `before` being the test of its `if` (`le x y = true` for a `Bool`); `RsPy.insertRev` has the branches of its `if` the
   other way round and gives `RsPy.insertRev_step` for the second equation.  Core Lean only. -/

namespace Dulwich.InsertSort

variable {α : Type} {ins : α → List α → List α} {before : α → α → Prop} [DecidableRel before]
  (h0 : ∀ x, ins x [] = [x])
  (hstep : ∀ x y ys, ins x (y :: ys) = if before x y then x :: y :: ys else y :: ins x ys)
include h0 hstep

theorem ins_perm (x : α) : ∀ ys, (ins x ys).Perm (x :: ys)
  | [] => h0 x ▸ .refl _
  | y :: ys => by
    rw [hstep]
    split
    · exact .refl _
    · exact ((ins_perm x ys).cons y).trans (.swap x y ys)

theorem foldr_perm : ∀ l : List α, (l.foldr ins []).Perm l
  | [] => .refl _
  | x :: xs => (ins_perm h0 hstep x _).trans ((foldr_perm xs).cons x)

theorem foldl_perm : ∀ l acc : List α, (l.foldl (fun acc x => ins x acc) acc).Perm (l ++ acc)
  | [], _ => .refl _
  | x :: xs, acc => (foldl_perm xs _).trans (((ins_perm h0 hstep x acc).append_left xs).trans List.perm_middle)

/-! `r` is the order the list ends up in: `x` goes in front of the first `y` with `before x y`, so `before x y` has to
give `r x y` and its failure `r y x`. -/

variable {r : α → α → Prop} (htr : ∀ a b c, r a b → r b c → r a c)
  (hyes : ∀ x y, before x y → r x y) (hno : ∀ x y, ¬ before x y → r y x)
include htr hyes hno

theorem ins_pairwise (x : α) : ∀ ys, ys.Pairwise r → (ins x ys).Pairwise r
  | [], _ => h0 x ▸ List.pairwise_singleton ..
  | y :: ys, h => by
    obtain ⟨hy, hys⟩ := List.pairwise_cons.mp h
    rw [hstep]
    split
    · next hb =>
      exact .cons (fun z hz => (List.mem_cons.mp hz).elim (· ▸ hyes _ _ hb) fun hz => htr _ _ _ (hyes _ _ hb) (hy z hz)) h
    · next hb =>
      refine .cons (fun z hz => ?_) (ins_pairwise x ys hys)
      exact (List.mem_cons.mp ((ins_perm h0 hstep x ys).subset hz)).elim (· ▸ hno _ _ hb) (hy z)

theorem foldr_pairwise : ∀ l : List α, (l.foldr ins []).Pairwise r
  | [] => .nil
  | x :: xs => ins_pairwise h0 hstep htr hyes hno x _ (foldr_pairwise xs)

end Dulwich.InsertSort
