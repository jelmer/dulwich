/-
  What the loop of `_find_lcas` (C13, `Model/LCA.lean`) works on: the `cstates` array as a finite map, the work list
  (`popMax` returns an entry of maximal stamp), ancestry (`Anc`, `SAnc`, ranks), the flag words with `covers` as their
  order, what the bits of a word claim about its commit (`Good`, `Sound`), and `Grows`: a map whose words only gain bits.
-/
import DulwichModel.Model.LCA

namespace Dulwich.LCA

/-! ## a generic fold lemma -/

theorem foldl_establish {α β : Type} (f : α → β → α) (Q : β → α → Prop)
    (hest : ∀ a b, Q b (f a b)) (hpres : ∀ a b b', Q b a → Q b (f a b')) :
    ∀ (l : List β) (a : α) (b : β), b ∈ l → Q b (l.foldl f a) := by
  intro l
  induction l with
  | nil => exact fun _ _ h => nomatch h
  | cons x l ih =>
    intro a b h
    rcases List.mem_cons.mp h with rfl | h'
    · exact List.foldlRecOn (motive := Q b) l f (hest a b) fun a' hq b' _ => hpres a' b b' hq
    · exact ih (f a x) b h'

/-! ## `cstates` as a finite map -/

theorem FlagMap.get_set (m : FlagMap) (c d : Nat) (f : Flags) :
    (m.set c f).get d = if c = d ∧ c < m.size then some f else m.get d := by
  simp only [FlagMap.get, FlagMap.set, Array.getD_eq_getD_getElem?, Array.getElem?_setIfInBounds]
  by_cases h : c = d
  · subst h
    by_cases h2 : c < m.size
    · simp [h2]
    · simp [h2]
  · simp [h]

@[simp] theorem FlagMap.size_set (m : FlagMap) (c : Nat) (f : Flags) : (m.set c f).size = m.size := by
  simp [FlagMap.set]

@[simp] theorem FlagMap.size_empty (n : Nat) : (FlagMap.empty n).size = n := by
  simp [FlagMap.empty]

@[simp] theorem FlagMap.get_empty (n c : Nat) : (FlagMap.empty n).get c = none := by
  simp only [FlagMap.get, FlagMap.empty, Array.getD_eq_getD_getElem?, Array.getElem?_replicate]
  split <;> rfl

theorem FlagMap.get_set_ne (m : FlagMap) (c d : Nat) (f : Flags) (h : c ≠ d) :
    (m.set c f).get d = m.get d := by
  rw [FlagMap.get_set]; simp [h]

theorem FlagMap.get_lt {m : FlagMap} {c : Nat} {f : Flags} (h : m.get c = some f) : c < m.size := by
  simp only [FlagMap.get, Array.getD_eq_getD_getElem?] at h
  by_cases hc : c < m.size
  · exact hc
  · simp [Array.getElem?_eq_none (Nat.le_of_not_lt hc)] at h

theorem exists_of_getD {fl : FlagMap} {p : Nat} (bit : Flags → Bool) (hz : bit Flags.zero = false)
    (h : bit ((fl.get p).getD Flags.zero) = true) : ∃ f, fl.get p = some f ∧ bit f = true := by
  cases hg : fl.get p with
  | none => rw [hg, Option.getD_none, hz] at h; cases h
  | some f => rw [hg] at h; exact ⟨f, rfl, h⟩

/-! ## the work list -/

theorem before_stamp {a b : Entry} (h : before a b = true) : b.1 ≤ a.1 := by
  simp only [before, Bool.or_eq_true, decide_eq_true_eq, Bool.and_eq_true, beq_iff_eq] at h
  omega

theorem stamp_of_not_before {a b : Entry} (h : ¬ before a b = true) : a.1 ≤ b.1 := by
  simp only [before, Bool.or_eq_true, decide_eq_true_eq, Bool.and_eq_true, beq_iff_eq] at h
  omega

theorem best_spec : ∀ (l : List Entry) (b : Entry),
    (best b l = b ∨ best b l ∈ l) ∧ b.1 ≤ (best b l).1 ∧ ∀ e, e ∈ l → e.1 ≤ (best b l).1 := by
  intro l
  induction l with
  | nil => exact fun b => ⟨Or.inl rfl, Int.le_refl _, nofun⟩
  | cons x r ih =>
    intro b
    rw [best]
    by_cases hbx : before b x = true
    · rw [if_pos hbx]
      obtain ⟨hm, hb, hr⟩ := ih b
      exact ⟨hm.imp_right (List.mem_cons_of_mem _), hb, fun e he =>
        (List.mem_cons.mp he).elim (fun h => h ▸ Int.le_trans (before_stamp hbx) hb) (hr e)⟩
    · rw [if_neg hbx]
      obtain ⟨hm, hb, hr⟩ := ih x
      exact ⟨Or.inr (hm.elim (fun h => h.symm ▸ List.mem_cons_self) (List.mem_cons_of_mem _)),
        Int.le_trans (stamp_of_not_before hbx) hb, fun e he => (List.mem_cons.mp he).elim (fun h => h ▸ hb) (hr e)⟩

theorem popMax_spec {wl : List Entry} {b : Entry} {rest : List Entry}
    (h : popMax wl = some (b, rest)) :
    b ∈ wl ∧ rest = wl.erase b ∧ ∀ e, e ∈ wl → e.1 ≤ b.1 := by
  cases wl with
  | nil => simp [popMax] at h
  | cons e r =>
    simp only [popMax, Option.some.injEq, Prod.mk.injEq] at h
    obtain ⟨rfl, hr⟩ := h
    obtain ⟨hm, hb, hr'⟩ := best_spec r e
    exact ⟨hm.elim (fun h => h.symm ▸ List.mem_cons_self) (List.mem_cons_of_mem _), hr.symm, fun x hx =>
      (List.mem_cons.mp hx).elim (fun h => h ▸ hb) (hr' x)⟩

theorem popMax_none {wl : List Entry} (h : popMax wl = none) : wl = [] := by
  cases wl with
  | nil => rfl
  | cons e r => simp [popMax] at h

/-! ## ancestry -/

theorem Anc.trans {g : Graph} {a b c : Nat} (h1 : Anc g a b) (h2 : Anc g b c) : Anc g a c := by
  induction h2 with
  | refl => exact h1
  | step hp _ ih => exact Anc.step hp ih

theorem Anc.parent {g : Graph} {p c : Nat} (h : p ∈ g.parents c) : Anc g p c :=
  Anc.step h (Anc.refl p)

theorem Anc.lt_n {g : Graph} (hwf : g.WF) {a c : Nat} (h : Anc g a c) (hc : c < g.n) : a < g.n := by
  induction h with
  | refl => exact hc
  | step hp _ ih => exact ih (hwf _ hc _ hp)

theorem SAnc.anc {g : Graph} {a c : Nat} (h : SAnc g a c) : Anc g a c := by
  obtain ⟨p, hp, ha⟩ := h
  exact Anc.step hp ha

theorem SAnc.of_anc_left {g : Graph} {a b c : Nat} (h1 : Anc g a b) (h2 : SAnc g b c) : SAnc g a c := by
  obtain ⟨p, hp, hb⟩ := h2
  exact ⟨p, hp, h1.trans hb⟩

theorem SAnc.of_anc_right {g : Graph} {a b c : Nat} (h1 : SAnc g a b) (h2 : Anc g b c) : SAnc g a c := by
  induction h2 with
  | refl => exact h1
  | step hp _ ih => exact ⟨_, hp, ih.anc⟩

theorem Anc.eq_or_sanc {g : Graph} {a c : Nat} (h : Anc g a c) : a = c ∨ SAnc g a c := by
  cases h with
  | refl => exact Or.inl rfl
  | step hp ha => exact Or.inr ⟨_, hp, ha⟩

/-- `t`: the stamps on a `StrictMono` graph, a rank on an acyclic one -/
theorem Anc.rank_le {g : Graph} {α : Type} [LE α] [LT α] [Std.IsPreorder α] [Std.LawfulOrderLT α] {t : Nat → α}
    (ht : ∀ c p, p ∈ g.parents c → t p < t c) {a c : Nat} (h : Anc g a c) : t a ≤ t c := by
  induction h with
  | refl => exact Std.le_refl _
  | step hp _ ih => exact Std.le_of_lt (Std.lt_of_le_of_lt ih (ht _ _ hp))

theorem SAnc.rank_lt {g : Graph} {α : Type} [LE α] [LT α] [Std.IsPreorder α] [Std.LawfulOrderLT α] {t : Nat → α}
    (ht : ∀ c p, p ∈ g.parents c → t p < t c) {a c : Nat} (h : SAnc g a c) : t a < t c := by
  obtain ⟨p, hp, ha⟩ := h
  exact Std.lt_of_le_of_lt (ha.rank_le ht) (ht _ _ hp)

theorem CA.of_anc {g : Graph} {c1 : Nat} {c2s : List Nat} {x y : Nat} (h : CA g c1 c2s y) (hx : Anc g x y) :
    CA g c1 c2s x := by
  obtain ⟨h1, c2, hc2, h2⟩ := h
  exact ⟨hx.trans h1, c2, hc2, hx.trans h2⟩

theorem CA.lt_n {g : Graph} (hwf : g.WF) {c1 : Nat} {c2s : List Nat} (h1 : c1 < g.n) {x : Nat}
    (h : CA g c1 c2s x) : x < g.n := h.1.lt_n hwf h1

theorem CA_singleton {g : Graph} {c1 c2 x : Nat} : CA g c1 [c2] x ↔ Anc g x c1 ∧ Anc g x c2 := by
  simp only [CA, List.mem_singleton, exists_eq_left]

/-! ## flag words -/

theorem cflagsOf_eq : ∀ f : Flags, cflagsOf f = ⟨f.anc1, f.anc2, f.dnc || (f.anc1 && f.anc2), false⟩ := by
  rintro ⟨a, b, d, l⟩
  revert a b d l
  decide

theorem cflagsOf_lca (f : Flags) : (cflagsOf f).lca = false := by rw [cflagsOf_eq]

theorem isBoth_ancMask (f : Flags) : f.ancMask.isBoth = (f.anc1 && f.anc2 && !f.dnc) := by
  simp [Flags.ancMask, Flags.isBoth]

theorem covers_iff (p c : Flags) : p.covers c = true ↔
    (c.anc1 = true → p.anc1 = true) ∧ (c.anc2 = true → p.anc2 = true) ∧
    (c.dnc = true → p.dnc = true) ∧ (c.lca = true → p.lca = true) := by
  obtain ⟨a, b, d, l⟩ := c
  simp only [Flags.covers, Flags.inter, beq_iff_eq, Flags.mk.injEq, Bool.and_eq_right_iff_imp]

theorem covers_union (p c : Flags) : (p.union c).covers c = true := by
  rw [covers_iff]
  simp only [Flags.union, Bool.or_eq_true]
  exact ⟨Or.inr, Or.inr, Or.inr, Or.inr⟩

theorem covers_trans {p q c : Flags} (h : p.covers c = true) (hq : q.covers p = true) :
    q.covers c = true := by
  rw [covers_iff] at *
  exact ⟨fun x => hq.1 (h.1 x), fun x => hq.2.1 (h.2.1 x), fun x => hq.2.2.1 (h.2.2.1 x),
         fun x => hq.2.2.2 (h.2.2.2 x)⟩

theorem covers_refl (p : Flags) : p.covers p = true := by
  rw [covers_iff]; exact ⟨id, id, id, id⟩

theorem union_covers_left (p c : Flags) : (p.union c).covers p = true := by
  rw [covers_iff]
  simp only [Flags.union, Bool.or_eq_true]
  exact ⟨Or.inl, Or.inl, Or.inl, Or.inl⟩

theorem covers_cflagsOf {p f : Flags} (h : p.covers (cflagsOf f) = true) :
    (f.anc1 = true → p.anc1 = true) ∧ (f.anc2 = true → p.anc2 = true) ∧ (f.dnc = true → p.dnc = true) := by
  rw [cflagsOf_eq, covers_iff] at h
  exact ⟨h.1, h.2.1, fun hf => h.2.2.1 (by rw [hf]; rfl)⟩

theorem room_union_lt {p c : Flags} (hc : c.lca = false) (h : p.covers c = false) :
    (p.union c).room + 1 ≤ p.room := by
  obtain ⟨a, b, d, l⟩ := p
  obtain ⟨a', b', d', l'⟩ := c
  subst hc
  revert a b d l a' b' d'
  decide +kernel

theorem room_le : ∀ f : Flags, f.room ≤ 3 := by
  rintro ⟨a, b, d, l⟩
  revert a b d l
  decide

/-! ## soundness: every flag that is set is justified (all DAGs, all stamps) -/

structure Good (g : Graph) (c1 : Nat) (c2s : List Nat) (c : Nat) (f : Flags) : Prop where
  a1 : f.anc1 = true → Anc g c c1
  a2 : f.anc2 = true → ∃ c2, c2 ∈ c2s ∧ Anc g c c2
  dn : f.dnc = true → ∃ y, CA g c1 c2s y ∧ SAnc g c y

def Sound (g : Graph) (c1 : Nat) (c2s : List Nat) (fl : FlagMap) : Prop :=
  ∀ c f, fl.get c = some f → Good g c1 c2s c f

theorem Good.union {g : Graph} {c1 : Nat} {c2s : List Nat} {c : Nat} {a b : Flags}
    (ha : Good g c1 c2s c a) (hb : Good g c1 c2s c b) : Good g c1 c2s c (a.union b) :=
  ⟨fun h => (Bool.or_eq_true_iff.mp h).elim ha.a1 hb.a1, fun h => (Bool.or_eq_true_iff.mp h).elim ha.a2 hb.a2,
   fun h => (Bool.or_eq_true_iff.mp h).elim ha.dn hb.dn⟩

theorem Sound.getD {g : Graph} {c1 : Nat} {c2s : List Nat} {fl : FlagMap} (h : Sound g c1 c2s fl) (c : Nat) :
    Good g c1 c2s c ((fl.get c).getD Flags.zero) := by
  cases hg : fl.get c with
  | none => exact ⟨nofun, nofun, nofun⟩
  | some f => exact h c f hg

theorem Good.down {g : Graph} {c1 : Nat} {c2s : List Nat} {c p : Nat} {f : Flags}
    (hf : Good g c1 c2s c f) (hp : p ∈ g.parents c) : Good g c1 c2s p (cflagsOf f) := by
  rw [cflagsOf_eq]
  refine ⟨fun h => (Anc.parent hp).trans (hf.a1 h), fun h => ?_, fun h => ?_⟩
  · obtain ⟨c2, hc2, ha⟩ := hf.a2 h
    exact ⟨c2, hc2, (Anc.parent hp).trans ha⟩
  · simp only [Bool.or_eq_true, Bool.and_eq_true] at h
    rcases h with h | ⟨h1, h2⟩
    · obtain ⟨y, hy, hs⟩ := hf.dn h
      exact ⟨y, hy, SAnc.of_anc_left (Anc.parent hp) hs⟩
    · exact ⟨c, ⟨hf.a1 h1, hf.a2 h2⟩, p, hp, Anc.refl p⟩

/-! ## flag words only grow -/

def Grows (a b : FlagMap) : Prop :=
  ∀ c f, a.get c = some f → ∃ f', b.get c = some f' ∧ f'.covers f = true

theorem Grows.trans {a b c : FlagMap} (h1 : Grows a b) (h2 : Grows b c) : Grows a c := by
  intro x f hx
  obtain ⟨f1, hf1, hc1⟩ := h1 x f hx
  obtain ⟨f2, hf2, hc2⟩ := h2 x f1 hf1
  exact ⟨f2, hf2, covers_trans hc1 hc2⟩

theorem Grows.getD {a b : FlagMap} (h : Grows a b) (p : Nat) :
    ((b.get p).getD Flags.zero).covers ((a.get p).getD Flags.zero) = true := by
  cases ha : a.get p with
  | none => exact (covers_iff _ _).mpr ⟨nofun, nofun, nofun, nofun⟩
  | some f =>
    obtain ⟨f', hf', hc⟩ := h p f ha
    rw [hf']
    exact hc

end Dulwich.LCA
