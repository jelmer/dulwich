/-
  C01 — Object names are content hashes; serialisation is lossless and git-identical.

  The predicates the statements are written in (`Inv`, `WFHeaders`, `WFEntry`, `WFTag`, `WFCommit`, …) and the lemmas are
  in Lemmas/Objects*.lean.  The model is Model/Objects*.lean; its constants (header names and order, type table,
  separators, format widths, timezone arithmetic, the table of public setters and what each does to the cache flags)
  come from Gen/Objects.lean, regenerated from /repo on every run.
-/
import DulwichModel.Lemmas.ObjectsCache
import DulwichModel.Lemmas.ObjectsText
import DulwichModel.Lemmas.ObjectsTree
import DulwichModel.Lemmas.ObjectsCommit

namespace Dulwich.Props.C01
open Dulwich Dulwich.Objects

/-! ## 1. The id is the hash of header ++ content after any sequence of setter calls -/

section cache
variable {F : Type}

/-- Tie to the source: **every** public setter the translator found in `Blob`, `Tree`, `Commit`, `Tag`
touches the cache (marks dirty, goes through `set_raw_string`, or drops the cached id). -/
theorem setters_invalidate : ∀ e ∈ OGen.setters, e.2.2 ≠ 0 := by decide +kernel

theorem invalidating_of_table_kind (ops : List (Op F))
    (hops : ∀ op ∈ ops, match op with
      | .set k _ => k ∈ OGen.setters.map (·.2.2)
      | _ => True) : ∀ op ∈ ops, op.invalidating := by
  intro op hop
  have := hops op hop
  cases op with
  | set k u =>
    obtain ⟨e, he, rfl⟩ := List.mem_map.mp this
    exact setters_invalidate e he
  | _ => trivial

/-- **Over the real setter table.**  For every class and every history whose setter steps have a kind that occurs
in the translator's table (i.e. are setters the code has), the id is the hash of header ++ content:
`id_is_hash_of_cacheOk` on such a history (`invalidating_of_table_kind`), with `hA` and the alias half of `h0` kept as
first written.  (Before commit 714a12f this was false: `Blob.chunked` had kind 0.) -/
theorem id_is_hash_always (H : Bytes → Bytes) (C : Cls F) (hA : AliasClass C) (s0 : St F) (h0 : Inv H C s0)
    (ops : List (Op F))
    (hops : ∀ op ∈ ops, match op with
      | .set k _ => k ∈ OGen.setters.map (·.2.2)
      | _ => True) :
    (shaStep H C (run H C s0 ops)).1 = (content C (run H C s0 ops)).bind (nameOf H C) :=
  id_is_hash_of_cacheOk H C s0 h0.1 ops (invalidating_of_table_kind ops hops)

/-- The content follows the fields: right after a dirty-marking setter (every `serializable_property`,
`Commit.parents`, `Tag.object`, `Tree.add/__setitem__/__delitem__`), and after any number of reads, the
content is the serialisation of the *new* field values. -/
theorem content_tracks_fields (H : Bytes → Bytes) (C : Cls F) (s : St F) (u : F → F)
    (reads : List (Op F)) (hr : ∀ op ∈ reads, op.isRead) :
    content C (run H C (setStep C 1 u s) reads) = C.ser (u s.fields) := by
  rw [(run_reads H C reads _ hr).1]
  simp [content, setStep]

/-- After `set_raw_string(b)` (when `_deserialize` accepts `b`) the content is `b`, also after reads. -/
theorem content_after_setRaw (H : Bytes → Bytes) (C : Cls F) (s : St F) (b : Bytes)
    (hd : (C.deser s.fields b).isSome) (reads : List (Op F)) (hr : ∀ op ∈ reads, op.isRead) :
    content C (run H C (setRawStep C b s) reads) = some b := by
  rw [(run_reads H C reads _ hr).1]
  unfold setRawStep
  split
  · simp [content]
  · rename_i h; simp [h] at hd

/-- The instance of `id_after_dirty_setter` (Lemmas/ObjectsCache.lean; cite that one) at the state `run H C s0 ops`, with
the hypotheses `hA`, `h0`, `hops` kept as first written. -/
theorem id_after_edit (H : Bytes → Bytes) (C : Cls F) (hA : AliasClass C) (s0 : St F) (h0 : Inv H C s0)
    (ops : List (Op F)) (hops : ∀ op ∈ ops, op.invalidating) (u : F → F)
    (reads : List (Op F)) (hr : ∀ op ∈ reads, op.isRead) :
    let s := run H C s0 ops
    (shaStep H C (run H C (setStep C 1 u s) reads)).1 = (C.ser (u s.fields)).bind (nameOf H C) := by
  intro s
  exact id_after_dirty_setter H C s u reads hr

theorem fresh_inv (H : Bytes → Bytes) (C : Cls F) (hna : C.alias = false) (f : F) : Inv H C (freshInit f) :=
  ⟨fun hn => by simp [freshInit] at hn, fun ha => by simp [hna] at ha⟩

theorem blob_inv (H : Bytes → Bytes) : Inv H blobCls blobInit :=
  ⟨fun _ d hd => by simp [blobInit] at hd, fun _ => rfl⟩

theorem blob_aliasClass : AliasClass blobCls := fun _ _ b => ⟨b, rfl, rfl⟩

/-- `Blob.chunked` is in the table with kind 3: it assigns `_chunked_text` and drops the cached id. -/
theorem blob_chunked_kind : setterKind "Blob" "chunked" = some 3 := by decide +kernel

/-- Non-vacuity: the table is not empty and contains the setters the property talks about. -/
example : setterKind "Commit" "author" = some 1 ∧ setterKind "Tag" "object" = some 1 ∧
    setterKind "Tree" "add" = some 1 ∧ setterKind "Blob" "data" = some 2 ∧ OGen.setters.length = 24 := by decide +kernel

/-- **Blob**: after any history of `data = …`, `chunked = …`, `set_raw_string`, `id`,
`as_raw_string()` on a `Blob()`, the id is the hash of `blob <len>\0` ++ the current content. -/
theorem blob_id_is_hash_always (H : Bytes → Bytes) (ops : List (Op Bytes))
    (hops : ∀ op ∈ ops, match op with
      | .set k _ => k ∈ (OGen.setters.filter (·.1 == "Blob")).map (·.2.2)
      | _ => True) :
    (shaStep H blobCls (run H blobCls blobInit ops)).1
      = (content blobCls (run H blobCls blobInit ops)).bind (nameOf H blobCls) := by
  apply id_is_hash_always H blobCls blob_aliasClass blobInit (blob_inv H) ops
  intro op hop
  have := hops op hop
  cases op with
  | set k u =>
    obtain ⟨e, he, hk⟩ := List.mem_map.mp this
    exact List.mem_map.mpr ⟨e, (List.mem_filter.mp he).1, hk⟩
  | _ => trivial

/-- For a blob the content is the value last assigned, by either setter, also after reads. -/
theorem blob_content_tracks_fields (H : Bytes → Bytes) (s : St Bytes) (k : Nat) (hk : k = 2 ∨ k = 3)
    (u : Bytes → Bytes) (reads : List (Op Bytes)) (hr : ∀ op ∈ reads, op.isRead) :
    content blobCls (run H blobCls (setStep blobCls k u s) reads) = some (u s.fields) := by
  rw [(run_reads H blobCls reads _ hr).1]
  rcases hk with rfl | rfl
  · simp [setStep, setRawStep, blobCls, content]
  · simp only [setStep, blobCls, content]
    split <;> simp

/-- **Regression (DESIGN §7 F1, fixed by 714a12f).**  The history that used to expose the stale id —
`b.data = b"x"; b.id; b.chunked = [b"y"]; b.id` — with the setter kind the code has now: the content is
`y` and the id is the name of `y`. -/
theorem chunked_history_regression (H : Bytes → Bytes) :
    let s := run H blobCls blobInit [.set 2 (fun _ => [120]), .getId, .set 3 (fun _ => [121])]
    content blobCls s = some [121] ∧
    (shaStep H blobCls s).1 = some (H [98, 108, 111, 98, 32, 49, 0, 121]) :=
  ⟨rfl, rfl⟩

/-- **The old defect, kept as a model variant.**  With the `Blob.chunked` setter as it was coded before
714a12f (kind 0: assigns `_chunked_text` only) the conclusion of `id_is_hash_always` fails on that history, for
every injective hash.  If the invalidation is ever dropped again the translator emits kind 0, `setters_invalidate` and
`blob_chunked_kind` stop compiling, and this is the behaviour the model then predicts. -/
theorem old_chunked_kind_counterexample (H : Bytes → Bytes) (hH : ∀ a b, H a = H b → a = b) :
    let s := run H blobCls blobInit [.set 2 (fun _ => [120]), .getId, .set 0 (fun _ => [121])]
    content blobCls s = some [121] ∧
    (shaStep H blobCls s).1 ≠ (content blobCls s).bind (nameOf H blobCls) := by
  refine ⟨rfl, fun h => ?_⟩
  -- the cached id is still the name of `x`
  have h' : some (H [98, 108, 111, 98, 32, 49, 0, 120]) = some (H [98, 108, 111, 98, 32, 49, 0, 121]) := h
  exact absurd (hH _ _ (Option.some.inj h')) (by decide)

end cache

/-! ## 2. Header folding: `_parse_message (_format_message hs body) = (hs, body)` -/

/-- **Message round trip.**  For every list of headers whose field names are non-empty and contain
neither space nor LF (`WFHeaders`, decidable) and *arbitrary* byte values — embedded, leading, trailing
and repeated LFs, leading spaces, NULs included — and every body, parsing the formatted text returns
exactly the headers, in order, and the body (`None` and `b""` both give `b""`: the blank line is always
written). -/
theorem parse_format_message (hs : Headers) (body : Option Bytes) (hwf : WFHeaders hs) :
    parseMessage (formatMessage hs body) = .ok (hs, some (body.getD [])) := by
  have h := parseMessageP_format hs body hwf
  rw [parseMessageP] at h
  rw [parseMessage, parseLines_eq_P, h]

/-- Non-vacuity: a multi-line value with a blank line and a trailing LF, and a value starting with a
space; the instance evaluates as the theorem says. -/
example : WFHeaders [([116, 114, 101, 101], [97]), ([103, 112, 103, 115, 105, 103], [97, 10, 10, 32, 98, 10]),
    ([120], [32, 10])] := by decide +kernel

example : parseMessage (formatMessage [([103], [97, 10, 10, 32, 98, 10])] (some [109]))
    = .ok ([([103], [97, 10, 10, 32, 98, 10])], some [109]) :=
  parse_format_message _ _ (by decide +kernel)

/-- Negation witness for the hypothesis: a field name containing a space does not survive. -/
theorem parse_format_message_needs_wf_counterexample :
    parseMessage (formatMessage [([97, 32, 98], [99])] none) ≠ .ok ([([97, 32, 98], [99])], some []) := by
  decide +kernel

/-! ## 3. Time zones -/

/-- **Fields → bytes → fields.**  Every offset that is a whole number of minutes (any sign, any
magnitude: `%02d` widens beyond 99 h and the parser follows; the code divides in floats, which the model's
integers match below 2^53) is written and read back unchanged, with the neg-utc flag clear. -/
theorem timezone_roundtrip (off : Int) (h60 : off % 60 = 0) :
    ∃ t, formatTimezone off false = .ok t ∧ parseTimezone t = .ok (off, false) :=
  let ⟨_, _, _, _, hf, hp⟩ := timezone_roundtrip_wf off false ⟨h60, nofun⟩
  ⟨_, hf, hp⟩

/-- `-0000` (the neg-utc flag on a zero offset) round-trips with the flag. -/
theorem timezone_negzero_roundtrip :
    formatTimezone 0 true = .ok [45, 48, 48, 48, 48] ∧ parseTimezone [45, 48, 48, 48, 48] = .ok (0, true) :=
  ⟨formatTimezone_neg 0 0 (by decide) true (.inr rfl), (parseTimezone_hhmm 0 0 (by decide)).2⟩

/-- **Bytes → fields → bytes.**  Every spelling git emits — a sign, an hours field and a two-digit
minutes field below 60, `-0000` included — is parsed and written back byte for byte. -/
theorem timezone_canonical_spelling (s : UInt8) (hs : s = 43 ∨ s = 45) (hh mm : Nat) (hmm : mm < 60) :
    ∃ off neg, parseTimezone (s :: (fmt02 (hh : Int) ++ fmt02 (mm : Int))) = .ok (off, neg) ∧
      formatTimezone off neg = .ok (s :: (fmt02 (hh : Int) ++ fmt02 (mm : Int))) := by
  have hp := parseTimezone_hhmm hh mm (Nat.lt_trans hmm (by decide))
  rcases hs with rfl | rfl
  · exact ⟨_, _, hp.1, formatTimezone_pos hh mm hmm⟩
  · exact ⟨_, _, hp.2, formatTimezone_neg hh mm hmm _ ((Nat.eq_zero_or_pos _).symm.imp_right decide_eq_true)⟩

/-- Non-vacuity: `+0530` and `-0000` are instances of the canonical spelling. -/
example : (43 :: (fmt02 (5 : Nat) ++ fmt02 (30 : Nat)) : Bytes) = [43, 48, 53, 51, 48] ∧
    (45 :: (fmt02 (0 : Nat) ++ fmt02 (0 : Nat)) : Bytes) = [45, 48, 48, 48, 48] := by decide +kernel

/-- **Negation witness (finding neg-utc-sticky).**  The flag parsed from `-0000` combined with a
non-zero offset (what `c.author_timezone = 1800` produces on a commit parsed from `… -0000`, there being
no public setter for the flag) is written as `-0030`, which reads back as −1800: the value changes sign. -/
theorem timezone_flag_nonzero_counterexample :
    formatTimezone 1800 true = .ok [45, 48, 48, 51, 48] ∧
    parseTimezone [45, 48, 48, 51, 48] = .ok (-1800, false) :=
  ⟨by decide +kernel, (parseTimezone_hhmm 0 30 (by decide)).2⟩

/-! ## 4. Trees -/

/-- **Tree entries: fields → bytes → fields** (pure-Python `parse_tree`).  For either hash length, every
list of entries with modes in `0..2^32-1` (the strict mode token of 5d5709a refuses anything larger),
NUL-free names (arbitrary other bytes, spaces included) and lowercase-hex ids of that length serialises,
and parsing the bytes returns exactly the list. -/
theorem tree_roundtrip (shaLen : Nat) (hlen : 2 * shaLen ∈ OGen.hexLens) (es : List Entry)
    (hwf : ∀ e ∈ es, WFEntry shaLen e) (h32 : ∀ e ∈ es, e.mode < 4294967296) :
    ∃ bs, serializeTree es = .ok bs ∧ parseTreePy shaLen bs = .ok es := by
  obtain ⟨bs, h1, h2, h3⟩ := parseTreeAux_serialize pyModeToken shaLen hlen
    (fun _ _ h => h.pyModeToken) es hwf h32
  exact ⟨bs, h1, h3 _ h2⟩

/-- The same for the Rust `parse_tree`. -/
theorem tree_roundtrip_rs (shaLen : Nat) (hlen : 2 * shaLen ∈ OGen.hexLens) (es : List Entry)
    (hwf : ∀ e ∈ es, WFEntry shaLen e) (h32 : ∀ e ∈ es, e.mode < 4294967296) :
    ∃ bs, serializeTree es = .ok bs ∧ parseTreeRs shaLen bs = .ok es := by
  obtain ⟨bs, h1, h2, h3⟩ := parseTreeAux_serialize rsModeToken shaLen hlen
    (fun _ _ h => h.rsModeToken) es hwf h32
  exact ⟨bs, h1, h3 _ h2⟩

/-- **The mode token is strict, and the same in both implementations** (5d5709a): `[0-7]+` below 2^32.
Signs, whitespace, `0o`, underscores and a 33-bit value — all of which `int(token, 8)` took — are refused,
and so is the leading `+` that `u32::from_str_radix` takes. -/
theorem mode_token_py_eq_rs (s : Bytes) : pyModeToken s = rsModeToken s :=
  rfl  -- both generated switches (`pyModeStrict`, `rsRejectsPlus`) select `strictOct`; fails if they diverge

theorem mode_token_strict_examples :
    pyModeToken [45, 55] = none ∧ pyModeToken [43, 55] = none ∧ pyModeToken [9, 55] = none ∧
    pyModeToken [48, 111, 55] = none ∧ pyModeToken [55, 95, 48] = none ∧ pyModeToken [] = none ∧
    pyModeToken [52, 48, 48, 48, 48, 48, 48, 48, 48, 48, 48] = none ∧
    pyModeToken [51, 55, 55, 55, 55, 55, 55, 55, 55, 55, 55] = some 4294967295 ∧
    pyModeToken [48, 52, 48, 48, 48, 48] = some 16384 := by decide +kernel

/-- **Regression witnesses on the old variants**: `int(b"-7", 8)` and `int(b"7_0", 8)` were accepted by the
Python parser, and `+7` by the Rust one, while the other side refused. -/
theorem old_mode_token_counterexample :
    pyInt 8 [45, 55] = some (-7) ∧ pyInt 8 [55, 95, 48] = some 56 ∧ rsOctU32 [45, 55] = none ∧
    rsOctU32 [43, 55] = some 7 ∧ pyModeToken [43, 55] = none ∧ rsModeToken [43, 55] = none := by decide +kernel

/-- Non-vacuity: both hash lengths are admitted, and a tree with a space in a name, a directory and a
gitlink is well-formed. -/
example : 2 * 20 ∈ OGen.hexLens ∧ 2 * 32 ∈ OGen.hexLens := by decide +kernel

example : ∀ e ∈ ([⟨[97, 32, 98], 33188, hexlify (List.replicate 20 7)⟩, ⟨[97], 16384, hexlify (List.replicate 20 255)⟩,
    ⟨[255], 57344, hexlify (List.replicate 20 0)⟩] : List Entry), WFEntry 20 e := by
  intro e he
  simp only [List.mem_cons, List.not_mem_nil, or_false] at he
  rcases he with rfl | rfl | rfl
  · exact ⟨by decide, by decide, _, List.length_replicate, rfl⟩
  · exact ⟨by decide, by decide, _, List.length_replicate, rfl⟩
  · exact ⟨by decide, by decide, _, List.length_replicate, rfl⟩

/-- **`sorted_tree_items` is a sorted permutation** of the dict's items for the order "compare names as
bytes, a directory's name counting as `name/`" (`key_entry`). -/
theorem sortedTreeItems_perm (es : List Entry) : (sortedTreeItems es).Perm es := sortBy_perm keyLe es

theorem sortedTreeItems_sorted (es : List Entry) :
    (sortedTreeItems es).Pairwise (fun a b => keyLe a b = true) :=
  sortBy_pairwise keyLe keyLe_total keyLe_trans es

/-- Non-vacuity / the rule at work: file `a.b`, directory `a`, file `a-`, file `a0` come out as
`a-`, `a.b`, `a` (as `a/`), `a0`. -/
example : (sortedTreeItems [⟨[97, 46, 98], 33188, []⟩, ⟨[97], 16384, []⟩, ⟨[97, 45], 33188, []⟩, ⟨[97, 48], 33188, []⟩]).map (·.name)
    = [[97, 45], [97, 46, 98], [97], [97, 48]] := by decide +kernel

/-- **The order is git's, and the same in both implementations, for ALL names** (15beabf).  Python's key
order (`name`, or `name/` for a directory, compared as bytes) is exactly what the Rust `cmp_with_suffix`
computes — "compare the common prefix, then the rest of each name chained with `/` or nothing" — for every
pair of entries, names containing `/` or NUL included … -/
theorem tree_order_is_git_order (a b : Entry) : keyLe a b = rsLe a b := by
  rw [keyLe, rsLe, keyEntry_eq_suffix, keyEntry_eq_suffix, cmpWithSuffix_eq_lex, bytesLe_eq_cmpBytes]

/-- … hence the Python and the Rust `sorted_tree_items` return the same list, always. -/
theorem sortedTreeItems_py_eq_rs (es : List Entry) : sortedTreeItems es = sortedTreeItemsRs es :=
  congrArg (sortBy · es) (funext fun a => funext (tree_order_is_git_order a))

/-- Both refuse the same inputs (a mode that is not an unsigned 32-bit number; 46c4930). -/
theorem sortedTreeItemsE_py_eq_rs (es : List Entry) : sortedTreeItemsE es = sortedTreeItemsRsE es := by
  simp [sortedTreeItemsE, sortedTreeItemsRsE, sortedTreeItems_py_eq_rs]

/-- The old comparator (one virtual byte past the common prefix, NUL as "no suffix") agreed with the key
order only on names without NUL and `/` … -/
theorem old_tree_order_clean_names (a b : Entry) (ha : CleanName a.name) (hb : CleanName b.name) :
    keyLe a b = rsLeOld a b := by
  rw [keyLe, rsLeOld, keyEntry_eq_suffix, keyEntry_eq_suffix, bytesLe_eq_cmpBytes, cmpWithSuffixOld_eq_lex _ _ _ _ ha hb]

/-- … **regression witness on the old variant**: directory `a` against file `a/b` — Python compares
`a/` < `a/b`, the old Rust comparator stopped after one byte (equal); the comparator the code has now
agrees with Python on the same pair. -/
theorem old_tree_order_counterexample :
    keyLe ⟨[97, 47, 98], 33188, []⟩ ⟨[97], 16384, []⟩ ≠ rsLeOld ⟨[97, 47, 98], 33188, []⟩ ⟨[97], 16384, []⟩ ∧
    keyLe ⟨[97, 47, 98], 33188, []⟩ ⟨[97], 16384, []⟩ = rsLe ⟨[97, 47, 98], 33188, []⟩ ⟨[97], 16384, []⟩ ∧
    keyLe ⟨[97], 33188, []⟩ ⟨[97, 0], 33188, []⟩ = rsLe ⟨[97], 33188, []⟩ ⟨[97, 0], 33188, []⟩ := by
  decide +kernel

/-- **Canonical trees: bytes → fields → bytes.**  For entries already in `key_entry` order with pairwise
distinct names (what git writes), `Tree._deserialize` of the serialised bytes gives back the entries and
`Tree._serialize` of those gives back the bytes — also after any dirty-marking touch: `content_tracks_fields` at
`treeCls`, whose `ser` is `serializeTreeObj`, makes that the content. -/
theorem tree_canonical_reserialise (shaLen : Nat) (hlen : 2 * shaLen ∈ OGen.hexLens) (es : List Entry)
    (hwf : ∀ e ∈ es, WFEntry shaLen e) (h32 : ∀ e ∈ es, e.mode < 4294967296)
    (hsorted : es.Pairwise (fun a b => keyLe a b = true))
    (hdistinct : es.Pairwise (fun a b => a.name ≠ b.name)) :
    ∃ bs, serializeTree es = .ok bs ∧ deserializeTreeObj shaLen bs = .ok es ∧ serializeTreeObj es = .ok bs := by
  obtain ⟨bs, h1, h2⟩ := tree_roundtrip shaLen hlen es hwf h32
  refine ⟨bs, h1, ?_, ?_⟩
  · have := foldl_dictSet_distinct es [] hdistinct
    simp only [deserializeTreeObj, h2, dictOfList, this, List.nil_append]
  · have hm : modesOk es = true := by
      simp only [modesOk, List.all_eq_true, Bool.and_eq_true, decide_eq_true_eq]
      exact fun e he => ⟨(hwf e he).1, Int.lt_add_one_iff.mp (h32 e he)⟩
    simp only [serializeTreeObj, sortedTreeItemsE, hm, if_true, sortedTreeItems, sortBy_of_sorted keyLe es hsorted, h1]

/-! ## 5. Time entries, tags, commits -/

/-- **`parse_time_entry (format_time_entry …)`**: any identity ending in `>` (arbitrary other bytes,
LF and `> ` inside included), any integer time (negative, beyond 2^63), any whole-minute zone. -/
theorem time_entry_roundtrip (p : Bytes) (hp : WFPerson p) (t tz : Int) (neg : Bool) (hz : WFTz tz neg) :
    ∃ v, formatTimeEntry p t tz neg = .ok v ∧ parseTimeEntry v = .ok ⟨some p, some t, some tz, some neg⟩ :=
  timeEntry_roundtrip p hp t tz neg hz

example : WFPerson [65, 62, 32, 10, 60, 255, 62] ∧ WFTz (-34200) false ∧ WFTz 0 true := by decide +kernel

/-- **Tag: fields → bytes → fields**, whatever the object held before (`set_raw_string` on a live
object).  `WFTag` is git's grammar field by field (see Lemmas/ObjectsCommit.lean). -/
theorem tag_roundtrip (prev t : Tag) (h : WFTag t) :
    ∃ bs, serializeTag t = .ok bs ∧ deserializeTag prev bs = .ok t := by
  obtain ⟨hs, e, w, f⟩ := collect_foldFields (tagSlot t) tagField (tagAbsorb t) (tagSlot_absorb t h) tagSlots
  refine ⟨formatMessage hs (tagBody t), by rw [serializeTag, e], ?_⟩
  obtain ⟨-, -, -, htg, m, hm, hbody⟩ := h
  have hb : (tagBody t).getD [] = m ++ t.signature.getD [] := by rw [tagBody, hm]; rfl
  simp only [deserializeTag, parseMessageP_format _ _ w, f, hb, tagSetBody_wf _ m _ hbody, tagSlots_eq, resetTag_eq,
    List.foldl, tagAbsorb]
  -- every attribute has been assigned from `t`, or reset and absent in `t`
  obtain ⟨osha, oty, nm, tagger, ttime, ttz, tneg, msg, sig⟩ := t
  cases tagger with
  | none => simp only at htg hm ⊢; rw [htg.1, htg.2.1, htg.2.2, hm]
  | some p => simp only at hm ⊢; rw [hm]

/-- **Commit round trip without the LF requirement on mergetags** (the code after b8dbd4a).  If the
mergetag texts are arbitrary bytes whose completion (`text` itself when it ends in LF, `text ++ "\n"`
otherwise) parses as a tag, then fields → bytes → fields returns the commit with exactly that
completion applied to each mergetag text: no byte is lost; it is not the identity for a text without
final LF, because the header format cannot tell `foo` from `foo\n` (git completes the line as well). -/
theorem commit_roundtrip_general (c : Commit) (h : WFCommitG c) :
    ∃ bs, serializeCommit c = .ok bs ∧
      deserializeCommit bs = .ok { c with mergetag := c.mergetag.map completeLF } := by
  obtain ⟨hs, e, w, f⟩ :=
    collect_foldFields (commitSlot c) commitField (commitAbsorb c) (commitSlot_absorb c h) commitSlots
  refine ⟨formatMessage hs c.message, by rw [serializeCommit, e], ?_⟩
  obtain ⟨-, -, -, -, -, -, -, m, hm⟩ := h
  simp only [deserializeCommit, parseMessageP_format _ _ w, f, commitSlots_eq, List.foldl, commitAbsorb]
  -- every attribute has been assigned from `c`; an absent optional header leaves the initial `none`
  obtain ⟨tree, parents, author, committer, encoding, mergetag, extra, gpgsig, message⟩ := c
  cases hm
  cases encoding <;> cases gpgsig <;> rfl

/-- **Commit: fields → bytes → fields.**  `WFCommit`: any bytes for tree and parents, 0..n parents,
identities ending in `>`, any integer times, whole-minute zones (`-0000` via the flag), optional
non-empty encoding and gpgsig (multi-line), mergetags whose text ends in LF and parses as a tag, extra
headers with well-formed non-reserved names and arbitrary (multi-line) values, any message bytes. -/
theorem commit_roundtrip (c : Commit) (h : WFCommit c) :
    ∃ bs, serializeCommit c = .ok bs ∧ deserializeCommit bs = .ok c := by
  obtain ⟨bs, h1, h2⟩ := commit_roundtrip_general c (WFCommitG_of_WFCommit c h)
  obtain ⟨-, -, -, -, hmt, -⟩ := h
  have hid : c.mergetag.map completeLF = c.mergetag :=
    (List.map_congr_left fun raw hr => completeLF_of_last raw (hmt raw hr).1).trans (List.map_id' _)
  exact ⟨bs, h1, by rw [h2, hid]⟩

/-- **Canonical bytes → fields → bytes.**  Bytes that are the serialisation of some well-formed commit
(the grammar git emits, which the correspondence check and C git tie to `serializeCommit`) are
reproduced exactly by parsing and re-serialising — what any dirty-marking setter triggers. -/
theorem commit_canonical_reserialise (bs : Bytes) (hc : ∃ c, WFCommit c ∧ serializeCommit c = .ok bs) :
    ∃ c, deserializeCommit bs = .ok c ∧ serializeCommit c = .ok bs := by
  obtain ⟨c, hwf, hs⟩ := hc
  obtain ⟨bs', h1, h2⟩ := commit_roundtrip c hwf
  cases hs.symm.trans h1
  exact ⟨c, h2, hs⟩

theorem tag_canonical_reserialise (bs : Bytes) (hc : ∃ t, WFTag t ∧ serializeTag t = .ok bs) :
    ∃ t, deserializeTag Tag.empty bs = .ok t ∧ serializeTag t = .ok bs := by
  obtain ⟨t, hwf, hs⟩ := hc
  obtain ⟨bs', h1, h2⟩ := tag_roundtrip Tag.empty t hwf
  cases hs.symm.trans h1
  exact ⟨t, h2, hs⟩

/-- Non-vacuity: a merge commit with odd identity bytes, a negative time, `-0000`, an encoding, a
multi-line extra header whose value ends in LF, a multi-line gpgsig with a blank line, and a message
that looks like headers is well-formed. -/
example : WFCommit
    { tree := some [97], parents := [[98], [99]],
      author := ⟨some [255, 32, 60, 62], some (-5), some 19800, some false⟩,
      committer := ⟨some [67, 62], some 99999999999999999999, some 0, some true⟩,
      encoding := some [108], mergetag := [],
      extra := [([72, 71, 58, 120], [49, 10, 10, 50, 10])],
      gpgsig := some [45, 10, 10, 45], message := some [116, 114, 101, 101, 32, 120, 10] } :=
  ⟨⟨_, rfl⟩, ⟨_, _, _, _, rfl, by decide, by decide⟩, ⟨_, _, _, _, rfl, by decide, by decide⟩, by decide,
   nofun, by decide +kernel, by decide, ⟨_, rfl⟩⟩

/-- **Only the edited header changes.**  Replace the author of a well-formed commit by another
well-formed author: the two serialisations share everything before and everything after the author
line, byte for byte. -/
theorem one_field_edit_author (c : Commit) (h : WFCommit c) (a' : TimeInfo) (ha' : WFTime a') :
    ∃ pre post x x', serializeCommit c = .ok (pre ++ x ++ post) ∧
      serializeCommit { c with author := a' } = .ok (pre ++ x' ++ post) ∧
      (∃ v, x = formatHeader (OGen.hdrAuthor, v)) ∧ (∃ v', x' = formatHeader (OGen.hdrAuthor, v')) := by
  have hG := WFCommitG_of_WFCommit c h
  obtain ⟨-, hauthor, -⟩ := h
  obtain ⟨ht, et, -⟩ := commitSlot_absorb c hG .tree
  obtain ⟨hp, ep, -⟩ := commitSlot_absorb c hG .parent
  obtain ⟨h2, e2, -⟩ := collect_foldFields (commitSlot c) commitField (commitAbsorb c) (commitSlot_absorb c hG)
    [.committer, .encoding, .mergetag, .extra, .gpgsig]
  obtain ⟨va, ea, -⟩ := timeHeader_roundtrip OGen.hdrAuthor c.author hauthor
  obtain ⟨va', ea', -⟩ := timeHeader_roundtrip OGen.hdrAuthor a' ha'
  -- the other slots do not look at the author, so `et`, `ep` and `e2` speak of both commits
  have ser : ∀ (d : Commit) (v : Bytes), d.message = c.message →
      commitSlot d .tree = .ok ht → commitSlot d .parent = .ok hp →
      timeHeader OGen.hdrAuthor d.author = .ok [(OGen.hdrAuthor, v)] →
      collect (commitSlot d) [.committer, .encoding, .mergetag, .extra, .gpgsig] = .ok h2 →
      serializeCommit d = .ok (formatHeaders (ht ++ hp) ++ formatHeader (OGen.hdrAuthor, v)
        ++ (formatHeaders h2 ++ [10] ++ c.message.getD [])) := by
    intro d v hm dt dp dv d2
    rw [serializeCommit, commitSlots_eq, collect_cons _ _ _ _ _ dt (collect_cons _ _ _ _ _ dp
      (collect_cons (commitSlot d) .author _ _ _ dv d2)), hm]
    simp only [formatMessage, formatHeaders_append, formatHeaders, List.append_assoc, List.append_nil]
  exact ⟨_, _, _, _, ser c va rfl et ep ea e2, ser _ va' rfl et ep ea' e2, ⟨va, rfl⟩, ⟨va', rfl⟩⟩

/-- **The statement of the property for commits, end to end.**  Take a live `Commit` in any state whatever, assign
well-formed field values through a dirty-marking setter (`u`), read `id` and `as_raw_string()` any number of times:
the new fields serialise to some `bs`, the id is the name of `bs` (`H("commit <len>\0" ++ bs)`, as an `Option`), and
parsing `bs` gives back exactly the current field values. -/
theorem commit_id_after_dirty_setter (H : Bytes → Bytes) (s : St Commit) (u : Commit → Commit)
    (hwf : WFCommit (u s.fields)) (reads : List (Op Commit)) (hr : ∀ op ∈ reads, op.isRead) :
    ∃ bs, serializeCommit (u s.fields) = .ok bs ∧
      (shaStep H commitCls (run H commitCls (setStep commitCls 1 u s) reads)).1 = nameOf H commitCls bs ∧
      deserializeCommit bs = .ok (u s.fields) := by
  obtain ⟨bs, h1, h2⟩ := commit_roundtrip _ hwf
  refine ⟨bs, h1, (id_after_dirty_setter H commitCls s u reads hr).trans ?_, h2⟩
  rw [show commitCls.ser _ = some bs from congrArg Except.toOpt h1]
  rfl

/-- The instance of `commit_id_after_dirty_setter` (cite that one) at the state `run H commitCls s0 ops`, with the
hypotheses `h0`, `hops` kept as first written; the id is stated as `(hashInput 1 bs).map H`, which is
`nameOf H commitCls bs` unfolded. -/
theorem commit_id_after_edit (H : Bytes → Bytes) (s0 : St Commit) (h0 : Inv H commitCls s0)
    (ops : List (Op Commit)) (hops : ∀ op ∈ ops, op.invalidating) (u : Commit → Commit)
    (hwf : WFCommit (u (run H commitCls s0 ops).fields))
    (reads : List (Op Commit)) (hr : ∀ op ∈ reads, op.isRead) :
    ∃ bs, (shaStep H commitCls (run H commitCls (setStep commitCls 1 u (run H commitCls s0 ops)) reads)).1
        = (hashInput 1 bs).map H ∧
      deserializeCommit bs = .ok (u (run H commitCls s0 ops).fields) :=
  let ⟨bs, _, h⟩ := commit_id_after_dirty_setter H _ u hwf reads hr
  ⟨bs, h⟩

/-- The header the hash input starts with is `commit <decimal length> NUL` (evaluated on an instance). -/
example : hashInput 1 [120, 121] = some [99, 111, 109, 109, 105, 116, 32, 50, 0, 120, 121] := by decide +kernel

/-! ### Re-filling a live object from new bytes forgets the old contents -/

/-- Tie to the source (Tag): every attribute that a header branch for an OPTIONAL header assigns (anything but
`object`, `type`, `tag`, which git's grammar makes mandatory, and the body, which `_parse_message` always
yields) is reset at the top of `Tag._deserialize`. -/
theorem tag_optional_attrs_are_reset :
    ∀ br ∈ OGen.tagBranchAssigns, br.1 ∉ ["_OBJECT_HEADER", "_TYPE_HEADER", "_TAG_HEADER", "None"] →
      ∀ a ∈ br.2, a ∈ OGen.tagResets := by decide +kernel

/-- … and the mandatory branches and the body cover all remaining attributes of a tag. -/
theorem tag_all_attrs_covered :
    ∀ a ∈ ["_object_sha", "_object_class", "_name", "_tagger", "_tag_time", "_tag_timezone",
           "_tag_timezone_neg_utc", "_message", "_signature"],
      a ∈ OGen.tagResets ∨ ∃ br ∈ OGen.tagBranchAssigns,
        br.1 ∈ ["_OBJECT_HEADER", "_TYPE_HEADER", "_TAG_HEADER", "None"] ∧ a ∈ br.2 := by decide +kernel

/-- Tie to the source (Commit): `Commit._deserialize` assigns every slot of the class unconditionally. -/
theorem commit_deserialize_assigns_every_slot :
    ∀ a ∈ OGen.commitSlotAttrs, a ∈ OGen.commitDeserAssigned := by decide +kernel

/-- **`refill_forgets` (Commit).**  The parse transition of the cache machine is a function of the new bytes
only: whatever the live object held (`s`), after `set_raw_string(bytes)` its fields are those of a fresh
object parsed from the same bytes. -/
theorem refill_forgets_commit (s : St Commit) (bytes : Bytes) (c : Commit)
    (h : deserializeCommit bytes = .ok c) :
    (setRawStep commitCls bytes s).fields = c ∧
    (setRawStep commitCls bytes s).fields = (setRawStep commitCls bytes (freshInit Commit.empty)).fields := by
  simp [setRawStep, commitCls, Except.toOpt, h]

/-- **`refill_forgets` (Tag).**  For every text in git's tag grammar (the serialisation of a `WFTag`: with or
without tagger line, signature, `-0000` flag …) the result of `Tag._deserialize` does not depend on what the
live object held before — in particular a tagger, time, zone and neg-utc flag of the old text are gone when
the new text has no tagger line. -/
theorem refill_forgets_tag (s : St Tag) (bytes : Bytes) (hc : ∃ t, WFTag t ∧ serializeTag t = .ok bytes) :
    (setRawStep tagCls bytes s).fields = (setRawStep tagCls bytes (freshInit Tag.empty)).fields ∧
    deserializeTag s.fields bytes = deserializeTag Tag.empty bytes := by
  obtain ⟨t, hwf, hs⟩ := hc
  obtain ⟨b1, h1, h2⟩ := tag_roundtrip s.fields t hwf
  obtain ⟨b2, h3, h4⟩ := tag_roundtrip Tag.empty t hwf
  rw [hs] at h1 h3
  cases h1; cases h3
  refine ⟨?_, by rw [h2, h4]⟩
  simp [setRawStep, tagCls, Except.toOpt, h2, h4, freshInit]

/-- Witness that the reset matters (model variant without it): a rich tag followed by a tagger-less text keeps
the old tagger if `_deserialize` starts from the previous attributes instead of `resetTag`. -/
theorem refill_without_reset_counterexample :
    let rich : Tag := ⟨some [97], some [116, 114, 101, 101], some [118], some [84, 62], some 1, some 0, some true,
      some [109], none⟩
    let poorText : Bytes := [111, 98, 106, 101, 99, 116, 32, 97, 10, 116, 121, 112, 101, 32, 116, 114, 101, 101, 10,
      116, 97, 103, 32, 118, 10, 10, 109]
    (deserializeTag rich poorText).toOption.map (·.tagger) = some none ∧
    (foldFields tagField rich (parseMessageP poorText).1).toOption.map (·.tagger) = some (some [84, 62]) := by
  decide +kernel

/-! ### Mergetag texts without a final LF; objects without a blank line -/

/-- witness data: a tag text without trailing LF (`object a\ntype tree\ntag v\n\nfoo`) -/
def cxTagText : Bytes := [111, 98, 106, 101, 99, 116, 32, 97, 10, 116, 121, 112, 101, 32, 116, 114, 101, 101, 10,
  116, 97, 103, 32, 118, 10, 10, 102, 111, 111]

def cxCommit (mergetag : List Bytes) (message : Option Bytes) : Commit :=
  ⟨some [97], [], ⟨some [65, 62], some 1, some 0, some false⟩, ⟨some [67, 62], some 1, some 0, some false⟩,
   none, mergetag, [], none, message⟩

/-- Tie to the source: `Commit._serialize` cuts the final byte of a mergetag text only when it is LF. -/
theorem mergetag_cut_is_conditional : OGen.mergetagStripConditional = true := rfl

/-- **Regression (finding mergetag-lf, fixed by b8dbd4a).**  A mergetag whose text does not end in LF
(`…\n\nfoo`) keeps every byte: the parsed commit holds `…\n\nfoo\n` (the parser's appended LF), and that
commit serialises to the very same bytes. -/
theorem mergetag_without_lf_preserved :
    ∃ bs, serializeCommit (cxCommit [cxTagText] (some [109])) = .ok bs ∧
      deserializeCommit bs = .ok (cxCommit [cxTagText ++ [10]] (some [109])) ∧
      serializeCommit (cxCommit [cxTagText ++ [10]] (some [109])) = .ok bs :=
  ⟨(serializeCommit (cxCommit [cxTagText ++ [10]] (some [109]))).toOption.getD [], by decide +kernel⟩

/-- **The old defect, kept as a variant.**  The unconditional cut `text[:-1]` (code before b8dbd4a) turns
the same text into `…\n\nfo`, which the parser completes to `…\n\nfo\n`: a content byte is gone. -/
theorem old_mergetag_cut_counterexample :
    cxTagText.dropLast ++ [10] ≠ cxTagText ++ [10] ∧ mergetagValue cxTagText = cxTagText ∧
    cxTagText.dropLast ≠ cxTagText := by decide +kernel

/-- witness data: `tree a\nauthor A> 1 +0000\ncommitter C> 1 +0000\n` — no blank line, no message -/
def cxNoBlank : Bytes := [116, 114, 101, 101, 32, 97, 10, 97, 117, 116, 104, 111, 114, 32, 65, 62, 32, 49, 32, 43, 48,
  48, 48, 48, 10, 99, 111, 109, 109, 105, 116, 116, 101, 114, 32, 67, 62, 32, 49, 32, 43, 48, 48, 48, 48, 10]

/-- **Negation witness (finding missing-message).**  A commit that ends after its last header line
(no blank line — accepted by git, parsed as `message = None`) is re-serialised with a blank line: one
byte more than the original. -/
theorem missing_message_counterexample :
    deserializeCommit cxNoBlank = .ok (cxCommit [] none) ∧
    serializeCommit (cxCommit [] none) = .ok (cxNoBlank ++ [10]) := by
  decide +kernel

end Dulwich.Props.C01
