/-
  The loop of `_find_lcas`.  One iteration is described once, key by key, as a relation `Iter` between the state
  before and the state after (the word of every commit, the queue, the candidates), and the invariants are proved
  about any two states so related:

    * `SoundSt` — every flag that is set is justified by the graph, a candidate carries `_LCA` and is recorded once
                  (all graphs, all stamps, any start);
    * `Dom`     — every queued commit has a `cstates` entry (no `KeyError`), stamps in the queue and among the
                  candidates are the commits' stamps;
    * `mu`      — each push clears room in a flag word, so `mu ≤ 3·n + |c2s| + 1` bounds the iterations
                  (`defaultFuel` has one to spare); the one fact proved about `stepWith` itself and not about `Iter`,
                  which speaks of membership in the queue and not of its length (`stepWith_measure`, `loop_terminates`);
    * `Live`    — a commit whose word changed is queued again, otherwise its parents already carry its flags
                  (completeness for every clock);
    * `Ordered` — with stamps strictly increasing from parent to child nothing in the queue is newer than a
                  recorded candidate (exactness under that hypothesis).
-/
import DulwichModel.Lemmas.LCAFlags

namespace Dulwich.LCA

section

variable {g : Graph} {cut : Nat → Bool} {c1 : Nat} {c2s : List Nat} {s : St} {dt : Int} {c : Nat}
  {rest : List Entry} {f : Flags}

/-! ## the parents loop, key by key -/

/-- the loop body changes something for parent `p` -/
def pushed (cut : Nat → Bool) (cfl : Flags) (fl : FlagMap) (p : Nat) : Bool :=
  !((fl.get p).getD Flags.zero).covers cfl && !cut p

theorem pushParent_eq (g : Graph) (cut : Nat → Bool) (cfl : Flags) (acc : FlagMap × List Entry) (p : Nat) :
    pushParent g cut cfl acc p =
      if pushed cut cfl acc.1 p = true then
        (acc.1.set p (((acc.1.get p).getD Flags.zero).union cfl), (g.ts p, p) :: acc.2)
      else acc := by
  unfold pushParent pushed
  simp only
  cases ((acc.1.get p).getD Flags.zero).covers cfl <;> cases cut p <;> rfl

theorem pushParent_size (g : Graph) (cut : Nat → Bool) (cfl : Flags) (acc : FlagMap × List Entry) (p : Nat) :
    (pushParent g cut cfl acc p).1.size = acc.1.size := by
  rw [pushParent_eq]
  split
  · exact FlagMap.size_set _ _ _
  · rfl

theorem pushParents_size (g : Graph) (cut : Nat → Bool) (cfl : Flags) (ps : List Nat) (acc : FlagMap × List Entry) :
    (ps.foldl (pushParent g cut cfl) acc).1.size = acc.1.size :=
  List.foldlRecOn (motive := fun a => a.1.size = acc.1.size) ps _ rfl fun a h p _ => (pushParent_size g cut cfl a p).trans h

/-- a second occurrence in the parent list does nothing -/
theorem pushed_set_self {cfl : Flags} {fl : FlagMap} {p : Nat} (hp : p < fl.size) :
    pushed cut cfl (fl.set p (((fl.get p).getD Flags.zero).union cfl)) p = false := by
  simp [pushed, FlagMap.get_set, hp, covers_union]

theorem pushParents_get {cfl : Flags} (d : Nat) :
    ∀ (ps : List Nat) (acc : FlagMap × List Entry),
      (ps.foldl (pushParent g cut cfl) acc).1.get d =
        if d ∈ ps ∧ d < acc.1.size ∧ pushed cut cfl acc.1 d = true then
          some (((acc.1.get d).getD Flags.zero).union cfl)
        else acc.1.get d := by
  intro ps
  induction ps with
  | nil => intro acc; simp
  | cons p ps ih =>
    intro acc
    rw [List.foldl_cons, ih, pushParent_eq]
    by_cases hp : pushed cut cfl acc.1 p = true
    · rw [if_pos hp]
      simp only [FlagMap.size_set]
      by_cases hd : p = d
      · subst hd
        by_cases hlt : p < acc.1.size
        · simp [hp, hlt, pushed_set_self hlt, FlagMap.get_set]
        · simp [hlt, FlagMap.get_set]
      · simp [pushed, FlagMap.get_set_ne _ _ _ _ hd, List.mem_cons, Ne.symm hd]
    · rw [if_neg hp]
      by_cases hd : d = p
      · subst hd; simp [hp]
      · simp [List.mem_cons, hd]

theorem mem_pushParents_wl {cfl : Flags} (e : Entry) :
    ∀ (ps : List Nat) (acc : FlagMap × List Entry),
      (e ∈ (ps.foldl (pushParent g cut cfl) acc).2 ↔
        e ∈ acc.2 ∨ ∃ p, p ∈ ps ∧ pushed cut cfl acc.1 p = true ∧ e = (g.ts p, p)) := by
  intro ps
  induction ps with
  | nil => intro acc; simp
  | cons q ps ih =>
    intro acc
    rw [List.foldl_cons, ih, pushParent_eq]
    by_cases hp : pushed cut cfl acc.1 q = true
    · rw [if_pos hp]
      -- the other parents are as due as before; `q` itself was due, whatever it is now
      have hne : ∀ p, p ≠ q → pushed cut cfl (acc.1.set q (((acc.1.get q).getD Flags.zero).union cfl)) p =
          pushed cut cfl acc.1 p := fun p hpq => by simp only [pushed, FlagMap.get_set_ne _ _ _ _ (Ne.symm hpq)]
      simp only [List.mem_cons]
      constructor
      · rintro ((rfl | h1) | ⟨p, hp1, hp2, rfl⟩)
        · exact Or.inr ⟨q, Or.inl rfl, hp, rfl⟩
        · exact Or.inl h1
        · refine Or.inr ⟨p, Or.inr hp1, ?_, rfl⟩
          by_cases hpq : p = q
          · exact hpq ▸ hp
          · exact hne p hpq ▸ hp2
      · rintro (h1 | ⟨p, rfl | hp1, hp2, rfl⟩)
        · exact Or.inl (Or.inr h1)
        · exact Or.inl (Or.inl rfl)
        · by_cases hpq : p = q
          · subst hpq; exact Or.inl (Or.inl rfl)
          · exact Or.inr ⟨p, hp1, (hne p hpq).symm ▸ hp2, rfl⟩
    · rw [if_neg hp]
      simp only [List.mem_cons]
      constructor
      · rintro (h1 | ⟨p, hp1, hp2, rfl⟩)
        · exact Or.inl h1
        · exact Or.inr ⟨p, Or.inr hp1, hp2, rfl⟩
      · rintro (h1 | ⟨p, rfl | hp1, hp2, rfl⟩)
        · exact Or.inl h1
        · exact absurd hp2 hp
        · exact Or.inr ⟨p, hp1, hp2, rfl⟩

/-! ## one iteration -/

/-- `newCand` of `stepWith`: the popped commit, whose word is `f`, is recorded as a candidate in this iteration -/
def newCand (f : Flags) : Bool := f.ancMask.isBoth && !f.lca

/-- the map after the candidate bookkeeping of one iteration -/
def fl1Of (s : St) (c : Nat) (f : Flags) : FlagMap :=
  if newCand f = true then s.fl.set c { f with lca := true } else s.fl

theorem fl1Of_size (s : St) (c : Nat) (f : Flags) : (fl1Of s c f).size = s.fl.size := by
  unfold fl1Of; split <;> simp

theorem fl1Of_get (hf : s.fl.get c = some f) (d : Nat) :
    (fl1Of s c f).get d =
      if d = c ∧ newCand f = true then some { f with lca := true } else s.fl.get d := by
  unfold fl1Of
  by_cases hn : newCand f = true
  · rw [if_pos hn, FlagMap.get_set]
    simp [hn, FlagMap.get_lt hf, eq_comm]
  · rw [if_neg hn]; simp [hn]

theorem fl1Of_grows (hf : s.fl.get c = some f) : Grows s.fl (fl1Of s c f) := by
  intro d f0 hd
  rw [fl1Of_get hf]
  split
  · rename_i h
    rw [h.1, hf] at hd
    cases hd
    exact ⟨_, rfl, (covers_iff _ _).mpr ⟨id, id, id, fun _ => rfl⟩⟩
  · exact ⟨f0, hd, covers_refl f0⟩

structure Iter (g : Graph) (cut : Nat → Bool) (s : St) (dt : Int) (c : Nat) (f : Flags) (s' : St) : Prop where
  mem : (dt, c) ∈ s.wl
  top : ∀ e, e ∈ s.wl → e.1 ≤ dt
  word : s.fl.get c = some f
  size : s'.fl.size = s.fl.size
  get : ∀ d, s'.fl.get d =
    if d ∈ g.parents c ∧ d < s.fl.size ∧ pushed cut (cflagsOf f) (fl1Of s c f) d = true then
      some ((((fl1Of s c f).get d).getD Flags.zero).union (cflagsOf f))
    else (fl1Of s c f).get d
  wl : ∀ e, e ∈ s'.wl ↔
    e ∈ s.wl.erase (dt, c) ∨ ∃ p, p ∈ g.parents c ∧ pushed cut (cflagsOf f) (fl1Of s c f) p = true ∧ e = (g.ts p, p)
  cands : s'.cands = if newCand f = true then s.cands ++ [(dt, c)] else s.cands

theorem stepWith_iter (hpop : popMax s.wl = some ((dt, c), rest)) (hf : s.fl.get c = some f) :
    Iter g cut s dt c f (stepWith g cut s dt c rest f) := by
  obtain ⟨hb, hrest, hmax⟩ := popMax_spec hpop
  have hsz := fl1Of_size s c f
  exact ⟨hb, hmax, hf, (pushParents_size ..).trans hsz, fun d => hsz ▸ pushParents_get d _ _,
    fun e => hrest ▸ mem_pushParents_wl e _ _, rfl⟩

theorem step_iter {s' : St} (h : step g cut s = .ok s') : ∃ dt c f, Iter g cut s dt c f s' := by
  unfold step at h
  split at h
  · cases h
  · rename_i dt c rest hpop
    split at h
    · cases h
    · rename_i f hf
      cases h
      exact ⟨dt, c, f, stepWith_iter hpop hf⟩

theorem loop_inv (I : St → Prop) (hstep : ∀ s dt c f s', I s → Iter g cut s dt c f s' → I s') :
    ∀ {fuel : Nat} {s s' : St}, I s → loop g cut fuel s = .ok s' → I s' ∧ hasCandidates s' = false := by
  intro fuel
  induction fuel with
  | zero =>
    intro s s' hI h
    simp only [loop] at h
    split at h
    · cases h
    · cases h; exact ⟨hI, Bool.eq_false_iff.mpr ‹_›⟩
  | succ n ih =>
    intro s s' hI h
    simp only [loop] at h
    split at h
    · split at h
      · rename_i s1 hs1
        obtain ⟨dt, c, f, it⟩ := step_iter hs1
        exact ih (hstep s dt c f s1 hI it) h
      · cases h
    · cases h; exact ⟨hI, Bool.eq_false_iff.mpr ‹_›⟩

section
variable {s' : St} (it : Iter g cut s dt c f s')
include it

theorem Iter.grows1 : Grows (fl1Of s c f) s'.fl := by
  intro d f0 hd
  rw [it.get, hd]
  split
  · exact ⟨_, rfl, union_covers_left f0 _⟩
  · exact ⟨f0, rfl, covers_refl f0⟩

theorem Iter.grows : Grows s.fl s'.fl := (fl1Of_grows it.word).trans it.grows1

theorem Iter.mem_cands {e : Entry} (he : e ∈ s'.cands) :
    e ∈ s.cands ∨ e = (dt, c) ∧ newCand f = true := by
  rw [it.cands] at he
  split at he
  · exact (List.mem_append.mp he).imp_right fun h => ⟨List.mem_singleton.mp h, ‹_›⟩
  · exact Or.inl he

end

/-! ## soundness of a state -/

structure SoundSt (g : Graph) (c1 : Nat) (c2s : List Nat) (s : St) : Prop where
  fl : Sound g c1 c2s s.fl
  cands : ∀ e, e ∈ s.cands → ∃ f, s.fl.get e.2 = some f ∧ f.anc1 = true ∧ f.anc2 = true ∧ f.lca = true
  nodup : (s.cands.map (·.2)).Nodup

theorem Iter.sound {s' : St} (it : Iter g cut s dt c f s') (h : SoundSt g c1 c2s s) : SoundSt g c1 c2s s' := by
  have hf := it.word
  have hgood := h.fl c f hf
  have h1 : Sound g c1 c2s (fl1Of s c f) := by
    intro d f' hd
    rw [fl1Of_get hf] at hd
    split at hd
    · rename_i hc
      cases hd
      rw [hc.1]
      exact ⟨hgood.a1, hgood.a2, hgood.dn⟩
    · exact h.fl d f' hd
  have hcand : ∀ {fl : FlagMap}, Grows fl s'.fl → ∀ x f0, fl.get x = some f0 → f0.anc1 = true → f0.anc2 = true →
      f0.lca = true → ∃ f', s'.fl.get x = some f' ∧ f'.anc1 = true ∧ f'.anc2 = true ∧ f'.lca = true := by
    intro fl hg x f0 hf0 h1 h2 h3
    obtain ⟨f', hf', hcov⟩ := hg x f0 hf0
    rw [covers_iff] at hcov
    exact ⟨f', hf', hcov.1 h1, hcov.2.1 h2, hcov.2.2.2 h3⟩
  refine ⟨?_, ?_, ?_⟩
  · intro d f' hd
    rw [it.get] at hd
    split at hd
    · rename_i hp
      cases hd
      exact (h1.getD d).union (hgood.down hp.1)
    · exact h1 d f' hd
  · intro e he
    rcases it.mem_cands he with he | ⟨rfl, hnew⟩
    · obtain ⟨f0, hf0, h1, h2, h3⟩ := h.cands e he
      exact hcand it.grows e.2 f0 hf0 h1 h2 h3
    · have hw := (fl1Of_get hf c).trans (if_pos ⟨rfl, hnew⟩)
      simp only [newCand, Bool.and_eq_true, isBoth_ancMask] at hnew
      exact hcand it.grows1 c _ hw hnew.1.1.1 hnew.1.1.2 rfl
  · rw [it.cands]
    split
    · rename_i hn
      rw [List.map_append, List.nodup_append]
      refine ⟨h.nodup, by simp, ?_⟩
      intro a ha b hb' hab
      obtain ⟨e, he, rfl⟩ := List.mem_map.mp ha
      obtain ⟨f0, hf0, _, _, hl0⟩ := h.cands e he
      rw [hab, List.mem_singleton.mp hb', hf] at hf0
      cases hf0
      simp [newCand, hl0] at hn
    · exact h.nodup

/-! ## the initial state in closed form -/

theorem initC2s_get (g : Graph) (d : Nat) : ∀ (l : List Nat) (s : St),
    (l.foldl (initC2 g) s).fl.get d =
      if d ∈ l ∧ d < s.fl.size then some { (s.fl.get d).getD Flags.zero with anc2 := true } else s.fl.get d := by
  intro l
  induction l with
  | nil => intro s; simp
  | cons c2 l ih =>
    intro s
    rw [List.foldl_cons, ih]
    simp only [initC2, FlagMap.size_set, FlagMap.get_set, List.mem_cons]
    by_cases hd : c2 = d
    · subst hd
      by_cases hlt : c2 < s.fl.size
      · by_cases hl : c2 ∈ l <;> simp [hlt, hl]
      · simp [hlt]
    · simp [hd, Ne.symm hd]

theorem initC2s_wl (g : Graph) : ∀ (l : List Nat) (s : St),
    (l.foldl (initC2 g) s).wl = l.reverse.map (fun c => (g.ts c, c)) ++ s.wl ∧
    (l.foldl (initC2 g) s).cands = s.cands ∧ (l.foldl (initC2 g) s).fl.size = s.fl.size := by
  intro l
  induction l with
  | nil => intro s; simp
  | cons c2 l ih => intro s; simpa [initC2] using ih (initC2 g s c2)

theorem init_cands (g : Graph) (c1 : Nat) (c2s : List Nat) : (init g c1 c2s).cands = [] :=
  (initC2s_wl g c2s _).2.1

theorem mem_init_wl (g : Graph) (c1 : Nat) (c2s : List Nat) (e : Entry) :
    e ∈ (init g c1 c2s).wl ↔ ∃ c, (c = c1 ∨ c ∈ c2s) ∧ e = (g.ts c, c) := by
  rw [init, (initC2s_wl g c2s _).1]
  simp only [List.mem_append, List.mem_map, List.mem_reverse, List.mem_singleton]
  constructor
  · rintro (⟨c, hc, rfl⟩ | rfl)
    · exact ⟨c, Or.inr hc, rfl⟩
    · exact ⟨c1, Or.inl rfl, rfl⟩
  · rintro ⟨c, rfl | hc, rfl⟩
    · exact Or.inr rfl
    · exact Or.inl ⟨c, hc, rfl⟩

theorem init_get (g : Graph) (c1 : Nat) (c2s : List Nat) (d : Nat) :
    (init g c1 c2s).fl.get d =
      if d < g.n ∧ (d = c1 ∨ d ∈ c2s) then some ⟨decide (d = c1), decide (d ∈ c2s), false, false⟩ else none := by
  rw [init, initC2s_get]
  simp only [FlagMap.size_set, FlagMap.size_empty, FlagMap.get_set, FlagMap.get_empty]
  by_cases hlt : d < g.n
  · by_cases h1 : c1 = d
    · subst h1; by_cases h2 : c1 ∈ c2s <;> simp [hlt, h2]
    · by_cases h2 : d ∈ c2s <;> simp [hlt, h1, Ne.symm h1, h2, Flags.zero]
  · have : ¬ (c1 = d ∧ c1 < g.n) := fun h => hlt (h.1 ▸ h.2)
    simp [hlt, this]

theorem init_sound (g : Graph) (c1 : Nat) (c2s : List Nat) : SoundSt g c1 c2s (init g c1 c2s) := by
  refine ⟨fun d f hd => ?_, fun e he => ?_, ?_⟩
  · rw [init_get] at hd
    split at hd
    · cases hd
      exact ⟨fun h => of_decide_eq_true h ▸ Anc.refl d, fun h => ⟨d, of_decide_eq_true h, Anc.refl d⟩, nofun⟩
    · cases hd
  · rw [init_cands] at he; cases he
  · rw [init_cands]; exact List.nodup_nil

/-! ## domain: no `KeyError`; termination measure -/

structure Dom (g : Graph) (s : St) : Prop where
  size : s.fl.size = g.n
  wl : ∀ e, e ∈ s.wl → e.1 = g.ts e.2 ∧ ∃ f, s.fl.get e.2 = some f
  cands : ∀ e, e ∈ s.cands → e.1 = g.ts e.2

theorem Dom.parents_lt (hwf : g.WF) (h : Dom g s) (hf : s.fl.get c = some f) {p : Nat} (hp : p ∈ g.parents c) :
    p < s.fl.size :=
  h.size ▸ hwf c (h.size ▸ FlagMap.get_lt hf) p hp

theorem Iter.dom {s' : St} (it : Iter g cut s dt c f s') (hwf : g.WF) (h : Dom g s) : Dom g s' := by
  have hf := it.word
  have hps : ∀ p, p ∈ g.parents c → p < s.fl.size := fun _ => h.parents_lt hwf hf
  have hgrow := it.grows
  refine ⟨it.size.trans h.size, fun e he => ?_, fun e he => ?_⟩
  · rcases (it.wl e).mp he with he | ⟨p, hp, hpush, rfl⟩
    · have := h.wl e (List.mem_of_mem_erase he)
      exact ⟨this.1, this.2.elim fun f0 hf0 => (hgrow _ f0 hf0).imp fun _ h => h.1⟩
    · exact ⟨rfl, _, by rw [it.get, if_pos ⟨hp, hps p hp, hpush⟩]⟩
  · rcases it.mem_cands he with he | ⟨rfl, _⟩
    · exact h.cands e he
    · exact (h.wl _ it.mem).1

theorem init_dom (h1 : c1 < g.n) (h2 : ∀ c, c ∈ c2s → c < g.n) :
    Dom g (init g c1 c2s) ∧ (init g c1 c2s).wl.length = 1 + c2s.length := by
  refine ⟨⟨by rw [init, (initC2s_wl g c2s _).2.2]; simp, fun e he => ?_, fun e he => ?_⟩, ?_⟩
  · obtain ⟨c, hc, rfl⟩ := (mem_init_wl g c1 c2s e).mp he
    refine ⟨rfl, _, (init_get g c1 c2s c).trans (if_pos ⟨?_, hc⟩)⟩
    rcases hc with rfl | hc
    · exact h1
    · exact h2 c hc
  · rw [init_cands] at he; cases he
  · rw [init, (initC2s_wl g c2s _).1]; simp [Nat.add_comm]

def roomAt (fl : FlagMap) (c : Nat) : Nat := ((fl.get c).getD Flags.zero).room

def total (fl : FlagMap) : Nat → Nat
  | 0 => 0
  | n + 1 => total fl n + roomAt fl n

def mu (g : Graph) (s : St) : Nat := s.wl.length + total s.fl g.n

theorem total_le (fl : FlagMap) (n : Nat) : total fl n ≤ 3 * n := by
  induction n with
  | zero => exact Nat.le_refl 0
  | succ n ih => exact Nat.mul_succ 3 n ▸ Nat.add_le_add ih (room_le _)

theorem total_mono {a b : FlagMap} (h : ∀ d, roomAt b d ≤ roomAt a d) (n : Nat) : total b n ≤ total a n := by
  induction n with
  | zero => exact Nat.le_refl 0
  | succ n ih => exact Nat.add_le_add ih (h n)

theorem total_strict {a b : FlagMap} (h : ∀ d, roomAt b d ≤ roomAt a d) {p : Nat}
    (hp : roomAt b p + 1 ≤ roomAt a p) (n : Nat) (hn : p < n) : total b n + 1 ≤ total a n := by
  induction n with
  | zero => exact absurd hn (Nat.not_lt_zero p)
  | succ n ih =>
    rw [total, total]
    by_cases hpn : p = n
    · rw [Nat.add_assoc]
      exact hpn ▸ Nat.add_le_add (total_mono h p) hp
    · rw [Nat.add_right_comm]
      exact Nat.add_le_add (ih (Nat.lt_of_le_of_ne (Nat.le_of_lt_succ hn) hpn)) (h n)

theorem roomAt_set (fl : FlagMap) (c d : Nat) (f : Flags) :
    roomAt (fl.set c f) d = if c = d ∧ c < fl.size then f.room else roomAt fl d := by
  unfold roomAt
  rw [FlagMap.get_set]
  split <;> rfl

theorem pushParent_measure {cfl : Flags} {acc : FlagMap × List Entry} {p : Nat}
    (hsize : acc.1.size = g.n) (hp : p < g.n) (hc : cfl.lca = false) :
    (pushParent g cut cfl acc p).2.length + total (pushParent g cut cfl acc p).1 g.n ≤
      acc.2.length + total acc.1 g.n := by
  rw [pushParent_eq]
  split
  · rename_i hpush
    simp only [pushed, Bool.and_eq_true, Bool.not_eq_true'] at hpush
    have hlt := room_union_lt (p := (acc.1.get p).getD Flags.zero) hc hpush.1
    have hle : ∀ d, roomAt (acc.1.set p (((acc.1.get p).getD Flags.zero).union cfl)) d ≤ roomAt acc.1 d := by
      intro d
      rw [roomAt_set]
      split
      · rename_i h; obtain ⟨rfl, _⟩ := h
        exact Nat.le_of_succ_le hlt
      · exact Nat.le_refl _
    have hst : roomAt (acc.1.set p (((acc.1.get p).getD Flags.zero).union cfl)) p + 1 ≤ roomAt acc.1 p := by
      rw [roomAt_set, if_pos ⟨rfl, hsize ▸ hp⟩]
      exact hlt
    have := total_strict hle hst g.n hp
    simp only [List.length_cons]
    omega
  · exact Nat.le_refl _

theorem pushParents_measure {cfl : Flags} (hc : cfl.lca = false) :
    ∀ (ps : List Nat) (acc : FlagMap × List Entry), acc.1.size = g.n → (∀ p, p ∈ ps → p < g.n) →
      (ps.foldl (pushParent g cut cfl) acc).2.length + total (ps.foldl (pushParent g cut cfl) acc).1 g.n ≤
        acc.2.length + total acc.1 g.n := by
  intro ps
  induction ps with
  | nil => exact fun _ _ _ => Nat.le_refl _
  | cons p ps ih =>
    exact fun acc hs hps => Nat.le_trans
      (ih (pushParent g cut cfl acc p) ((pushParent_size g cut cfl acc p).trans hs) (List.forall_mem_cons.mp hps).2)
      (pushParent_measure hs (hps p List.mem_cons_self) hc)

theorem fl1Of_total (hf : s.fl.get c = some f) (n : Nat) :
    total (fl1Of s c f) n ≤ total s.fl n := by
  apply total_mono
  intro d
  unfold roomAt
  rw [fl1Of_get hf]
  split
  · rename_i h
    rw [h.1, hf]
    exact Nat.le_refl _
  · exact Nat.le_refl _

theorem stepWith_measure (hwf : g.WF) (h : Dom g s) (hpop : popMax s.wl = some ((dt, c), rest))
    (hf : s.fl.get c = some f) : mu g (stepWith g cut s dt c rest f) + 1 ≤ mu g s := by
  obtain ⟨hb, hrest, _⟩ := popMax_spec hpop
  have hc : c < g.n := h.size ▸ FlagMap.get_lt hf
  have h1 : (stepWith g cut s dt c rest f).wl.length + total (stepWith g cut s dt c rest f).fl g.n ≤
      rest.length + total (fl1Of s c f) g.n :=
    pushParents_measure (cflagsOf_lca f) (g.parents c) (fl1Of s c f, rest) ((fl1Of_size s c f).trans h.size) (hwf c hc)
  have h2 := fl1Of_total hf g.n
  have h3 : rest.length + 1 = s.wl.length := by
    rw [hrest, List.length_erase_of_mem hb]
    exact Nat.sub_add_cancel (List.length_pos_of_mem hb)
  unfold mu
  omega

theorem hasCandidates_nonempty (h : hasCandidates s = true) : s.wl ≠ [] := by
  intro he
  simp [hasCandidates, he] at h

theorem loop_terminates (hwf : g.WF) :
    ∀ (fuel : Nat) (s : St), Dom g s → mu g s < fuel → ∃ s', loop g cut fuel s = .ok s' := by
  intro fuel
  induction fuel with
  | zero => exact fun s _ hmu => absurd hmu (Nat.not_lt_zero _)
  | succ fuel ih =>
    intro s hd hmu
    simp only [loop]
    split
    · rename_i hc
      cases hpop : popMax s.wl with
      | none => exact absurd (popMax_none hpop) (hasCandidates_nonempty hc)
      | some r =>
        obtain ⟨⟨dt, c⟩, rest⟩ := r
        obtain ⟨f, hf⟩ := (hd.wl _ (popMax_spec hpop).1).2
        have hm := stepWith_measure (cut := cut) hwf hd hpop hf
        simp only [step, hpop, hf]
        exact ih _ ((stepWith_iter hpop hf).dom hwf hd) (by omega)
    · exact ⟨s, rfl⟩

/-! ## liveness (every clock) -/

def Served (g : Graph) (cut : Nat → Bool) (cfl : Flags) (p : Nat) (fl : FlagMap) : Prop :=
  cut p = true ∨ ((fl.get p).getD Flags.zero).covers cfl = true

theorem Served.mono {cfl : Flags} {p : Nat} {a b : FlagMap}
    (h : Served g cut cfl p a) (hg : Grows a b) : Served g cut cfl p b :=
  h.imp_right fun h => covers_trans h (hg.getD p)

theorem Iter.served {s' : St} (it : Iter g cut s dt c f s') (hps : ∀ p, p ∈ g.parents c → p < s.fl.size) {p : Nat}
    (hp : p ∈ g.parents c) : Served g cut (cflagsOf f) p s'.fl := by
  unfold Served
  rw [it.get]
  split
  · exact Or.inr (covers_union _ _)
  · rename_i hn
    cases hcut : cut p with
    | true => exact Or.inl rfl
    | false =>
      right
      cases hcov : (((fl1Of s c f).get p).getD Flags.zero).covers (cflagsOf f) with
      | true => rfl
      | false => exact absurd ⟨hp, hps p hp, by simp [pushed, hcut, hcov]⟩ hn

structure Live (g : Graph) (cut : Nat → Bool) (c1 : Nat) (c2s : List Nat) (s : St) : Prop where
  c1 : ∃ f, s.fl.get c1 = some f ∧ f.anc1 = true
  c2 : ∀ c2, c2 ∈ c2s → ∃ f, s.fl.get c2 = some f ∧ f.anc2 = true
  settled : ∀ c f, s.fl.get c = some f →
    (∃ dt, (dt, c) ∈ s.wl) ∨ ∀ p, p ∈ g.parents c → Served g cut (cflagsOf f) p s.fl
  lcaCand : ∀ c f, s.fl.get c = some f → f.lca = true → ∃ dt, (dt, c) ∈ s.cands
  both : ∀ c f, s.fl.get c = some f → f.anc1 = true → f.anc2 = true → f.dnc = false →
    (∃ dt, (dt, c) ∈ s.wl) ∨ f.lca = true

theorem Iter.live {s' : St} (it : Iter g cut s dt c f s') (hwf : g.WF) (hd : Dom g s) (h : Live g cut c1 c2s s) :
    Live g cut c1 c2s s' := by
  have hf := it.word
  have hps : ∀ p, p ∈ g.parents c → p < s.fl.size := fun _ => hd.parents_lt hwf hf
  have hgrow := it.grows
  have hwl := it.wl
  have hstay : ∀ d, d ≠ c → (∃ dt', (dt', d) ∈ s.wl) → ∃ dt', (dt', d) ∈ s'.wl :=
    fun d hne ⟨dt', hmem⟩ => ⟨dt', (hwl _).mpr (Or.inl
      ((List.mem_erase_of_ne (fun heq => hne (congrArg Prod.snd heq))).mpr hmem))⟩
  -- a word of the new state: a pushed parent (queued), the popped commit, or an untouched word
  have hword : ∀ d f', s'.fl.get d = some f' →
      (∃ dt', (dt', d) ∈ s'.wl) ∨
      (d = c ∧ cflagsOf f' = cflagsOf f ∧ (f'.lca = true ∨ f' = f ∧ newCand f = false)) ∨
      (d ≠ c ∧ s.fl.get d = some f') := by
    intro d f' hd'
    rw [it.get] at hd'
    split at hd'
    · rename_i hp
      exact Or.inl ⟨g.ts d, (hwl _).mpr (Or.inr ⟨d, hp.1, hp.2.2, rfl⟩)⟩
    · rw [fl1Of_get hf] at hd'
      split at hd'
      · rename_i hc
        cases hd'
        exact Or.inr (Or.inl ⟨hc.1, by rw [cflagsOf_eq, cflagsOf_eq], Or.inl rfl⟩)
      · rename_i hc
        by_cases hdc : d = c
        · rw [hdc, hf] at hd'
          cases hd'
          exact Or.inr (Or.inl ⟨hdc, rfl, Or.inr ⟨rfl, Bool.eq_false_iff.mpr fun hn => hc ⟨hdc, hn⟩⟩⟩)
        · exact Or.inr (Or.inr ⟨hdc, hd'⟩)
  constructor
  · obtain ⟨f1, hf1, ha⟩ := h.c1
    exact (hgrow c1 f1 hf1).imp fun _ h => ⟨h.1, ((covers_iff _ _).mp h.2).1 ha⟩
  · intro c2 hc2
    obtain ⟨f1, hf1, ha⟩ := h.c2 c2 hc2
    exact (hgrow c2 f1 hf1).imp fun _ h => ⟨h.1, ((covers_iff _ _).mp h.2).2.1 ha⟩
  · intro d f' hd'
    rcases hword d f' hd' with hq | ⟨rfl, hcf, _⟩ | ⟨hne, hold⟩
    · exact Or.inl hq
    · exact Or.inr fun p hp => hcf ▸ it.served hps hp
    · exact (h.settled d f' hold).imp (hstay d hne) fun hs p hp => (hs p hp).mono hgrow
  · intro d f' hd' hl
    have h1 : ∃ f0, (fl1Of s c f).get d = some f0 ∧ f0.lca = true := by
      rw [it.get] at hd'
      split at hd'
      · cases hd'
        simp only [Flags.union, cflagsOf_lca, Bool.or_false] at hl
        exact exists_of_getD Flags.lca rfl hl
      · exact ⟨f', hd', hl⟩
    obtain ⟨f0, hf0, hl0⟩ := h1
    rw [fl1Of_get hf] at hf0
    rw [it.cands]
    split at hf0
    · rename_i hc
      exact ⟨dt, by rw [if_pos hc.2, hc.1]; exact List.mem_append_right _ (List.mem_singleton_self _)⟩
    · obtain ⟨dt', hm⟩ := h.lcaCand d f0 hf0 hl0
      exact ⟨dt', by split; exact List.mem_append_left _ hm; exact hm⟩
  · intro d f' hd' ha1 ha2 hdn
    rcases hword d f' hd' with hq | ⟨rfl, _, hl | ⟨rfl, hn⟩⟩ | ⟨hne, hold⟩
    · exact Or.inl hq
    · exact Or.inr hl
    · right
      rw [newCand, isBoth_ancMask, ha1, ha2, hdn] at hn
      simpa using hn
    · exact (h.both d f' hold ha1 ha2 hdn).imp_left (hstay d hne)

theorem init_live (h1 : c1 < g.n)
    (h2 : ∀ c, c ∈ c2s → c < g.n) : Live g cut c1 c2s (init g c1 c2s) := by
  have hq : ∀ d f, (init g c1 c2s).fl.get d = some f → (∃ dt, (dt, d) ∈ (init g c1 c2s).wl) ∧ f.lca = false := by
    intro d f hd
    rw [init_get] at hd
    split at hd
    · rename_i hc
      cases hd
      exact ⟨⟨g.ts d, (mem_init_wl g c1 c2s _).mpr ⟨d, hc.2, rfl⟩⟩, rfl⟩
    · cases hd
  refine ⟨⟨_, (init_get g c1 c2s c1).trans (if_pos ⟨h1, Or.inl rfl⟩), decide_eq_true rfl⟩, fun c2 hc2 =>
    ⟨_, (init_get g c1 c2s c2).trans (if_pos ⟨h2 c2 hc2, Or.inr hc2⟩), decide_eq_true hc2⟩,
    fun d f hd => Or.inl (hq d f hd).1, fun d f hd hl => ?_, fun d f hd _ _ _ => Or.inl (hq d f hd).1⟩
  rw [(hq d f hd).2] at hl
  cases hl

end

/-! ## what the final state knows about a maximal common ancestor -/

section

variable {g : Graph} {cut : Nat → Bool} {c1 : Nat} {c2s : List Nat} {s : St} {dt : Int} {c : Nat} {f : Flags}

theorem not_queued_of_no_dnc (hnc : hasCandidates s = false)
    (hf : s.fl.get c = some f) (hd : f.dnc = false) : ¬ ∃ dt, (dt, c) ∈ s.wl := by
  rintro ⟨dt, hm⟩
  rw [hasCandidates, List.any_eq_false] at hnc
  simpa [hf, hd] using hnc (dt, c) hm

/-- A flag present at a commit `x` from which `x0` can be reached has travelled down to `x0`, provided no commit
on the way (strictly above `x0`) is still queued or cut off by `min_stamp`. -/
theorem flag_travels (hl : Live g cut c1 c2s s) (bit : Flags → Bool)
    (hbit : ∀ p f : Flags, p.covers (cflagsOf f) = true → bit f = true → bit p = true)
    (hzero : bit Flags.zero = false)
    {x0 x : Nat} (hanc : Anc g x0 x)
    (hnq : ∀ y f, SAnc g x0 y → s.fl.get y = some f → ¬ ∃ dt, (dt, y) ∈ s.wl)
    (hcut : ∀ y, Anc g x0 y → cut y = false)
    (hx : ∃ f, s.fl.get x = some f ∧ bit f = true) : ∃ f, s.fl.get x0 = some f ∧ bit f = true := by
  induction hanc with
  | refl => exact hx
  | step hp ha ih =>
    rename_i p c
    obtain ⟨f, hf, hb⟩ := hx
    rcases hl.settled c f hf with hq | hs
    · exact absurd hq (hnq c f ⟨p, hp, ha⟩ hf)
    · rcases hs p hp with hlt | hcv
      · rw [hcut p ha] at hlt; cases hlt
      · exact ih (exists_of_getD bit hzero (hbit _ f hcv hb))

theorem ca_has_both (hl : Live g cut c1 c2s s) {y : Nat} (hy : CA g c1 c2s y)
    (hnq : ∀ z f, SAnc g y z → s.fl.get z = some f → ¬ ∃ dt, (dt, z) ∈ s.wl)
    (hcut : ∀ z, Anc g y z → cut z = false) :
    ∃ f, s.fl.get y = some f ∧ f.anc1 = true ∧ f.anc2 = true := by
  obtain ⟨hy1, c2, hc2, hy2⟩ := hy
  obtain ⟨fa, hfa, ha⟩ := flag_travels hl Flags.anc1 (fun _ _ h => (covers_cflagsOf h).1) rfl hy1 hnq hcut hl.c1
  obtain ⟨fb, hfb, hb⟩ := flag_travels hl Flags.anc2 (fun _ _ h => (covers_cflagsOf h).2.1) rfl hy2 hnq hcut (hl.c2 c2 hc2)
  rw [hfa] at hfb
  cases hfb
  exact ⟨fa, hfa, ha, hb⟩

theorem final_has_max (hs : SoundSt g c1 c2s s) (hl : Live g cut c1 c2s s) (hnc : hasCandidates s = false)
    {x : Nat} (hx : MaxCA g c1 c2s x) (hcut : ∀ y, Anc g x y → cut y = false) :
    ∃ dt f, (dt, x) ∈ s.cands ∧ s.fl.get x = some f ∧ f.dnc = false := by
  obtain ⟨hca, hmax⟩ := hx
  have hclean : ∀ y f, Anc g x y → s.fl.get y = some f → f.dnc = false := by
    intro y f hy hf
    cases hdn : f.dnc with
    | false => rfl
    | true =>
      exfalso
      obtain ⟨z, hz, hsz⟩ := (hs.fl y f hf).dn hdn
      exact hmax ⟨z, hz, SAnc.of_anc_left hy hsz⟩
  have hnq : ∀ y f, SAnc g x y → s.fl.get y = some f → ¬ ∃ dt, (dt, y) ∈ s.wl :=
    fun y f hy hf => not_queued_of_no_dnc hnc hf (hclean y f hy.anc hf)
  obtain ⟨fa, hfa, ha, hb⟩ := ca_has_both hl hca hnq hcut
  have hdn := hclean x fa (Anc.refl x) hfa
  rcases hl.both x fa hfa ha hb hdn with hq | hlca
  · exact absurd hq (not_queued_of_no_dnc hnc hfa hdn)
  · obtain ⟨dt, hm⟩ := hl.lcaCand x fa hfa hlca
    exact ⟨dt, fa, hm, hfa, hdn⟩

/-! ## order (stamps strictly increasing from parent to child) -/

def Ordered (s : St) : Prop := ∀ e k, e ∈ s.wl → k ∈ s.cands → e.1 ≤ k.1

theorem Iter.ordered {s' : St} (it : Iter g cut s dt c f s') (hm : g.StrictMono) (hd : Dom g s) (h : Ordered s) :
    Ordered s' := by
  have hdt : dt = g.ts c := (hd.wl _ it.mem).1
  intro e k he hk
  have hk' : k ∈ s.cands ∨ k = (dt, c) := (it.mem_cands hk).imp_right And.left
  have hdk : dt ≤ k.1 := hk'.elim (h _ _ it.mem) (fun h1 => h1 ▸ Int.le_refl _)
  rcases (it.wl e).mp he with h1 | ⟨p, hp, _, rfl⟩
  · have hew := List.mem_of_mem_erase h1
    exact hk'.elim (h _ _ hew) (fun h2 => h2 ▸ it.top e hew)
  · exact Int.le_of_lt (Int.lt_of_lt_of_le (hdt ▸ hm c p hp) hdk)

theorem final_cand_max (hmono : g.StrictMono) (hcut : ∀ z, cut z = false)
    (hd : Dom g s) (hs : SoundSt g c1 c2s s) (hl : Live g cut c1 c2s s) (ho : Ordered s)
    {x : Nat} (hx : (dt, x) ∈ s.cands) (hf : s.fl.get x = some f)
    (hdn : f.dnc = false) : MaxCA g c1 c2s x := by
  obtain ⟨f0, hf0, ha1, ha2, _⟩ := hs.cands _ hx
  simp only at hf0
  rw [hf] at hf0; cases hf0
  have hg := hs.fl x f hf
  refine ⟨⟨hg.a1 ha1, hg.a2 ha2⟩, ?_⟩
  rintro ⟨y, hy, hxy⟩
  have hdtx : dt = g.ts x := hd.cands _ hx
  have hnq : ∀ z, SAnc g x z → ¬ ∃ dt', (dt', z) ∈ s.wl := by
    rintro z hz ⟨dt', hq⟩
    have h3 := ho _ _ hq hx
    have h4 := (hd.wl _ hq).1
    simp only at h3 h4
    have := hz.rank_lt hmono
    omega
  obtain ⟨fa, hfa, hya, hyb⟩ := ca_has_both hl hy
    (fun z _ hz _ => hnq z (SAnc.of_anc_right hxy hz.anc)) (fun z _ => hcut z)
  -- `y` is settled, so its parents carry `_DNC`
  obtain ⟨p, hp, hxp⟩ := hxy
  have hserved : Served g cut (cflagsOf fa) p s.fl := by
    rcases hl.settled y fa hfa with hq | hsv
    · exact absurd hq (hnq y ⟨p, hp, hxp⟩)
    · exact hsv p hp
  have hpd : ∃ pf, s.fl.get p = some pf ∧ pf.dnc = true := by
    rcases hserved with hlt | hcv
    · rw [hcut p] at hlt; cases hlt
    · have hcd : (cflagsOf fa).dnc = true := by rw [cflagsOf_eq]; simp [hya, hyb]
      exact exists_of_getD Flags.dnc rfl (((covers_iff _ _).mp hcv).2.2.1 hcd)
  obtain ⟨fx, hfx, hxd⟩ := flag_travels hl Flags.dnc (fun _ _ h => (covers_cflagsOf h).2.2) rfl
    hxp
    (fun z _ hz _ => hnq z hz) (fun z _ => hcut z) hpd
  rw [hf] at hfx; cases hfx
  rw [hdn] at hxd; cases hxd

/-! ## the loop keeps the invariants -/

theorem loop_sound {fuel : Nat} (h : loop g cut fuel (init g c1 c2s) = .ok s) : SoundSt g c1 c2s s :=
  (loop_inv (SoundSt g c1 c2s) (fun _ _ _ _ _ hI it => it.sound hI) (init_sound g c1 c2s) h).1

structure AllInv (g : Graph) (cut : Nat → Bool) (c1 : Nat) (c2s : List Nat) (s : St) : Prop where
  dom : Dom g s
  sound : SoundSt g c1 c2s s
  live : Live g cut c1 c2s s
  ordered : g.StrictMono → Ordered s

theorem loop_all (hwf : g.WF) (h1 : c1 < g.n)
    (h2 : ∀ c, c ∈ c2s → c < g.n) {fuel : Nat} (h : loop g cut fuel (init g c1 c2s) = .ok s) :
    AllInv g cut c1 c2s s ∧ hasCandidates s = false :=
  loop_inv (AllInv g cut c1 c2s)
    (fun _ _ _ _ _ hI it =>
      ⟨it.dom hwf hI.dom, it.sound hI.sound, it.live hwf hI.dom hI.live, fun hm => it.ordered hm hI.dom (hI.ordered hm)⟩)
    ⟨(init_dom h1 h2).1, init_sound g c1 c2s, init_live h1 h2, fun _ _ k _ hk => by rw [init_cands] at hk; cases hk⟩ h

end

end Dulwich.LCA
