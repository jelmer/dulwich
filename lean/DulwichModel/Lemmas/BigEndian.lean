/- Fixed-width big-endian integers.  The format models are independent files and each has its own copy of `beBytes`
   (the first two also of `beVal`, a left fold): Model/Pack.lean, Model/Ewah.lean, Model/RsPyPack.lean.  The lemmas are
   stated for any function `enc` with the two defining equations; a copy instantiates them with
   `(fun _ => rfl) (fun _ _ => rfl)`.  `u8_toNat_ofNat`, the byte fact the codec lemma files (Delta, Pack) call with
   `by omega`, stands here too.  Core Lean only. -/
import DulwichModel.Model.Basic

/-- Core's `UInt8.toNat_ofNat_of_lt'` with `UInt8.size` written `256`, so that `by omega` closes the bound at the call. -/
theorem Dulwich.u8_toNat_ofNat {n : Nat} (h : n < 256) : (UInt8.ofNat n).toNat = n := UInt8.toNat_ofNat_of_lt' h

namespace Dulwich.BigEndian

/-- what every copy of `beVal` unfolds to -/
abbrev val (bs : Bytes) : Nat := bs.foldl (fun acc b => acc * 256 + b.toNat) 0

theorem val_snoc (a : Bytes) (b : UInt8) : val (a ++ [b]) = val a * 256 + b.toNat := by
  rw [val, List.foldl_append]
  rfl

section
variable {enc : Nat → Nat → Bytes} (h0 : ∀ v, enc 0 v = [])
  (hstep : ∀ k v, enc (k + 1) v = enc k (v / 256) ++ [UInt8.ofNat (v % 256)])
include h0 hstep

theorem length_enc : ∀ (k v : Nat), (enc k v).length = k
  | 0, v => by rw [h0]; rfl
  | k + 1, v => by rw [hstep, List.length_append, length_enc k]; rfl

theorem val_enc : ∀ (k v : Nat), v < 256 ^ k → val (enc k v) = v
  | 0, v, h => by rw [h0]; exact (Nat.lt_one_iff.mp h).symm
  | k + 1, v, h => by
    have h1 : v / 256 < 256 ^ k := Nat.div_lt_of_lt_mul (by rwa [Nat.pow_succ, Nat.mul_comm] at h)
    rw [hstep, val_snoc, val_enc k _ h1, u8_toNat_ofNat (Nat.mod_lt _ (by decide)), Nat.div_add_mod']

end

end Dulwich.BigEndian
