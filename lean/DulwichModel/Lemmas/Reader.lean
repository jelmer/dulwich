/-
  Lemmas about the concurrent reader model (`Model/Reader.lean`), rely/guarantee style.
  * One run of `_lookup_in_packs` while the object is in a complete pack: `PInv` (with the pass budget `Budget`) is kept by
    `step` (`look_step`) and by the environment (`pinv_env`).
  * The whole lookup with the second look at the packs, for objects that may move from loose to packed: `RInv`, kept by
    `rinv_step` / `rinv_env`; against any trace satisfying `Rely`: `reader_never_misses`.
  * A repacker's program that passes `checkProgram` is such an environment (`ProgInv`, `prog_step`); one repacker and any
    number of readers under any schedule: `SInv`, `sys_readers_never_miss`.
  * Iteration: `IInv`, `iinv_step`, `iexec_inv`.  `repack()` as a procedure removes only its snapshot: `mstep_keeps`.
  All statements are partial correctness ("if the lookup ends, it ends with found"); nothing here says that runs end.
-/
import DulwichModel.Model.Reader
namespace Dulwich.Reader

/-! ## One run of `_lookup_in_packs` while the object is in a complete pack -/

/-- ghost phase of the environment: `A` = no pack file has been removed yet; `B` = the stable pack `pstar` is complete,
forever -/
inductive EPhase where
  | A | B
  deriving DecidableEq, Repr

/-- What one run of `_lookup_in_packs` relies on: a *holder* — a complete pack that lists `x` — exists (any in phase A,
`pstar` in phase B).  `HoldOK` and `PackStep` speak of packs only and serve `PInv`; the whole lookup, for which the object
may also be a loose file, has `EnvOK` and `EnvStep`. -/
def HoldOK (c : Cfg) (pstar : Name) : EPhase → FS → Prop
  | .A, f => ∃ p, f.complete p = true ∧ c.x ∈ c.ids p
  | .B, f => f.complete pstar = true ∧ c.x ∈ c.ids pstar

/-- allowed evolution of the environment between two observations by a reader (transitively closed by construction) -/
def PackStep : EPhase × FS → EPhase × FS → Prop
  | (.A, f), (.A, f') => ∀ p, f.complete p = true → f'.complete p = true
  | (.A, _), (.B, _) => True
  | (.B, _), (.B, _) => True
  | (.B, _), (.A, _) => False

/-- The passes still available suffice (`a` passes are finished, `td` is what is left of the current one).  In phase B a
further pass finds `pstar`: it starts from a rescan, which lists `pstar`.  Phase A keeps one pass more in hand, for the
environment moving to phase B under way: from then on the holder may go (`budget_env`), and the next pass finds `pstar`.
A fresh lookup has `a = 0` and no holder in sight: `0 + 2 < maxAttempts` is where three passes are needed (`pinv_fresh`). -/
def Budget (c : Cfg) (pstar : Name) (ph : EPhase) (f : FS) (a : Nat) (td : List Name) : Prop :=
  match ph with
  | .B => (pstar ∈ td ∧ a < c.maxAttempts) ∨ a + 1 < c.maxAttempts
  | .A => ((∃ p ∈ td, c.x ∈ c.ids p ∧ f.complete p = true) ∧ a + 1 < c.maxAttempts) ∨ a + 2 < c.maxAttempts

/-- no cached pack that lists `x` has been passed over in this pass: this is why a pass cannot be exhausted, and its first
rescan show nothing new, while a holder exists -/
def KInv (c : Cfg) (r : RState) : Prop := ∀ q ∈ r.cache, c.x ∈ c.ids q → q ∈ r.todo

/-- a pass that began with a rescan had a pack listing `x` in its snapshot: it is still ahead, or a pack has been seen to
disappear (and another pass follows); such a pass does not run out quietly -/
def LInv (c : Cfg) (r : RState) : Prop :=
  r.rescanned = true → (∃ q ∈ r.todo, c.x ∈ c.ids q) ∨ r.disappeared = true

/-- the invariant of one run of `_lookup_in_packs` while the object is in a complete pack: it cannot raise `KeyError`.
In `needData p` the pack `p` is still at the head of `todo` (the scan does not pop a pack before its data file is open):
the eviction's `todo.drop 1` takes that for granted. -/
def PInv (c : Cfg) (pstar : Name) (ph : EPhase) (f : FS) (r : RState) : Prop :=
  match r.phase with
  | .done b => b = true
  | .loose => False
  | .alts => False
  | .scan => KInv c r ∧ LInv c r ∧ Budget c pstar ph f r.attempt r.todo
  | .needData p =>
    (∃ rest, r.todo = p :: rest) ∧ c.x ∈ c.ids p ∧ KInv c r ∧
      ((ph = .A ∧ f.complete p = true ∧ r.attempt + 1 < c.maxAttempts) ∨ (ph = .B ∧ p = pstar) ∨
        Budget c pstar ph f r.attempt (r.todo.drop 1))

section
variable {c : Cfg} {pstar : Name} {ph ph' : EPhase} {f f' : FS} {r : RState}

theorem complete_iff {p : Name} : f.complete p = true ↔ f.idx.contains p = true ∧ f.data.contains p = true :=
  Bool.and_eq_true_iff

theorem complete_mem_visible {p : Name} (h : f.complete p = true) : p ∈ f.visible :=
  List.mem_filter.mpr ⟨List.contains_iff_mem.mp (complete_iff.mp h).2, (complete_iff.mp h).1⟩

theorem complete_mem_new {p : Name} (cache : List Name) (h : f.complete p = true) (hc : p ∉ cache) :
    p ∈ (rescan f cache).2 :=
  List.mem_filter.mpr ⟨complete_mem_visible h, by simpa using hc⟩

theorem complete_mem_rescan {p : Name} (cache : List Name) (h : f.complete p = true) :
    p ∈ (rescan f cache).1 := by
  by_cases hc : p ∈ cache
  · exact List.mem_append_left _
      (List.mem_filter.mpr ⟨hc, List.contains_iff_mem.mpr (complete_mem_visible h)⟩)
  · exact List.mem_append_right _ (complete_mem_new cache h hc)

theorem budget_cons {a : Nat} {p : Name} {rest : List Name} (h : Budget c pstar ph f a (p :: rest)) :
    (ph = .A ∧ c.x ∈ c.ids p ∧ f.complete p = true ∧ a + 1 < c.maxAttempts) ∨ (ph = .B ∧ p = pstar) ∨
      Budget c pstar ph f a rest := by
  cases ph
  · rcases h with ⟨⟨q, hq, hqx, hqc⟩, ha⟩ | ha
    · rcases List.mem_cons.mp hq with rfl | hq
      · exact .inl ⟨rfl, hqx, hqc, ha⟩
      · exact .inr (.inr (.inl ⟨⟨q, hq, hqx, hqc⟩, ha⟩))
    · exact .inr (.inr (.inr ha))
  · rcases h with ⟨hq, ha⟩ | ha
    · rcases List.mem_cons.mp hq with rfl | hq
      · exact .inr (.inl ⟨rfl, rfl⟩)
      · exact .inr (.inr (.inl ⟨hq, ha⟩))
    · exact .inr (.inr (.inr ha))

theorem budget_env {a : Nat} {td : List Name}
    (h : Budget c pstar ph f a td) (hs : PackStep (ph, f) (ph', f')) : Budget c pstar ph' f' a td := by
  cases ph <;> cases ph'
  · exact h.imp_left fun ⟨⟨p, hp, hx, hc⟩, ha⟩ => ⟨⟨p, hp, hx, hs p hc⟩, ha⟩
  · exact .inr (h.elim (·.2) Nat.lt_of_succ_lt)
  · exact hs.elim
  · exact h

theorem pinv_scan (h : r.phase = .scan) :
    PInv c pstar ph f r ↔ KInv c r ∧ LInv c r ∧ Budget c pstar ph f r.attempt r.todo := by
  rw [PInv, h]

theorem pinv_needData {p : Name} (h : r.phase = .needData p) :
    PInv c pstar ph f r ↔ (∃ rest, r.todo = p :: rest) ∧ c.x ∈ c.ids p ∧ KInv c r ∧
      ((ph = .A ∧ f.complete p = true ∧ r.attempt + 1 < c.maxAttempts) ∨ (ph = .B ∧ p = pstar) ∨
        Budget c pstar ph f r.attempt (r.todo.drop 1)) := by
  rw [PInv, h]

theorem pinv_found (h : r.phase = .done true) :
    PInv c pstar ph f r := by
  rw [PInv, h]

theorem pinv_done {c : Cfg} {pstar : Name} {ph : EPhase} {f : FS} {r : RState} {b : Bool}
    (h : PInv c pstar ph f r) (hd : r.phase = .done b) : b = true := by
  rw [PInv, hd] at h
  exact h

theorem pinv_phase (h : PInv c pstar ph f r) :
    (r.phase = .scan ∨ ∃ p, r.phase = .needData p) ∨ r.phase = .done true := by
  cases hp : r.phase with
  | done b => exact .inr (pinv_done h hp ▸ rfl)
  | loose | alts => rw [PInv, hp] at h; exact h.elim
  | scan => exact .inl (.inl rfl)
  | needData p => exact .inl (.inr ⟨p, rfl⟩)

theorem pinv_env (h : PInv c pstar ph f r) (hs : PackStep (ph, f) (ph', f')) : PInv c pstar ph' f' r := by
  rcases pinv_phase h with (hph | ⟨p, hph⟩) | hph
  · rw [pinv_scan hph] at h ⊢
    exact ⟨h.1, h.2.1, budget_env h.2.2 hs⟩
  · rw [pinv_needData hph] at h ⊢
    obtain ⟨h1, h2, h3, h4⟩ := h
    refine ⟨h1, h2, h3, ?_⟩
    rcases h4 with ⟨rfl, hc, ha⟩ | ⟨rfl, hp⟩ | hbud
    · cases ph'
      · exact .inl ⟨rfl, hs p hc, ha⟩
      · exact .inr (.inr (.inr ha))
    · cases ph'
      · exact hs.elim
      · exact .inr (.inl ⟨rfl, hp⟩)
    · exact .inr (.inr (budget_env hbud hs))
  · exact pinv_found hph

theorem pinv_fresh (pstar : Name) (hN : 3 ≤ c.maxAttempts) (ph : EPhase) (f : FS)
    (hph : r.phase = .scan) (htodo : r.todo = r.cache) (ha : r.attempt = 0) (hr : r.rescanned = false) :
    PInv c pstar ph f r := by
  rw [pinv_scan hph, ha]
  refine ⟨fun q hq _ => htodo ▸ hq, fun h => absurd (hr ▸ h) Bool.false_ne_true, ?_⟩
  cases ph
  · exact .inr hN
  · exact .inr (Nat.lt_of_succ_lt hN)

theorem holdOK_holder (h : HoldOK c pstar ph f) :
    ∃ p, f.complete p = true ∧ c.x ∈ c.ids p ∧ (ph = .B → p = pstar) := by
  cases ph
  · exact h.imp fun p hp => ⟨hp.1, hp.2, nofun⟩
  · exact ⟨pstar, h.1, h.2, fun _ => rfl⟩

theorem budget_tail {a : Nat} {p : Name} {rest : List Name}
    (hB : Budget c pstar ph f a (p :: rest)) (hok : HoldOK c pstar ph f)
    (hnot : ¬ (c.x ∈ c.ids p ∧ f.idx.contains p = true)) : Budget c pstar ph f a rest := by
  rcases budget_cons hB with h | ⟨rfl, rfl⟩ | h
  · exact absurd ⟨h.2.1, (complete_iff.mp h.2.2.1).1⟩ hnot
  · exact absurd ⟨hok.2, (complete_iff.mp hok.1).1⟩ hnot
  · exact h

theorem pinv_nextAttempt (hok : HoldOK c pstar ph f) (hscan : r.phase = .scan)
    (hbud : Budget c pstar ph f r.attempt []) :
    PInv c pstar ph f (nextAttempt c (withCache r (rescan f r.cache).1)) := by
  obtain ⟨p, hc, hx, hB⟩ := holdOK_holder hok
  have hp := complete_mem_rescan r.cache hc
  have ha : r.attempt + 1 < c.maxAttempts := by
    cases ph
    · exact hbud.elim (fun h => h.1.elim fun _ h => nomatch h.1) Nat.lt_of_succ_lt
    · exact hbud.elim (fun h => nomatch h.1) id
  unfold nextAttempt withCache
  rw [if_pos ha]
  -- `by exact`: the state `pinv_scan` speaks of is to be read off the goal, not off `hscan`
  refine (pinv_scan (by exact hscan)).mpr ⟨fun q hq _ => hq, fun _ => .inl ⟨p, hp, hx⟩, ?_⟩
  cases ph
  · exact .inl ⟨⟨p, hp, hx, hc⟩, hbud.elim (fun h => h.1.elim fun _ h => nomatch h.1) id⟩
  · exact .inl ⟨hB rfl ▸ hp, ha⟩

/-! ### `step` phase by phase -/

theorem step_done {b : Bool} (hph : r.phase = .done b) : step c f r = r := by
  rw [step, hph]

theorem step_loose (hph : r.phase = .loose) :
    step c f r = if f.loose.contains c.x then { r with phase := .done true } else { r with phase := .alts } := by
  cases r
  cases hph
  rfl

theorem step_alts (hph : r.phase = .alts) :
    step c f r =
      if c.alts.contains c.x then { r with phase := .done true }
      else if c.reprobe && !r.reprobed then
        { r with attempt := 0, rescanned := false, disappeared := false, todo := r.cache, phase := .scan, reprobed := true }
      else { r with phase := .done false } := by
  cases r
  cases hph
  rfl

/-- where one step inside `_lookup_in_packs` leads: it stays inside, finds the object, or leaves through `afterPacks`;
the half of `look_step` that holds whether or not `PInv` does -/
def LookNext (r r' : RState) : Prop :=
  r'.reprobed = r.reprobed ∧
    (((r'.phase = .scan ∨ ∃ p, r'.phase = .needData p) ∨ r'.phase = .done true) ∨ r'.phase = afterPacks r)

theorem KInv.tail {p : Name} {rest : List Name} (hK : KInv c r) (htodo : r.todo = p :: rest) :
    ∀ q ∈ r.cache, c.x ∈ c.ids q → q ≠ p → q ∈ rest :=
  fun q hq hqx hne => List.mem_of_ne_of_mem hne (htodo ▸ hK q hq hqx)

theorem look_step (hl : r.phase = .scan ∨ ∃ p, r.phase = .needData p) :
    LookNext r (step c f r) ∧
      ∀ ph, PInv c pstar ph f r → HoldOK c pstar ph f → PInv c pstar ph f (step c f r) := by
  have other : ∀ {q}, r.phase = q → q ≠ .scan → (∀ p, q ≠ .needData p) → False := fun e h1 h2 =>
    hl.elim (fun h => h1 (e.symm.trans h)) fun ⟨p, h⟩ => h2 p (e.symm.trans h)
  have next : r.phase = .scan → LookNext r (nextAttempt c (withCache r (rescan f r.cache).1)) := fun hph =>
    iteInduction (motive := LookNext r) (fun _ => ⟨rfl, .inl (.inl (.inl hph))⟩) fun _ => ⟨rfl, .inr rfl⟩
  fun_cases step c f r
  -- found: the index lists the object, and the data file (where needed) is open or opens
  case case2 | case10 => exact ⟨⟨rfl, .inl (.inr rfl)⟩, fun _ _ _ => pinv_found rfl⟩
  case case3 hph p rest htodo hidx r1 hx hd =>
    -- index there, object listed, data file not yet open
    refine ⟨⟨rfl, .inl (.inl (.inr ⟨p, rfl⟩))⟩, fun ph h hok => ?_⟩
    obtain ⟨hK, hL, hB⟩ := (pinv_scan hph).mp h
    refine (pinv_needData rfl).mpr ⟨⟨rest, htodo⟩, List.contains_iff_mem.mp hx, hK, ?_⟩
    rw [show r.todo.drop 1 = rest from htodo ▸ rfl]
    exact (budget_cons (htodo ▸ hB)).imp_left fun h => ⟨h.1, h.2.2⟩
  case case4 hph p rest htodo hidx r1 hx =>
    -- index there, object not listed
    refine ⟨⟨rfl, .inl (.inl (.inl hph))⟩, fun ph h hok => ?_⟩
    obtain ⟨hK, hL, hB⟩ := (pinv_scan hph).mp h
    have hx' : c.x ∉ c.ids p := fun hm => hx (List.contains_iff_mem.mpr hm)
    refine (pinv_scan (by exact hph)).mpr ⟨fun q hq hqx => hK.tail htodo q hq hqx fun e => hx' (e ▸ hqx), fun hr => ?_,
      budget_tail (htodo ▸ hB) hok fun hh => hx' hh.1⟩
    exact (hL hr).imp_left fun ⟨q, hq, hqx⟩ =>
      ⟨q, List.mem_of_ne_of_mem (fun e : q = p => hx' (e ▸ hqx)) (htodo ▸ hq), hqx⟩
  case case5 hph p rest htodo hidx ev =>
    -- index gone: evicted, remembered as disappeared
    refine ⟨⟨rfl, .inl (.inl (.inl hph))⟩, fun ph h hok => ?_⟩
    obtain ⟨hK, hL, hB⟩ := (pinv_scan hph).mp h
    refine (pinv_scan (by exact hph)).mpr ⟨fun q hq hqx => ?_, fun _ => .inr rfl,
      budget_tail (htodo ▸ hB) hok fun hh => hidx (Bool.or_eq_true_iff.mpr (.inr hh.2))⟩
    obtain ⟨hq, hne⟩ := List.mem_filter.mp hq
    exact hK.tail htodo q hq hqx (bne_iff_ne.mp hne)
  case case6 hph htodo _ | case8 hph htodo _ _ _ =>
    -- pass exhausted after a pack disappeared, or with new packs at the first rescan: rescan and go on to the next pass
    exact ⟨next hph, fun ph h hok => pinv_nextAttempt hok hph (htodo ▸ ((pinv_scan hph).mp h).2.2)⟩
  case case7 hph htodo _ _ hnew ev =>
    -- first rescan found nothing new: but the holder is in the cache (then still in `todo`, which is empty) or new
    refine ⟨⟨rfl, .inr rfl⟩, fun ph h hok => ?_⟩
    obtain ⟨p, hc, hx, _⟩ := holdOK_holder hok
    by_cases hpc : p ∈ r.cache
    · exact absurd (((pinv_scan hph).mp h).1 p hpc hx) (htodo ▸ List.not_mem_nil)
    · exact absurd (complete_mem_new r.cache hc hpc) (List.isEmpty_iff.mp hnew ▸ List.not_mem_nil)
  case case9 hph htodo hd hr =>
    -- pass exhausted after a rescan with nothing gone: `LInv` rules it out
    refine ⟨⟨rfl, .inr rfl⟩, fun ph h _ => ?_⟩
    exact ((((pinv_scan hph).mp h).2.1 (by simpa using hr)).elim (fun ⟨q, hq, _⟩ => by rw [htodo] at hq; cases hq) hd).elim
  case case11 p hph hdata ev =>
    -- data file gone: evicted, remembered as disappeared, back to the scan
    refine ⟨⟨rfl, .inl (.inl (.inl rfl))⟩, fun ph h hok => ?_⟩
    obtain ⟨⟨rest, htodo⟩, hx, hK, hD⟩ := (pinv_needData hph).mp h
    refine (pinv_scan rfl).mpr ⟨fun q hq hqx => ?_, fun _ => .inr rfl, ?_⟩
    · obtain ⟨hq, hne⟩ := List.mem_filter.mp hq
      exact htodo ▸ hK.tail htodo q hq hqx (bne_iff_ne.mp hne)
    · rcases hD with ⟨_, hc, _⟩ | ⟨rfl, rfl⟩ | hbud
      · exact absurd (complete_iff.mp hc).2 hdata
      · exact absurd (complete_iff.mp hok.1).2 hdata
      · exact hbud
  -- the phases outside `_lookup_in_packs`
  case case1 hph | case12 hph _ | case13 hph _ | case14 hph _ | case15 hph _ _ | case16 hph _ _ =>
    exact (other hph nofun nofun).elim

/-! ## The full lookup (`get_raw` / `__contains__` with the re-probe) -/

/-- the whole lookup's counterpart of `HoldOK`: in phase A the object may instead still be a loose file -/
def EnvOK (c : Cfg) (pstar : Name) : EPhase → FS → Prop
  | .A, f => (∃ p, f.complete p = true ∧ c.x ∈ c.ids p) ∨ c.x ∈ f.loose
  | .B, f => f.complete pstar = true ∧ c.x ∈ c.ids pstar

def EnvStep (c : Cfg) : EPhase × FS → EPhase × FS → Prop
  | (.A, f), (.A, f') => (∀ p, f.complete p = true → f'.complete p = true) ∧ (c.x ∈ f.loose → c.x ∈ f'.loose)
  | (.A, _), (.B, _) => True
  | (.B, _), (.B, _) => True
  | (.B, _), (.A, _) => False

/-- a trace of (ghost phase, file system) pairs as seen at the reader's successive steps -/
def Rely (c : Cfg) (pstar : Name) : List (EPhase × FS) → Prop
  | [] => True
  | [e] => EnvOK c pstar e.1 e.2
  | e :: e' :: rest => EnvOK c pstar e.1 e.2 ∧ EnvStep c e e' ∧ Rely c pstar (e' :: rest)

theorem EnvOK.hold_B (h : EnvOK c pstar .B f) : HoldOK c pstar .B f := h

theorem EnvOK.hold_A (h : EnvOK c pstar .A f) (hlo : c.x ∉ f.loose) : HoldOK c pstar .A f := h.resolve_right hlo

theorem envStep_pack (h : EnvStep c (ph, f) (ph', f')) :
    PackStep (ph, f) (ph', f') := by
  cases ph <;> cases ph'
  · exact h.1
  · trivial
  · exact h
  · trivial

theorem envStep_B (h : EnvStep c (.B, f) (ph', f')) : ph' = .B := by
  cases ph'
  · exact h.elim
  · rfl

theorem envStep_loose (h : EnvStep c (ph, f) (ph', f'))
    (hg : ph = .B ∨ c.x ∈ f.loose) : ph' = .B ∨ c.x ∈ f'.loose := by
  cases ph'
  · cases ph
    · exact .inr (h.2 (hg.resolve_left nofun))
    · exact h.elim
  · exact .inl rfl

/-- `RInv` while `_lookup_in_packs` runs.  First look: a miss is harmless if the loose file is there or phase B has begun
(the loose probe, or the second look, will find the object); otherwise phase A with `PInv`.  Second look: phase B with
`PInv`. -/
def LookInv (c : Cfg) (pstar : Name) (ph : EPhase) (f : FS) (r : RState) : Prop :=
  if r.reprobed = true then ph = .B ∧ PInv c pstar .B f r
  else ph = .B ∨ c.x ∈ f.loose ∨ (ph = .A ∧ PInv c pstar .A f r)

def RInv (c : Cfg) (pstar : Name) (ph : EPhase) (f : FS) (r : RState) : Prop :=
  match r.phase with
  | .done b => b = true
  | .loose => r.reprobed = false ∧ (ph = .B ∨ c.x ∈ f.loose)
  | .alts => r.reprobed = false ∧ ph = .B
  | .scan => LookInv c pstar ph f r
  | .needData _ => LookInv c pstar ph f r

theorem rinv_done {b : Bool} (h : RInv c pstar ph f r) (hd : r.phase = .done b) : b = true := by
  rw [RInv, hd] at h
  exact h

theorem rinv_found (h : r.phase = .done true) :
    RInv c pstar ph f r := by
  rw [RInv, h]

theorem rinv_lookup
    (h : r.phase = .scan ∨ ∃ p, r.phase = .needData p) : RInv c pstar ph f r ↔ LookInv c pstar ph f r := by
  rcases h with h | ⟨p, h⟩ <;> rw [RInv, h]

theorem lookInv_reprobed (h : r.reprobed = true) :
    LookInv c pstar ph f r ↔ ph = .B ∧ PInv c pstar .B f r := by
  rw [LookInv, if_pos h]

theorem lookInv_first (h : r.reprobed = false) :
    LookInv c pstar ph f r ↔ (ph = .B ∨ c.x ∈ f.loose) ∨ (ph = .A ∧ PInv c pstar .A f r) := by
  rw [LookInv, if_neg (h ▸ Bool.false_ne_true), or_assoc]

theorem rinv_of_lookInv (hl : LookInv c pstar ph f r)
    (hp : (r.phase = .scan ∨ ∃ p, r.phase = .needData p) ∨ r.phase = .done true) : RInv c pstar ph f r := by
  rcases hp with h | h
  · exact (rinv_lookup h).mpr hl
  · exact rinv_found h

theorem rinv_init (c : Cfg) (pstar : Name) (hN : 3 ≤ c.maxAttempts) (ph : EPhase) (f : FS)
    (cache idxL dataL : List Name) : RInv c pstar ph f (RState.init cache idxL dataL) := by
  refine (rinv_lookup (.inl rfl)).mpr ((lookInv_first rfl).mpr ?_)
  cases ph
  · exact .inr ⟨rfl, pinv_fresh pstar hN .A f rfl rfl rfl rfl⟩
  · exact .inl (.inl rfl)

theorem lookInv_env (h : LookInv c pstar ph f r) (hs : EnvStep c (ph, f) (ph', f')) : LookInv c pstar ph' f' r := by
  by_cases hr : r.reprobed = true
  · rw [lookInv_reprobed hr] at h ⊢
    obtain ⟨rfl, hp⟩ := h
    obtain rfl := envStep_B hs
    exact ⟨rfl, pinv_env hp (envStep_pack hs)⟩
  · rw [lookInv_first (Bool.eq_false_iff.mpr hr)] at h ⊢
    rcases h with hg | ⟨rfl, hp⟩
    · exact .inl (envStep_loose hs hg)
    · cases ph'
      · exact .inr ⟨rfl, pinv_env hp (envStep_pack hs)⟩
      · exact .inl (.inl rfl)

theorem rinv_env (h : RInv c pstar ph f r) (hs : EnvStep c (ph, f) (ph', f')) : RInv c pstar ph' f' r := by
  cases hph : r.phase with
  | done b => rw [RInv, hph] at h ⊢; exact h
  | loose => rw [RInv, hph] at h ⊢; exact ⟨h.1, envStep_loose hs h.2⟩
  | alts =>
    rw [RInv, hph] at h ⊢
    obtain ⟨hr, rfl⟩ := h
    exact ⟨hr, envStep_B hs⟩
  | scan | needData p => rw [RInv, hph] at h ⊢; exact lookInv_env h hs

theorem rinv_step_lookup
    (hl : r.phase = .scan ∨ ∃ p, r.phase = .needData p) (h : RInv c pstar ph f r) (hok : EnvOK c pstar ph f) :
    RInv c pstar ph f (step c f r) := by
  rw [rinv_lookup hl] at h
  obtain ⟨⟨hrep, hshape⟩, hpinv⟩ := look_step (c := c) (pstar := pstar) (f := f) hl
  by_cases hr : r.reprobed = true
  · obtain ⟨rfl, hp⟩ := (lookInv_reprobed hr).mp h
    have hp' := hpinv _ hp hok.hold_B
    exact rinv_of_lookInv ((lookInv_reprobed (hrep.trans hr)).mpr ⟨rfl, hp'⟩) (pinv_phase hp')
  · have hr' : r.reprobed = false := Bool.eq_false_iff.mpr hr
    -- whatever the first look does, the loose probe / the second look is still ahead
    have ahead : (ph = .B ∨ c.x ∈ f.loose) → RInv c pstar ph f (step c f r) := fun hg => by
      have hL : LookInv c pstar ph f (step c f r) := (lookInv_first (hrep.trans hr')).mpr (.inl hg)
      rcases hshape with h | h
      · exact rinv_of_lookInv hL h
      · rw [RInv, h, afterPacks, if_neg hr]
        exact ⟨hrep.trans hr', hg⟩
    rcases (lookInv_first hr').mp h with hg | ⟨rfl, hp⟩
    · exact ahead hg
    · by_cases hlo : c.x ∈ f.loose
      · exact ahead (.inr hlo)
      · have hp' := hpinv _ hp (hok.hold_A hlo)
        exact rinv_of_lookInv ((lookInv_first (hrep.trans hr')).mpr (.inr ⟨rfl, hp'⟩)) (pinv_phase hp')

theorem rinv_step (hN : 3 ≤ c.maxAttempts)
    (hre : c.reprobe = true) (h : RInv c pstar ph f r) (hok : EnvOK c pstar ph f) :
    RInv c pstar ph f (step c f r) := by
  cases hph : r.phase with
  | done b => rw [step_done hph]; exact h
  | scan => exact rinv_step_lookup (.inl hph) h hok
  | needData p => exact rinv_step_lookup (.inr ⟨p, hph⟩) h hok
  | loose =>
    rw [RInv, hph] at h
    rw [step_loose hph]
    refine iteInduction (fun _ => rinv_found rfl) fun hlo => ?_
    rw [RInv]
    exact ⟨h.1, h.2.resolve_right fun hm => hlo (List.contains_iff_mem.mpr hm)⟩
  | alts =>
    rw [RInv, hph] at h
    obtain ⟨hr, rfl⟩ := h
    rw [step_alts hph, hre, hr]
    refine iteInduction (fun _ => rinv_found rfl) fun _ => ?_
    exact (rinv_lookup (.inl rfl)).mpr ((lookInv_reprobed rfl).mpr ⟨rfl, pinv_fresh pstar hN .B f rfl rfl rfl rfl⟩)

/-! ### against traces -/

theorem run_inv (hN : 3 ≤ c.maxAttempts) (hre : c.reprobe = true) :
    ∀ (tr : List (EPhase × FS)) (e : EPhase × FS) (r : RState), Rely c pstar (e :: tr) → RInv c pstar e.1 e.2 r →
      ∀ b, (run c ((e :: tr).map (·.2)) r).phase = .done b → b = true := by
  intro tr
  induction tr with
  | nil => exact fun e r hrely hinv b => rinv_done (rinv_step hN hre hinv hrely)
  | cons e' rest ih =>
    intro e r ⟨hok, hstep, hrest⟩ hinv
    exact ih e' (step c e.2 r) hrest (rinv_env (ph := e.1) (f := e.2) (rinv_step hN hre hinv hok) hstep)

theorem reader_never_misses (c : Cfg) (pstar : Name) (hN : 3 ≤ c.maxAttempts) (hre : c.reprobe = true)
    (tr : List (EPhase × FS)) (hrely : Rely c pstar tr) (cache idxL dataL : List Name) (b : Bool)
    (hdone : (run c (tr.map (·.2)) (RState.init cache idxL dataL)).phase = .done b) : b = true := by
  cases tr with
  | nil => cases hdone
  | cons e tr => exact run_inv hN hre tr e _ hrely (rinv_init c pstar hN e.1 e.2 cache idxL dataL) b hdone

/-! ## A repacker's program that passes `checkProgram` is such an environment -/

/-- the ghost phase read off `checkProgram`'s two flags: B once both files of `pstar` are in place -/
def ghostPhase (hd hi : Bool) : EPhase := if (hd && hi) = true then .B else .A

theorem ghostPhase_B {hd hi : Bool} (h : (hd && hi) = true) : ghostPhase hd hi = .B := if_pos h

theorem ghostPhase_A {hd hi : Bool} (h : (hd && hi) = false) : ghostPhase hd hi = .A :=
  if_neg (h ▸ Bool.false_ne_true)

theorem contains_add {α : Type} [BEq α] [LawfulBEq α] {l : List α} {p q : α} (h : l.contains q = true) :
    (if l.contains p then l else l ++ [p]).contains q = true :=
  iteInduction (motive := fun l' : List α => l'.contains q = true) (fun _ => h)
    fun _ => List.contains_iff_mem.mpr (List.mem_append_left _ (List.contains_iff_mem.mp h))

theorem contains_add_self {α : Type} [BEq α] [LawfulBEq α] (l : List α) (p : α) :
    (if l.contains p then l else l ++ [p]).contains p = true :=
  iteInduction (motive := fun l' : List α => l'.contains p = true) id
    fun _ => List.contains_iff_mem.mpr (List.mem_append_right _ (List.mem_singleton_self p))

theorem contains_remove {α : Type} [BEq α] [LawfulBEq α] {l : List α} {p q : α} (h : l.contains q = true)
    (hne : q ≠ p) :
    (l.filter (fun y => y != p)).contains q = true :=
  List.contains_iff_mem.mpr (List.mem_filter.mpr ⟨List.contains_iff_mem.mp h, bne_iff_ne.mpr hne⟩)

theorem data_act_keep {a : Act} {q : Name} (ha : a ≠ .removeData q) (h : f.data.contains q = true) :
    (f.act a).data.contains q = true := by
  cases a with
  | installData p => exact contains_add h
  | removeData p => exact contains_remove h fun e => ha (e ▸ rfl)
  | _ => exact h

theorem idx_act_keep {a : Act} {q : Name} (ha : a ≠ .removeIdx q) (h : f.idx.contains q = true) :
    (f.act a).idx.contains q = true := by
  cases a with
  | installIdx p => exact contains_add h
  | removeIdx p => exact contains_remove h fun e => ha (e ▸ rfl)
  | _ => exact h

theorem loose_act_keep {a : Act} {x : Id} (ha : a ≠ .delLoose x) (h : x ∈ f.loose) : x ∈ (f.act a).loose := by
  rw [← List.contains_iff_mem] at h ⊢
  cases a with
  | addLoose y => exact contains_add h
  | delLoose y => exact contains_remove h fun e => ha (e ▸ rfl)
  | _ => exact h

theorem complete_act_keep {a : Act} {q : Name} (ha : a ≠ .removeData q ∧ a ≠ .removeIdx q)
    (h : f.complete q = true) : (f.act a).complete q = true :=
  complete_iff.mpr ⟨idx_act_keep ha.2 (complete_iff.mp h).1, data_act_keep ha.1 (complete_iff.mp h).2⟩

theorem envStep_of_keep {hd hi hd' hi' : Bool} {a : Act}
    (hmd : hd = true → hd' = true) (hmi : hi = true → hi' = true) (hnd : ∀ q, a ≠ .removeData q)
    (hni : ∀ q, a ≠ .removeIdx q)
    (hdl : a = .delLoose c.x → (hd && hi) = true) :
    EnvStep c (ghostPhase hd hi, f) (ghostPhase hd' hi', f.act a) := by
  cases h2 : (hd' && hi')
  · cases h1 : (hd && hi)
    · rw [ghostPhase_A h1, ghostPhase_A h2]
      exact ⟨fun p hp => complete_act_keep ⟨hnd p, hni p⟩ hp,
        loose_act_keep fun ha => Bool.false_ne_true (h1.symm.trans (hdl ha))⟩
    · rw [hmd (Bool.and_eq_true_iff.mp h1).1, hmi (Bool.and_eq_true_iff.mp h1).2] at h2
      cases h2
  · rw [ghostPhase_B h2]
    cases ghostPhase hd hi <;> trivial

structure ProgInv (pstar : Name) (prot : List Id) (hd hi : Bool) (f : FS) (prog : List Act) : Prop where
  prog : checkProgram pstar prot hd hi prog = true
  hdata : hd = true → f.data.contains pstar = true
  hidx : hi = true → f.idx.contains pstar = true

theorem prog_step {prot : List Id} {hd hi : Bool} {a : Act} {rest : List Act}
    (h : ProgInv pstar prot hd hi f (a :: rest)) :
    ∃ hd' hi', ProgInv pstar prot hd' hi' (f.act a) rest ∧
      ∀ c : Cfg, c.x ∈ prot → EnvStep c (ghostPhase hd hi, f) (ghostPhase hd' hi', f.act a) := by
  have hp := h.prog
  cases a with
  | installData p =>
    refine ⟨hd || p == pstar, hi, ⟨hp, fun hh => ?_, h.hidx⟩,
      fun c _ => envStep_of_keep (fun hb => Bool.or_eq_true_iff.mpr (.inl hb)) id nofun nofun nofun⟩
    rcases Bool.or_eq_true_iff.mp hh with hh | hh
    · exact data_act_keep nofun (h.hdata hh)
    · exact beq_iff_eq.mp hh ▸ contains_add_self f.data p
  | installIdx p =>
    refine ⟨hd, hi || p == pstar, ⟨hp, h.hdata, fun hh => ?_⟩,
      fun c _ => envStep_of_keep id (fun hb => Bool.or_eq_true_iff.mpr (.inl hb)) nofun nofun nofun⟩
    rcases Bool.or_eq_true_iff.mp hh with hh | hh
    · exact idx_act_keep nofun (h.hidx hh)
    · exact beq_iff_eq.mp hh ▸ contains_add_self f.idx p
  | addLoose _ | listPacks => exact ⟨hd, hi, ⟨hp, h.hdata, h.hidx⟩, fun c _ => envStep_of_keep id id nofun nofun nofun⟩
  | delLoose x =>
    rw [checkProgram, Bool.and_eq_true, Bool.or_eq_true] at hp
    refine ⟨hd, hi, ⟨hp.2, h.hdata, h.hidx⟩, fun c hc => envStep_of_keep id id nofun nofun fun e => ?_⟩
    cases e
    exact hp.1.resolve_right fun hn => by simp [hc] at hn
  | removeData p =>
    rw [checkProgram, Bool.and_eq_true, Bool.and_eq_true] at hp
    refine ⟨hd, hi, ⟨hp.2, fun hh => ?_, h.hidx⟩, fun c _ => ?_⟩
    · exact data_act_keep (fun e => bne_iff_ne.mp hp.1.2 (Act.removeData.inj e)) (h.hdata hh)
    · rw [ghostPhase_B hp.1.1]
      trivial
  | removeIdx p =>
    rw [checkProgram, Bool.and_eq_true, Bool.and_eq_true] at hp
    refine ⟨hd, hi, ⟨hp.2, h.hdata, fun hh => ?_⟩, fun c _ => ?_⟩
    · exact idx_act_keep (fun e => bne_iff_ne.mp hp.1.2 (Act.removeIdx.inj e)) (h.hidx hh)
    · rw [ghostPhase_B hp.1.1]
      trivial

theorem envOK_step {prot : List Id} {hd hi hd' hi' : Bool} {prog : List Act}
    (hx : c.x ∈ c.ids pstar) (hok : EnvOK c pstar (ghostPhase hd hi) f)
    (hs : EnvStep c (ghostPhase hd hi, f) (ghostPhase hd' hi', f')) (hP : ProgInv pstar prot hd' hi' f' prog) :
    EnvOK c pstar (ghostPhase hd' hi') f' := by
  cases h2 : (hd' && hi')
  · rw [ghostPhase_A h2] at hs ⊢
    cases h1 : ghostPhase hd hi
    · rw [h1] at hs hok
      exact hok.imp (fun ⟨p, hc, hpx⟩ => ⟨p, hs.1 p hc, hpx⟩) hs.2
    · rw [h1] at hs
      exact hs.elim
  · rw [ghostPhase_B h2]
    obtain ⟨h2d, h2i⟩ := Bool.and_eq_true_iff.mp h2
    exact ⟨complete_iff.mpr ⟨hP.hidx h2i, hP.hdata h2d⟩, hx⟩

theorem envOK_start {started : Bool} {f0 : FS}
    (hstart : started = true → f0.complete pstar = true) (hx : c.x ∈ c.ids pstar)
    (hex : (∃ p, f0.complete p = true ∧ c.x ∈ c.ids p) ∨ c.x ∈ f0.loose) :
    EnvOK c pstar (ghostPhase started started) f0 := by
  cases started
  · exact hex
  · exact ⟨hstart rfl, hx⟩

theorem progInv_start {prot : List Id} {started : Bool} {prog : List Act} {f0 : FS}
    (hprog : checkProgram pstar prot started started prog = true)
    (hstart : started = true → f0.complete pstar = true) : ProgInv pstar prot started started f0 prog :=
  ⟨hprog, fun h => (complete_iff.mp (hstart h)).2, fun h => (complete_iff.mp (hstart h)).1⟩

/-! ## The interleaved system: one repacker, any number of readers -/

structure SInv (pstar : Name) (prot : List Id) (hd hi : Bool) (s : Sys) : Prop where
  prog : ProgInv pstar prot hd hi s.fs s.prog
  readers : ∀ cr ∈ s.readers, 3 ≤ cr.1.maxAttempts ∧ cr.1.reprobe = true ∧ cr.1.x ∈ cr.1.ids pstar ∧ cr.1.x ∈ prot ∧
    EnvOK cr.1 pstar (ghostPhase hd hi) s.fs ∧ RInv cr.1 pstar (ghostPhase hd hi) s.fs cr.2

theorem setAt_eq_set {α : Type} (l : List α) (i : Nat) (a : α) : setAt l i a = l.set i a := by
  fun_induction setAt l i a with
  | case1 | case2 => rfl
  | case3 y ys n a ih => exact congrArg (y :: ·) ih

theorem sched_inv {prot : List Id} {hd hi : Bool} {s : Sys} (h : SInv pstar prot hd hi s)
    (d : Option Nat) : ∃ hd' hi', SInv pstar prot hd' hi' (s.sched d) := by
  cases d with
  | some i =>
    refine ⟨hd, hi, ?_⟩
    rw [Sys.sched]
    cases hget : s.readers[i]? with
    | none => exact h
    | some cr =>
      refine ⟨h.prog, fun cr' hcr' => ?_⟩
      have hmem : cr' ∈ s.readers.set i (cr.1, step cr.1 s.fs cr.2) := setAt_eq_set s.readers i _ ▸ hcr'
      rcases List.mem_or_eq_of_mem_set hmem with hmem | rfl
      · exact h.readers cr' hmem
      · obtain ⟨hN, hre, hx, hpr, hok, hinv⟩ := h.readers cr (List.mem_of_getElem? hget)
        exact ⟨hN, hre, hx, hpr, hok, rinv_step hN hre hinv hok⟩
  | none =>
    rw [Sys.sched]
    cases hprog : s.prog with
    | nil => exact ⟨hd, hi, h⟩
    | cons a rest =>
      obtain ⟨hd', hi', hP', hstep⟩ := prog_step (hprog ▸ h.prog)
      refine ⟨hd', hi', hP', fun cr hcr => ?_⟩
      obtain ⟨hN, hre, hx, hpr, hok, hinv⟩ := h.readers cr hcr
      exact ⟨hN, hre, hx, hpr, envOK_step hx hok (hstep cr.1 hpr) hP', rinv_env hinv (hstep cr.1 hpr)⟩

theorem exec_inv {prot : List Id} (sched : List (Option Nat)) {hd hi : Bool} {s : Sys} (h : SInv pstar prot hd hi s) :
    ∀ cr ∈ (s.exec sched).readers, ∀ b, cr.2.phase = .done b → b = true := by
  fun_induction Sys.exec s sched generalizing hd hi with
  | case1 s => exact fun cr hcr b => rinv_done (h.readers cr hcr).2.2.2.2.2
  | case2 s d ds ih =>
    obtain ⟨hd1, hi1, h1⟩ := sched_inv h d
    exact ih h1

theorem sys_readers_never_miss (pstar : Name) (prot : List Id) (started : Bool) (prog : List Act)
    (hprog : checkProgram pstar prot started started prog = true) (f0 : FS)
    (hstart : started = true → f0.complete pstar = true)
    (readers : List (Cfg × RState))
    (hreaders : ∀ cr ∈ readers, 3 ≤ cr.1.maxAttempts ∧ cr.1.reprobe = true ∧ cr.1.x ∈ cr.1.ids pstar ∧ cr.1.x ∈ prot ∧
        ((∃ p, f0.complete p = true ∧ cr.1.x ∈ cr.1.ids p) ∨ cr.1.x ∈ f0.loose) ∧
        (∃ cache idxL dataL, cr.2 = RState.init cache idxL dataL))
    (sched : List (Option Nat)) :
    ∀ cr ∈ (Sys.exec { fs := f0, prog := prog, readers := readers } sched).readers,
      ∀ b, cr.2.phase = .done b → b = true := by
  have h0 : SInv pstar prot started started { fs := f0, prog := prog, readers := readers } := by
    refine ⟨progInv_start hprog hstart, fun cr hcr => ?_⟩
    obtain ⟨hN, hre, hx, hpr, hh, cache, il, dl, hinit⟩ := hreaders cr hcr
    exact ⟨hN, hre, hx, hpr, envOK_start hstart hx hh, hinit ▸ rinv_init cr.1 pstar hN _ _ cache il dl⟩
  exact exec_inv sched h0

end

/-! ## Iteration (`__iter__` with the rescan after the loose listing) is complete -/

section

/-- `x` is listed already, or will be: in phase A by a holder still in `todo` or by the loose listing; in phase B by `pstar`,
which is still in `todo` or else not in the cache — the second rescan lists only the packs new to the cache -/
def IInv (ids : Name → List Id) (x : Id) (pstar : Name) (ph : EPhase) (f : FS) (r : IState) : Prop :=
  x ∈ r.acc ∨
  match r.phase with
  | .rescan => True
  | .packs => (pstar ∈ r.cache → pstar ∈ r.todo) ∧
      (ph = .A → x ∈ f.loose ∨ ∃ H ∈ r.todo, x ∈ ids H ∧ f.complete H = true)
  | .loose => pstar ∉ r.cache ∧ (ph = .A → x ∈ f.loose)
  | .rescan2 => pstar ∉ r.cache ∧ ph = .B
  | .packs2 => ph = .B ∧ pstar ∈ r.todo
  | .alts => False
  | .done => False

/-- the iteration's view of the environment is that of a `__contains__` lookup of `x`: `EnvOK` and `EnvStep` read only
`ids` and `x`, the other fields are arbitrary -/
def icfg (ids : Name → List Id) (x : Id) : Cfg :=
  { ids := ids, x := x, needData := false, alts := [], maxAttempts := 3, reprobe := true }

variable {ids : Name → List Id} {alts : List Id} {x : Id} {pstar : Name} {ph ph' : EPhase} {f f' : FS} {r : IState}

theorem iinv_env (h : IInv ids x pstar ph f r) (hs : EnvStep (icfg ids x) (ph, f) (ph', f')) :
    IInv ids x pstar ph' f' r := by
  refine h.imp_right fun h => ?_
  obtain ⟨cache, il, todo, acc, phase⟩ := r
  cases phase with
  | packs =>
    refine ⟨h.1, fun hA => ?_⟩
    subst hA
    cases ph
    · exact (h.2 rfl).imp hs.2 fun ⟨H, hH, hx, hc⟩ => ⟨H, hH, hx, hs.1 H hc⟩
    · exact hs.elim
  | loose =>
    refine ⟨h.1, fun hA => ?_⟩
    subst hA
    cases ph
    · exact hs.2 (h.2 rfl)
    · exact hs.elim
  | rescan2 =>
    obtain ⟨hc, rfl⟩ := h
    exact ⟨hc, envStep_B hs⟩
  | packs2 =>
    obtain ⟨rfl, hm⟩ := h
    exact ⟨envStep_B hs, hm⟩
  | _ => exact h

theorem iprobe_cases (ids : Name → List Id) (f : FS) (r : IState) (p : Name) (rest : List Name) :
    ((r.idxLoaded.contains p || f.idx.contains p) = true ∧
      ∃ il, iprobe ids f r p rest = { r with idxLoaded := il, acc := r.acc ++ ids p, todo := rest }) ∨
    (f.idx.contains p = false ∧
      ∃ il, iprobe ids f r p rest =
        { r with cache := r.cache.filter (fun q => q != p), idxLoaded := il, todo := rest }) := by
  by_cases h : (r.idxLoaded.contains p || f.idx.contains p) = true
  · exact .inl ⟨h, _, if_pos h⟩
  · exact .inr ⟨(Bool.or_eq_false_iff.mp (Bool.eq_false_iff.mpr h)).2, _, if_neg h⟩

theorem iprobe_acc {p : Name} {rest : List Name} (h : x ∈ r.acc) : x ∈ (iprobe ids f r p rest).acc := by
  rcases iprobe_cases ids f r p rest with ⟨_, _, hs⟩ | ⟨_, _, hs⟩ <;> rw [hs]
  · exact List.mem_append_left _ h
  · exact h

theorem istep_acc {b : Bool} (h : x ∈ r.acc) :
    x ∈ (istep b ids alts f r).acc := by
  obtain ⟨cache, il, todo, acc, phase⟩ := r
  cases phase with
  | packs | packs2 => cases todo with
    | nil => exact h
    | cons p rest => exact iprobe_acc h
  | loose | alts => exact List.mem_append_left _ h
  | _ => exact h

theorem iinv_step (hx : x ∈ ids pstar) (h : IInv ids x pstar ph f r) (hok : EnvOK (icfg ids x) pstar ph f) :
    IInv ids x pstar ph f (istep true ids alts f r) := by
  rcases h with h | h
  · exact .inl (istep_acc h)
  obtain ⟨cache, il, todo, acc, phase⟩ := r
  cases phase with
  | rescan =>
    refine .inr ⟨id, fun hA => ?_⟩
    subst hA
    exact hok.symm.imp_right fun ⟨p, hc, hpx⟩ => ⟨p, complete_mem_rescan _ hc, hpx, hc⟩
  | packs =>
    obtain ⟨hK, hA⟩ := h
    cases todo with
    | nil => exact .inr ⟨fun hc => (nomatch hK hc), fun hA' => (hA hA').resolve_right fun ⟨_, hH, _⟩ => nomatch hH⟩
    | cons p rest =>
      show IInv ids x pstar ph f (iprobe ids f _ p rest)
      rcases iprobe_cases ids f ⟨cache, il, p :: rest, acc, .packs⟩ p rest with ⟨_, _, hs⟩ | ⟨hgone, _, hs⟩ <;> rw [hs]
      · by_cases hpx : x ∈ ids p
        · exact .inl (List.mem_append_right _ hpx)
        · refine .inr ⟨fun hc => List.mem_of_ne_of_mem (fun e : pstar = p => hpx (e ▸ hx)) (hK hc), fun hA' => ?_⟩
          exact (hA hA').imp_right fun ⟨H, hH, hHx, hc⟩ =>
            ⟨H, List.mem_of_ne_of_mem (fun e : H = p => hpx (e ▸ hHx)) hH, hHx, hc⟩
      · refine .inr ⟨fun hc => ?_, fun hA' => ?_⟩
        · obtain ⟨hc, hne⟩ := List.mem_filter.mp hc
          exact List.mem_of_ne_of_mem (bne_iff_ne.mp hne) (hK hc)
        · refine (hA hA').imp_right fun ⟨H, hH, hHx, hc⟩ =>
            ⟨H, List.mem_of_ne_of_mem (fun e : H = p => ?_) hH, hHx, hc⟩
          exact Bool.false_ne_true (hgone.symm.trans (e ▸ (complete_iff.mp hc).1))
  | loose =>
    cases ph
    · exact .inl (List.mem_append_right _ (h.2 rfl))
    · exact .inr ⟨h.1, rfl⟩
  | rescan2 =>
    obtain ⟨hnc, rfl⟩ := h
    exact .inr ⟨rfl, complete_mem_new cache hok.1 hnc⟩
  | packs2 =>
    obtain ⟨rfl, hm⟩ := h
    cases todo with
    | nil => cases hm
    | cons p rest =>
      show IInv ids x pstar .B f (iprobe ids f _ p rest)
      have hne : x ∉ ids p ∨ f.idx.contains p = false → pstar ∈ rest := fun hn =>
        List.mem_of_ne_of_mem (fun e : pstar = p => hn.elim (fun h => h (e ▸ hx))
          fun h => Bool.false_ne_true (h.symm.trans (e ▸ (complete_iff.mp hok.1).1))) hm
      rcases iprobe_cases ids f ⟨cache, il, p :: rest, acc, .packs2⟩ p rest with ⟨_, _, hs⟩ | ⟨hgone, _, hs⟩ <;> rw [hs]
      · by_cases hpx : x ∈ ids p
        · exact .inl (List.mem_append_right _ hpx)
        · exact .inr ⟨rfl, hne (.inl hpx)⟩
      · exact .inr ⟨rfl, hne (.inr hgone)⟩
  | alts | done => exact h.elim

theorem iinv_done (h : IInv ids x pstar ph f r) (hd : r.phase = .done) : x ∈ r.acc :=
  h.resolve_right fun h => by rw [hd] at h; exact h

theorem iexec_inv {prot : List Id} (hx : x ∈ ids pstar) (hprot : x ∈ prot) (sched : List Bool) (hd hi : Bool) (f : FS)
    (prog : List Act) (r : IState) (hP : ProgInv pstar prot hd hi f prog)
    (hok : EnvOK (icfg ids x) pstar (ghostPhase hd hi) f) (h : IInv ids x pstar (ghostPhase hd hi) f r) :
    (iexec true ids alts f prog r sched).2.2.phase = .done → x ∈ (iexec true ids alts f prog r sched).2.2.acc := by
  fun_induction iexec true ids alts f prog r sched generalizing hd hi with
  | case1 => exact iinv_done h
  | case2 f r ds ih => exact ih hd hi hP hok h
  | case3 f r ds a rest ih =>
    obtain ⟨hd', hi', hP', hstep⟩ := prog_step hP
    have hs := hstep (icfg ids x) hprot
    exact ih hd' hi' hP' (envOK_step (c := icfg ids x) hx hok hs hP') (iinv_env h hs)
  | case4 f prog r ds ih => exact ih hd hi hP hok (iinv_step hx h hok)

end

/-! ## `repack()` deletes only the packs of its snapshot -/

/-- the packs the repacker may still remove (the consolidated pack is among them if a pack of its name was in the
snapshot: `mstep` takes it out only when it fixes the targets) -/
def mayRemove : MPhase → List Name
  | .start => []
  | .copied snap => snap
  | .installed snap => snap
  | .removing t => t
  | .done => []

theorem complete_loose_irrel (f : FS) (l : List Id) (q : Name) : ({ f with loose := l } : FS).complete q = f.complete q := rfl

theorem mstep_keeps {newp : Name} {f : FS} {m : MPhase} {q : Name} (hm : m ≠ .start)
    (hq : q ∉ mayRemove m) (hc : f.complete q = true) :
    (mstep false newp f m).1.complete q = true ∧ q ∉ mayRemove (mstep false newp f m).2 ∧
      (mstep false newp f m).2 ≠ .start := by
  cases m with
  | start => exact absurd rfl hm
  | copied snap => exact ⟨complete_act_keep ⟨nofun, nofun⟩ (complete_act_keep ⟨nofun, nofun⟩ hc), hq, nofun⟩
  | installed snap => exact ⟨hc, fun hmem => hq (List.mem_filter.mp hmem).1, nofun⟩
  | removing t =>
    cases t with
    | nil => exact ⟨hc, List.not_mem_nil, nofun⟩
    | cons p ps =>
      have hne : q ≠ p := fun e => hq (e ▸ List.mem_cons_self)
      exact ⟨complete_act_keep ⟨nofun, fun e => hne (Act.removeIdx.inj e).symm⟩
        (complete_act_keep ⟨fun e => hne (Act.removeData.inj e).symm, nofun⟩ hc),
        fun h => hq (List.mem_cons_of_mem _ h), nofun⟩
  | done => exact ⟨hc, List.not_mem_nil, nofun⟩

theorem late_pack_survives (newp : Name) (sched : List (Option Act)) (f : FS) (m : MPhase) (q : Name)
    (henv : ∀ a, some a ∈ sched → a ≠ .removeData q ∧ a ≠ .removeIdx q) (hm : m ≠ MPhase.start) (hq : q ∉ mayRemove m)
    (hc : f.complete q = true) : (mexec false newp f m sched).1.complete q = true := by
  induction sched generalizing f m with
  | nil => exact hc
  | cons d ds ih =>
    have henv' := fun a ha => henv a (List.mem_cons_of_mem _ ha)
    cases d with
    | none =>
      obtain ⟨h1, h2, h3⟩ := mstep_keeps (newp := newp) hm hq hc
      exact ih _ _ henv' h3 h2 h1
    | some a => exact ih _ _ henv' hm hq (complete_act_keep (henv a List.mem_cons_self) hc)

end Dulwich.Reader
