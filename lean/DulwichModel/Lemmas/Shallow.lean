/-
  Lemmas for C05 about shallow boundaries (Model/Shallow.lean).  Client: what `shallowLines` reads off the parts of a
  request.  Server: `find_shallow` returns only names reachable from the heads, in the form "inside every edge-closed
  `P`" of Lemmas/Missing.lean (`walk_sound` asks for closure under commit parents only) until `findShallow_sound` puts
  `Reach` in.  Core Lean only.
-/
import DulwichModel.Model.Shallow
import DulwichModel.Lemmas.Missing

namespace Dulwich.Shallow
open Dulwich Dulwich.Graph Dulwich.Missing

theorem shallowLines_append (a b : List ReqLine) :
    shallowLines (a ++ b) = shallowLines a ++ shallowLines b :=
  List.filterMap_append

theorem shallowLines_want (l : List Id) : shallowLines (l.map ReqLine.want) = [] := by
  induction l with
  | nil => rfl
  | cons x xs ih => exact ih

theorem shallowLines_shallow (l : List Id) : shallowLines (l.map ReqLine.shallow) = l := by
  induction l with
  | nil => rfl
  | cons x xs ih => exact congrArg (x :: ·) ih

theorem peelCommit_sound {s : Store} {P : Id → Prop} (hP : EdgeClosed s P) {fuel : Nat} {x c : Id}
    (h : peelCommit s fuel x = .ok (some c)) (hx : P x) : P c := by
  fun_induction peelCommit s fuel x with
  | case3 => cases h; exact hx
  | case4 fuel x t hs ih => exact ih h (hP x t hx ⟨_, hs, .head _⟩)
  | _ => cases h

theorem peelHeads_sound {s : Store} {P : Id → Prop} (hP : EdgeClosed s P) {fuel : Nat}
    {heads : List Id} {l : List (Id × Nat)} (h : peelHeads s fuel heads = .ok l)
    (hh : ∀ x ∈ heads, P x) : ∀ e ∈ l, P e.1 := by
  fun_induction peelHeads s fuel heads generalizing l with
  | case1 => cases h; nofun
  | case4 x rest c hc l' hl' ih =>
    cases h
    have ⟨hx, hrest⟩ := List.forall_mem_cons.1 hh
    refine List.forall_mem_append.2 ⟨fun e he => ?_, ih hl' hrest⟩
    cases c with
    | none => cases he
    | some c => cases List.mem_singleton.1 he; exact peelCommit_sound hP hc hx
  | _ => cases h

theorem walk_sound (s : Store) (depth : Nat) (P : Id → Prop)
    (hP : ∀ y t ps x, P y → s y = some (.commit t ps) → x ∈ ps → P x) :
    ∀ (fuel : Nat) (todo seen : List (Id × Nat)) (sh ns : List Id) (r : List Id × List Id),
      walk s depth fuel todo seen sh ns = .ok r → (∀ e ∈ todo, P e.1) → (∀ x ∈ sh, P x) → (∀ x ∈ ns, P x) →
      (∀ x ∈ r.1, P x) ∧ (∀ x ∈ r.2, P x) := by
  intro fuel todo seen sh ns r h ht hsh hns
  fun_induction walk s depth fuel todo seen sh ns with
  | case1 => cases h; exact ⟨hsh, hns⟩
  | case3 fuel x d todo seen sh ns _ ih => exact ih h (List.forall_mem_cons.1 ht).2 hsh hns
  | case5 fuel x d todo seen sh ns _ _ t ps hs ih =>
    have ⟨hx, ht'⟩ := List.forall_mem_cons.1 ht
    refine ih h (List.forall_mem_append.2 ⟨fun e he => ?_, ht'⟩) hsh (List.forall_mem_cons.2 ⟨hx, hns⟩)
    obtain ⟨p, hp, rfl⟩ := List.mem_map.1 he
    exact hP x t ps p hx hs hp
  | case7 fuel x d todo seen sh ns _ _ ih =>
    have ⟨hx, ht'⟩ := List.forall_mem_cons.1 ht
    exact ih h ht' (List.forall_mem_cons.2 ⟨hx, hsh⟩) hns
  | _ => cases h

theorem findShallow_sound (s : Store) (fuel : Nat) (heads : List Id) (depth : Nat) (r : List Id × List Id)
    (h : findShallow s fuel heads depth = .ok r) :
    (∀ x ∈ r.1, Reach s heads x) ∧ (∀ x ∈ r.2, Reach s heads x) := by
  unfold findShallow at h
  split at h
  · cases h
  · rename_i todo htodo
    exact walk_sound s depth (Reach s heads) (fun _ t _ _ hy hs hx => .step hy hs (List.mem_cons_of_mem t hx))
      fuel todo [] [] [] r h
      (peelHeads_sound (reach_least s heads).closed htodo fun x hx => .root hx) nofun nofun

end Dulwich.Shallow
