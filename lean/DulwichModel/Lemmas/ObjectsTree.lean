/- Lemmas for the tree model (C01): hex; the mode token (each reader on any octal `Numeral`; the writer's padded token is
one); `WFEntry` and one entry parsed off the front of any text (`parseTreeAux_entry`), hence parse ∘ serialize; `sortBy`
yields a sorted permutation (an instance of Lemmas/InsertSort.lean), `bytesLe` being core's `≤`; the `_entries` dict on
distinct names; `CleanName`, and the key order against both Rust comparators, each as lexicographic comparison of
name ++ suffix. -/
import DulwichModel.Lemmas.ObjectsText
import DulwichModel.Lemmas.InsertSort
import DulwichModel.Lemmas.LexCmp

namespace Dulwich.Objects
open Dulwich

/-! ### hex -/

theorem nibVal_hexNib : ∀ n, n < 16 → nibVal? (hexNib n) = some n := by decide +kernel

theorem unhexlify_hexlify (raw : Bytes) : unhexlify (hexlify raw) = some raw := by
  induction raw with
  | nil => rfl
  | cons b r ih =>
    simp only [hexlify, unhexlify, nibVal_hexNib _ (Nat.div_lt_of_lt_mul (show b.toNat < 16 * 16 from b.toNat_lt)),
      nibVal_hexNib _ (Nat.mod_lt _ (by decide)), ih, Nat.div_add_mod, UInt8.ofNat_toNat]

theorem hexlify_length (raw : Bytes) : (hexlify raw).length = 2 * raw.length := by
  induction raw with
  | nil => rfl
  | cons b r ih => simp [hexlify, ih]; omega

theorem hexToSha_hexlify (raw : Bytes) (h : 2 * raw.length ∈ OGen.hexLens) :
    hexToSha (hexlify raw) = .ok raw := by
  simp [hexToSha, hexlify_length, h, unhexlify_hexlify]

theorem shaToHex_ok (raw : Bytes) (h : 2 * raw.length ∈ OGen.hexLens) :
    shaToHex raw = .ok (hexlify raw) := by
  simp [shaToHex, hexlify_length, h]

/-! ### the mode token -/

theorem Numeral.padZeros {b n : Nat} {ds : Bytes} (h : Numeral b ds n) (hb : 0 < b) (w : Nat) :
    Numeral b (padZeros w ds) n := by
  refine ⟨h.le, fun e => h.ne (List.append_eq_nil_iff.mp e).2,
    fun c hc => (List.mem_append.mp hc).elim (fun hz => ?_) (h.dig c), ?_⟩
  · rw [List.eq_of_mem_replicate hz]; exact ⟨Nat.le_refl _, Nat.lt_add_of_pos_right hb⟩
  · have z : ∀ k, digVal b (List.replicate k 48) 0 = 0 := fun k => by
      induction k with
      | zero => rfl
      | succ k ih => rw [List.replicate_succ, digVal, Nat.zero_mul]; exact ih
    rw [Objects.padZeros, digVal_append, z, h.val]

theorem Numeral.oct {ds : Bytes} {n : Nat} (h : Numeral 8 ds n) : allOct ds = true ∧ octVal ds 0 = n := by
  have hv : ∀ (t : Bytes) (acc : Nat), octVal t acc = digVal 8 t acc := fun t => by
    induction t with
    | nil => exact fun _ => rfl
    | cons c r ih => exact fun _ => ih _
  refine ⟨?_, (hv ds 0).trans h.val⟩
  have hd := h.dig
  clear h
  induction ds with
  | nil => rfl
  | cons c r ih =>
    have hc := hd c List.mem_cons_self
    simp only [allOct, Bool.and_eq_true, decide_eq_true_eq, UInt8.le_iff_toNat_le]
    exact ⟨⟨hc.1, Nat.le_of_lt_succ hc.2⟩, ih fun x hx => hd x (List.mem_cons_of_mem _ hx)⟩

theorem Numeral.rsOctU32 {ds : Bytes} {n : Nat} (h : Numeral 8 ds n) (hn : n < 4294967296) : rsOctU32 ds = some n := by
  obtain ⟨hall, hv⟩ := h.oct
  unfold Objects.rsOctU32
  cases ds with
  | nil => exact absurd rfl h.ne
  | cons c r =>
    have hc : ¬ c = 43 := dig_ne c (h.isDig c List.mem_cons_self) 43 (by decide)
    simp [hc, hall, hv, hn]

theorem Numeral.strictOct {ds : Bytes} {n : Nat} (h : Numeral 8 ds n) (hn : n < 4294967296) : strictOct ds = some n := by
  obtain ⟨hall, hv⟩ := h.oct
  have he : ds.isEmpty = false := by
    cases ds with
    | nil => exact absurd rfl h.ne
    | cons c r => rfl
  have hm : n ≤ OGen.treeModeMax := Nat.le_of_lt_succ hn  -- the generated bound is 2^32 - 1
  simp only [Objects.strictOct, he, hall, hv, hm, Bool.not_true, Bool.or_self, Bool.false_eq_true, if_false, if_true]

theorem Numeral.pyModeToken {ds : Bytes} {n : Nat} (h : Numeral 8 ds n) (hn : n < 4294967296) :
    pyModeToken ds = some (n : Int) := by
  unfold Objects.pyModeToken
  split
  · rw [h.strictOct hn]; rfl
  · exact h.pyInt

theorem Numeral.rsModeToken {ds : Bytes} {n : Nat} (h : Numeral 8 ds n) (hn : n < 4294967296) :
    rsModeToken ds = some (n : Int) := by
  unfold Objects.rsModeToken
  split
  · rw [h.strictOct hn]; rfl
  · rw [h.rsOctU32 hn]; rfl

theorem modeToken_numeral (w n : Nat) : Numeral 8 (padZeros w (natToOct n)) n :=
  (Numeral.natToBase (by decide) (by decide) n).padZeros (by decide) w

theorem rsOctU32_padZeros (w n : Nat) (hn : n < 4294967296) : rsOctU32 (padZeros w (natToOct n)) = some n :=
  (modeToken_numeral w n).rsOctU32 hn

/-! ### parse ∘ serialize -/

/-- A tree entry dulwich can write and, if its mode is below 2^32, read back. -/
def WFEntry (shaLen : Nat) (e : Entry) : Prop :=
  0 ≤ e.mode ∧ (0 : UInt8) ∉ e.name ∧ ∃ raw : Bytes, raw.length = shaLen ∧ e.sha = hexlify raw

theorem fmtOct_nonneg (w : Nat) (m : Int) (h : 0 ≤ m) : fmtOct w m = padZeros w (natToOct m.toNat) := by
  unfold fmtOct
  have : ¬ m < 0 := Int.not_lt.mpr h
  simp [this]

theorem parseTreeAux_entry (pm : Bytes → Option Int) (shaLen : Nat) (hlen : 2 * shaLen ∈ OGen.hexLens)
    (hpm : ∀ ds n, Numeral 8 ds n → n < 4294967296 → pm ds = some (n : Int))
    (e : Entry) (hwf : WFEntry shaLen e) (h32 : e.mode < 4294967296) :
    ∃ chunk, serializeEntry e = .ok chunk ∧ 0 < chunk.length ∧ ∀ f rest,
      parseTreeAux pm shaLen (f + 1) (chunk ++ rest) = (parseTreeAux pm shaLen f rest).map (e :: ·) := by
  obtain ⟨hm, hname, raw, hraw, hsha⟩ := hwf
  have hlen' : 2 * raw.length ∈ OGen.hexLens := hraw ▸ hlen
  have hmode : pm (padZeros OGen.treeModeWidth (natToOct e.mode.toNat)) = some e.mode :=
    (hpm _ _ (modeToken_numeral _ _) ((Int.toNat_lt hm).mpr h32)).trans (congrArg some (Int.toNat_of_nonneg hm))
  have hno32 : (32 : UInt8) ∉ padZeros OGen.treeModeWidth (natToOct e.mode.toNat) :=
    fun h => dig_ne _ ((modeToken_numeral _ _).isDig _ h) 32 (by decide) rfl
  generalize htok : padZeros OGen.treeModeWidth (natToOct e.mode.toNat) = tok at hmode hno32
  refine ⟨tok ++ 32 :: (e.name ++ 0 :: raw), ?_, ?_, fun f rest => ?_⟩
  · rw [serializeEntry, hsha, hexToSha_hexlify raw hlen', fmtOct_nonneg _ _ hm, htok]
    simp only [List.append_assoc, List.cons_append, List.nil_append]
  · rw [List.length_append, List.length_cons]; exact Nat.lt_of_lt_of_le (Nat.succ_pos _) (Nat.le_add_left _ _)
  · have hne : (tok ++ 32 :: (e.name ++ 0 :: raw) ++ rest).isEmpty = false := by cases tok <;> rfl
    have htake : (raw ++ rest).take shaLen = raw := List.take_left' hraw
    have hdrop : (raw ++ rest).drop shaLen = rest := List.drop_left' hraw
    have hlong : ¬ (raw ++ rest).length < shaLen := by
      rw [List.length_append, hraw]; exact Nat.not_lt.mpr (Nat.le_add_right _ _)
    rw [parseTreeAux, if_neg (by rw [hne]; decide)]
    simp only [List.append_assoc, List.cons_append, splitFirst_append 32 _ _ hno32, hmode,
      splitFirst_append 0 _ _ hname, hlong, if_false, htake, hdrop, shaToHex_ok raw hlen', ← hsha]
    cases parseTreeAux pm shaLen f rest <;> rfl

theorem parseTreeAux_serialize (pm : Bytes → Option Int) (shaLen : Nat)
    (hlen : 2 * shaLen ∈ OGen.hexLens)
    (hpm : ∀ ds n, Numeral 8 ds n → n < 4294967296 → pm ds = some (n : Int)) :
    ∀ (es : List Entry), (∀ e ∈ es, WFEntry shaLen e) → (∀ e ∈ es, e.mode < 4294967296) →
    ∃ bs, serializeTree es = .ok bs ∧ es.length ≤ bs.length ∧
      ∀ f, es.length ≤ f → parseTreeAux pm shaLen f bs = .ok es
  | [], _, _ => ⟨[], rfl, Nat.le_refl _, fun f _ => by cases f <;> rfl⟩
  | e :: es, hwf, h32 => by
    obtain ⟨bs, hbs, hbl, hparse⟩ := parseTreeAux_serialize pm shaLen hlen hpm es
      (fun x hx => hwf x (List.mem_cons_of_mem _ hx)) (fun x hx => h32 x (List.mem_cons_of_mem _ hx))
    obtain ⟨chunk, hse, hpos, hentry⟩ :=
      parseTreeAux_entry pm shaLen hlen hpm e (hwf e List.mem_cons_self) (h32 e List.mem_cons_self)
    refine ⟨chunk ++ bs, by simp only [serializeTree, hse, hbs], ?_, fun f hf => ?_⟩
    · rw [List.length_cons, List.length_append, Nat.add_comm chunk.length]; exact Nat.add_le_add hbl hpos
    · cases f with
      | zero => exact absurd hf (Nat.not_succ_le_zero _)
      | succ f => rw [hentry, hparse f (Nat.le_of_succ_le_succ hf)]; rfl

/-! ### sorting -/

theorem sortBy_eq (le : Entry → Entry → Bool) : ∀ l, sortBy le l = l.foldr (insertBy le) []
  | [] => rfl
  | x :: xs => congrArg (insertBy le x) (sortBy_eq le xs)

theorem sortBy_perm (le : Entry → Entry → Bool) (l : List Entry) : (sortBy le l).Perm l :=
  sortBy_eq le l ▸ InsertSort.foldr_perm (ins := insertBy le) (before := fun x y => le x y = true)
    (fun _ => rfl) (fun _ _ _ => rfl) l

theorem sortBy_pairwise (le : Entry → Entry → Bool)
    (htot : ∀ a b, le a b = true ∨ le b a = true)
    (htr : ∀ a b c, le a b = true → le b c = true → le a c = true) (l : List Entry) :
    (sortBy le l).Pairwise (fun a b => le a b = true) :=
  sortBy_eq le l ▸ InsertSort.foldr_pairwise (ins := insertBy le) (before := fun x y => le x y = true)
    (fun _ => rfl) (fun _ _ _ => rfl) htr (fun _ _ => id) (fun x y h => (htot x y).resolve_left h) l

theorem sortBy_of_sorted (le : Entry → Entry → Bool) : ∀ l, l.Pairwise (fun a b => le a b = true) → sortBy le l = l := by
  intro l
  induction l with
  | nil => intro _; rfl
  | cons x xs ih =>
    intro h
    have hx := List.pairwise_cons.mp h
    simp only [sortBy, ih hx.2]
    cases xs with
    | nil => rfl
    | cons y ys => simp [insertBy, hx.1 y List.mem_cons_self]

/-- `bytes.__le__` is core's lexicographic order on `List UInt8`; totality and transitivity are core's. -/
theorem bytesLe_iff : ∀ (a b : Bytes), bytesLe a b = true ↔ a ≤ b
  | [], _ => by simp [bytesLe]
  | _ :: _, [] => by simp [bytesLe]
  | x :: xs, y :: ys => by
    rw [bytesLe, List.cons_le_cons_iff, ← bytesLe_iff xs ys]
    by_cases h1 : x < y
    · simp [h1]
    · by_cases h2 : y < x
      · simp [h1, h2, (UInt8.ne_of_lt h2).symm]
      · simp [UInt8.le_antisymm (UInt8.not_lt.mp h2) (UInt8.not_lt.mp h1)]

theorem bytesLe_total (a b : Bytes) : bytesLe a b = true ∨ bytesLe b a = true := by
  simpa only [bytesLe_iff] using List.le_total a b

theorem bytesLe_trans (a b c : Bytes) : bytesLe a b = true → bytesLe b c = true → bytesLe a c = true := by
  simpa only [bytesLe_iff] using List.le_trans

theorem keyLe_total (a b : Entry) : keyLe a b = true ∨ keyLe b a = true := bytesLe_total _ _

theorem keyLe_trans (a b c : Entry) : keyLe a b = true → keyLe b c = true → keyLe a c = true :=
  bytesLe_trans _ _ _

/-! ### the `_entries` dict -/

theorem dictSet_fresh : ∀ (d : List Entry) (e : Entry), (∀ x ∈ d, x.name ≠ e.name) → dictSet d e = d ++ [e] := by
  intro d
  induction d with
  | nil => intro e _; rfl
  | cons x xs ih =>
    intro e h
    have hx : ¬ x.name = e.name := h x List.mem_cons_self
    simp [dictSet, hx, ih e (fun y hy => h y (List.mem_cons_of_mem _ hy))]

theorem foldl_dictSet_distinct : ∀ (es acc : List Entry),
    (acc ++ es).Pairwise (fun a b => a.name ≠ b.name) → es.foldl dictSet acc = acc ++ es
  | [], acc, _ => (List.append_nil acc).symm
  | e :: es, acc, h => by
    have hfresh := fun x hx => (List.pairwise_append.mp h).2.2 x hx e List.mem_cons_self
    rw [List.foldl_cons, dictSet_fresh acc e hfresh, foldl_dictSet_distinct es _ (List.append_cons acc e es ▸ h),
      ← List.append_cons]

/-! ### `key_entry` order = `cmp_with_suffix` (git's `base_name_compare`) -/

/-- A name that can occur in a tree git accepts: no NUL, no `/`. -/
def CleanName (n : Bytes) : Prop := (0 : UInt8) ∉ n ∧ (47 : UInt8) ∉ n

instance (n : Bytes) : Decidable (CleanName n) := by unfold CleanName; infer_instance

theorem bytesLe_eq_cmpBytes : ∀ (u v : Bytes), bytesLe u v = (cmpBytes u v != .gt)
  | [], [] | [], _ :: _ | _ :: _, [] => by rw [bytesLe, cmpBytes]; rfl
  | x :: xs, y :: ys => by
    rw [bytesLe, cmpBytes]
    by_cases h1 : x < y
    · rw [if_pos h1, if_pos h1]; rfl
    · by_cases h2 : y < x
      · rw [if_neg h1, if_pos h2, if_neg h1, if_pos h2]; rfl
      · rw [if_neg h1, if_neg h2, if_neg h1, if_neg h2]
        exact bytesLe_eq_cmpBytes xs ys

theorem cmpWithSuffix_eq_lex (ma : Int) (an : Bytes) (mb : Int) (bn : Bytes) :
    cmpWithSuffix ma an mb bn = cmpBytes (an ++ rsSuffix ma) (bn ++ rsSuffix mb) := by
  have : OGen.rsCmpWhole = true := rfl
  simp only [cmpWithSuffix, this, if_true, cmpWithSuffixNew]
  refine .trans ?_ (LexCmp.take_drop (cmp := cmpBytes) rfl (fun _ _ _ _ => rfl) _ _
    (Nat.min_le_left an.length bn.length) (Nat.min_le_right ..))
  generalize cmpBytes (an.take _) (bn.take _) = c
  cases c <;> rfl

-- the generated `sIFDIR` and `rsSIFDIR` are the same number; fails if they diverge
theorem isDir_eq_rsIsDir (m : Int) : isDir m = rsIsDir m := rfl

theorem keyEntry_eq_suffix (e : Entry) : keyEntry e = e.name ++ rsSuffix e.mode := by
  have d : OGen.dirSuffix = 47 := rfl
  have s1 : OGen.rsDirSuffix = [47] := rfl
  have s2 : OGen.rsFileSuffix = [] := rfl
  unfold keyEntry rsSuffix
  rw [isDir_eq_rsIsDir]
  cases rsIsDir e.mode <;> simp [d, s1, s2]

theorem cmpBytes_cons_ne {a b : UInt8} (h : a ≠ b) (as bs : Bytes) : cmpBytes (a :: as) (b :: bs) = cmpByte a b := by
  unfold cmpBytes cmpByte
  rcases UInt8.lt_or_lt_of_ne h with h1 | h1
  · rw [if_pos h1, if_pos h1]
  · rw [if_neg (UInt8.lt_asymm h1), if_pos h1, if_neg (UInt8.lt_asymm h1), if_pos h1]

/-- On names without NUL and `/` the old comparator (one virtual byte past the common prefix) is
lexicographic comparison of the chained strings as well: a name that has ended meets a byte that differs from
its terminator. -/
theorem cmpWithSuffixOld_eq_lex (ma mb : Int) : ∀ (an bn : Bytes), CleanName an → CleanName bn →
    cmpWithSuffixOld ma an mb bn = cmpBytes (an ++ rsSuffix ma) (bn ++ rsSuffix mb)
  | [], [], _, _ => by
    cases ha : rsIsDir ma <;> cases hb : rsIsDir mb <;> simp only [cmpWithSuffixOld, rsTerm, rsSuffix, ha, hb] <;> rfl
  | [], y :: ys, _, hy => by
    have y0 : 0 < y := UInt8.pos_iff_ne_zero.mpr fun e => hy.1 (e ▸ List.mem_cons_self)
    have y47 : (47 : UInt8) ≠ y := fun e => hy.2 (e ▸ List.mem_cons_self)
    cases ha : rsIsDir ma <;> simp only [cmpWithSuffixOld, rsTerm, rsSuffix, ha]
    · exact if_pos y0
    · exact (cmpBytes_cons_ne y47 _ _).symm
  | x :: xs, [], hx, _ => by
    have x0 : 0 < x := UInt8.pos_iff_ne_zero.mpr fun e => hx.1 (e ▸ List.mem_cons_self)
    have x47 : x ≠ (47 : UInt8) := fun e => hx.2 (e ▸ List.mem_cons_self)
    cases hb : rsIsDir mb <;> simp only [cmpWithSuffixOld, rsTerm, rsSuffix, hb]
    · exact (if_neg UInt8.not_lt_zero).trans (if_pos x0)
    · exact (cmpBytes_cons_ne x47 _ _).symm
  | x :: xs, y :: ys, hx, hy => by
    have hxs : CleanName xs := ⟨fun h => hx.1 (List.mem_cons_of_mem _ h), fun h => hx.2 (List.mem_cons_of_mem _ h)⟩
    have hys : CleanName ys := ⟨fun h => hy.1 (List.mem_cons_of_mem _ h), fun h => hy.2 (List.mem_cons_of_mem _ h)⟩
    simp only [cmpWithSuffixOld, List.cons_append, cmpBytes, cmpWithSuffixOld_eq_lex ma mb xs ys hxs hys]

end Dulwich.Objects
