/- What Props/C14.lean rests on, model by model.  `withCache_eq_iff`: when a cache is transparent at a key.
   Commit-graph: the parent slots of writer and reader, each an equation against `answerFor` (what the file may say about
   a commit), up to `decode_encodeParents`.  EWAH: the relation `Stream` between dense and compressed words (the encoder
   produces it, the decoder inverts it), the decoder's bound, then bytes and bits up to `decode_encode`.  MIDX: the order
   fact behind the bisect, a fan-out entry as the length of a filter (its window is Lemmas/SortedFilter.lean's prefix), the
   OOFF/LOFF spill.  Core Lean only. -/
import DulwichModel.Model.Accel
import DulwichModel.Model.Ewah
import DulwichModel.Model.CommitGraphFmt
import DulwichModel.Model.Midx
import DulwichModel.Lemmas.BigEndian
import DulwichModel.Lemmas.ExceptEq
import DulwichModel.Lemmas.SortedFilter

namespace Dulwich

theorem getD_map_range (f : Nat → Nat) (n i : Nat) :
    ((List.range n).map f).getD i 0 = if i < n then f i else 0 := by
  rw [List.getD_eq_getElem?_getD, List.getElem?_map]
  split
  · rw [List.getElem?_range ‹_›]
    rfl
  · rw [List.getElem?_eq_none (by rwa [List.length_range, ← Nat.not_lt])]
    rfl

end Dulwich

namespace Dulwich.Accel

theorem withCache_eq_iff {κ ν : Type} (c : κ → Option ν) (base : κ → ν) (k : κ) :
    withCache c base k = base k ↔ ∀ v, c k = some v → base k = v := by
  unfold withCache
  cases c k with
  | none => exact ⟨fun _ _ h => (nomatch h), fun _ => rfl⟩
  | some w => exact ⟨fun h _ e => Option.some.inj e ▸ h.symm, fun h => (h w rfl).symm⟩

end Dulwich.Accel

namespace Dulwich.CommitGraphFmt
open Dulwich

theorem consts_wf : NONE < MISSING ∧ MISSING < EXTRA ∧ LAST = EXTRA := by decide

theorem indexOf_mem (oids : List Bytes) (p : Bytes) (h : p ∈ oids) :
    ∃ j, indexOf oids p = some j ∧ oids[j]? = some p := by
  fun_induction indexOf oids p with
  | case1 => cases h
  | case2 xs => exact ⟨0, rfl, rfl⟩
  | case3 x xs hx ih =>
    obtain ⟨j, h1, h2⟩ := ih ((List.mem_cons.mp h).resolve_left (Ne.symm hx))
    exact ⟨j + 1, by rw [h1]; rfl, h2⟩

theorem indexOf_none (oids : List Bytes) (p : Bytes) (h : p ∉ oids) : indexOf oids p = none := by
  fun_induction indexOf oids p with
  | case1 => rfl
  | case2 xs => exact absurd List.mem_cons_self h
  | case3 x xs hx ih =>
    rw [ih fun hp => h (List.mem_cons_of_mem _ hp)]
    rfl

theorem parentPos_mem {oids : List Bytes} {p : Bytes} (h : p ∈ oids) :
    oids[parentPos oids p]? = some p ∧ parentPos oids p < oids.length := by
  obtain ⟨j, h1, h2⟩ := indexOf_mem oids p h
  unfold parentPos
  rw [h1]
  exact ⟨h2, (List.getElem?_eq_some_iff.mp h2).1⟩

theorem parentPos_not_mem {oids : List Bytes} {p : Bytes} (h : p ∉ oids) : parentPos oids p = MISSING := by
  unfold parentPos
  rw [indexOf_none oids p h]
  rfl

/-- what the file is allowed to say about a commit with (real) parents `ps`: the full list, or "unknown" -/
def answerFor (oids : List Bytes) (ps : List Bytes) : Option (List Bytes) :=
  if (∀ p ∈ ps, p ∈ oids) then some ps else none

/-- `secondSlot`'s join of the parents so far with what the slot adds: there `a.map (· ++ [o])` for a position and an
inline `match` for an EDGE run, named here so that the lemmas on both branches read alike. -/
def bothKnown : Option (List Bytes) → Option (List Bytes) → Option (List Bytes)
  | some x, some y => some (x ++ y)
  | _, _ => none

theorem answerFor_cons (oids : List Bytes) (a : Bytes) (t : List Bytes) :
    bothKnown (answerFor oids [a]) (answerFor oids t) = answerFor oids (a :: t) := by
  unfold answerFor
  by_cases ha : a ∈ oids
  · rw [if_pos (List.forall_mem_singleton.mpr ha)]
    by_cases ht : ∀ p ∈ t, p ∈ oids
    · rw [if_pos ht, if_pos (List.forall_mem_cons.mpr ⟨ha, ht⟩)]
      rfl
    · rw [if_neg ht, if_neg fun h => ht (List.forall_mem_cons.mp h).2]
      rfl
  · rw [if_neg (mt List.forall_mem_singleton.mp ha), if_neg fun h => ha (List.forall_mem_cons.mp h).1]
    rfl

theorem firstSlot_parentPos {oids : List Bytes} (hn : oids.length < NONE) (p : Bytes) :
    firstSlot oids (parentPos oids p) = .ok (answerFor oids [p]) := by
  unfold firstSlot answerFor
  by_cases hp : p ∈ oids
  · obtain ⟨g1, g2⟩ := parentPos_mem hp
    rw [if_pos (Nat.lt_trans g2 hn), g1, if_pos (List.forall_mem_singleton.mpr hp)]
  · rw [parentPos_not_mem hp, if_neg (Nat.lt_asymm consts_wf.1), if_pos rfl,
      if_neg (mt List.forall_mem_singleton.mp hp)]

theorem secondSlot_parentPos {oids : List Bytes} (hn : oids.length < NONE) (E : Option (List Nat))
    (a : Option (List Bytes)) (p : Bytes) :
    secondSlot oids E a (parentPos oids p) = .ok (bothKnown a (answerFor oids [p])) := by
  unfold secondSlot answerFor
  by_cases hp : p ∈ oids
  · obtain ⟨g1, g2⟩ := parentPos_mem hp
    rw [if_pos (Nat.lt_trans g2 hn), g1, if_pos (List.forall_mem_singleton.mpr hp)]
    cases a <;> rfl
  · rw [parentPos_not_mem hp, if_neg (Nat.lt_asymm consts_wf.1), if_pos rfl,
      if_neg (mt List.forall_mem_singleton.mp hp)]
    cases a <;> rfl

theorem secondSlot_none (oids : List Bytes) (E : Option (List Nat)) (a : Option (List Bytes)) :
    secondSlot oids E a NONE = .ok a := by
  obtain ⟨c1, c2, _⟩ := consts_wf
  unfold secondSlot
  rw [if_neg (Nat.lt_irrefl _), if_neg (Nat.ne_of_lt c1), if_neg (Nat.not_le.mpr (Nat.lt_trans c1 c2))]

theorem secondSlot_edges (oids : List Bytes) (ws : List Nat) (a : Option (List Bytes)) (n : Nat) :
    secondSlot oids (some ws) a (EXTRA + n) = .ok (bothKnown a (parseExtraEdges oids (ws.drop n))) := by
  obtain ⟨c1, c2, _⟩ := consts_wf
  unfold secondSlot
  have h : MISSING < EXTRA + n := Nat.lt_of_lt_of_le c2 (Nat.le_add_right _ _)
  rw [if_neg (Nat.lt_asymm (Nat.lt_trans c1 h)), if_neg (Nat.ne_of_gt h), if_pos (Nat.le_add_right _ _),
    Nat.add_sub_cancel_left]
  cases a <;> rfl

theorem decodeParents_of_firstSlot {oids : List Bytes} {p1 : Nat} {a : Option (List Bytes)}
    (h : firstSlot oids p1 = .ok a) (E : Option (List Nat)) (p2 : Nat) :
    decodeParents oids E p1 p2 = secondSlot oids E a p2 := by
  unfold decodeParents
  rw [h]

theorem flagLast_concat (x : Nat) : ∀ l : List Nat, flagLast (l ++ [x]) = l ++ [x + LAST]
  | [] => rfl
  | [_] => rfl
  | y :: z :: l => congrArg (y :: ·) (flagLast_concat x (z :: l))

/-- `_parse_extra_edges` on one run, whatever the words: positions outside the table are skipped, not errors -/
theorem parseExtraEdges_words (oids : List Bytes) (post : List Nat) :
    ∀ ws : List Nat, ws ≠ [] → (∀ w ∈ ws, w < LAST) →
      parseExtraEdges oids (flagLast ws ++ post) = if MISSING ∈ ws then none else some (ws.filterMap (oids[·]?))
  | [w], _, _ => by
    rw [flagLast, List.cons_append, parseExtraEdges, if_pos (Nat.le_add_left _ _), if_pos (Nat.le_add_left _ _),
      Nat.add_sub_cancel, List.filterMap_cons]
    by_cases h1 : w = MISSING
    · rw [if_pos h1, if_pos (h1 ▸ List.mem_cons_self)]
    · rw [if_neg h1, if_neg fun h => h1 (List.mem_singleton.mp h).symm]
      cases oids[w]? <;> rfl
  | w :: v :: r, _, h => by
    have hw : ¬ w ≥ LAST := Nat.not_le.mpr (h w List.mem_cons_self)
    have ih := parseExtraEdges_words oids post (v :: r) (List.cons_ne_nil _ _) fun x hx =>
      h x (List.mem_cons_of_mem _ hx)
    rw [flagLast, List.cons_append, parseExtraEdges, if_neg hw, if_neg hw, ih]
    by_cases h1 : w = MISSING
    · rw [if_pos h1, if_pos (h1 ▸ List.mem_cons_self)]
    · rw [if_neg h1]
      by_cases h2 : MISSING ∈ v :: r
      · rw [if_pos h2, if_pos (List.mem_cons_of_mem _ h2)]
      · rw [if_neg h2, if_neg fun h => (List.mem_cons.mp h).elim (fun e => h1 e.symm) h2, List.filterMap_cons (a := w)]
        cases oids[w]? <;> rfl

theorem filterMap_parentPos {oids : List Bytes} : ∀ {ps : List Bytes}, (∀ p ∈ ps, p ∈ oids) →
    (ps.map (parentPos oids)).filterMap (oids[·]?) = ps
  | [], _ => rfl
  | a :: t, h => by
    have ⟨ha, ht⟩ := List.forall_mem_cons.mp h
    rw [List.map_cons, List.filterMap_cons, (parentPos_mem ha).1, filterMap_parentPos ht]

theorem parseExtraEdges_flagLast {oids : List Bytes} (hn : oids.length < NONE) {ps : List Bytes} (hps : ps ≠ [])
    (post : List Nat) :
    parseExtraEdges oids (flagLast (ps.map (parentPos oids)) ++ post) = answerFor oids ps := by
  obtain ⟨c1, c2, c3⟩ := consts_wf
  have hpos {p : Bytes} (hp : p ∈ oids) : parentPos oids p < MISSING :=
    Nat.lt_trans (Nat.lt_trans (parentPos_mem hp).2 hn) c1
  rw [parseExtraEdges_words oids post _ (mt List.map_eq_nil_iff.mp hps)]
  · unfold answerFor
    by_cases hm : MISSING ∈ ps.map (parentPos oids)
    · obtain ⟨p, hp, e⟩ := List.mem_map.mp hm
      rw [if_pos hm, if_neg fun hall => Nat.ne_of_lt (hpos (hall p hp)) e]
    · have hall : ∀ p ∈ ps, p ∈ oids := fun p hp =>
        Decidable.by_contra fun h => hm (List.mem_map.mpr ⟨p, hp, parentPos_not_mem h⟩)
      rw [if_neg hm, if_pos hall, filterMap_parentPos hall]
  · intro w hw
    obtain ⟨p, _, rfl⟩ := List.mem_map.mp hw
    by_cases hp : p ∈ oids
    · exact c3 ▸ Nat.lt_trans (hpos hp) c2
    · exact parentPos_not_mem hp ▸ c3 ▸ c2

theorem decode_encodeParents (oids : List Bytes) (hn : oids.length < NONE) (ps : List Bytes) (m : Nat)
    {p1 p2 : Nat} {ws : List Nat} (ht : encodeParents oids (some ps) m = (p1, p2, ws)) (E : Option (List Nat))
    (hE : ps.length > 2 → ∃ pre post, E = some (pre ++ (ws ++ post)) ∧ pre.length = m) :
    decodeParents oids E p1 p2 = .ok (answerFor oids ps) :=
  match ps, ht, hE with
  | [], ht, _ => by
    have h : firstSlot oids NONE = .ok (some []) := by
      unfold firstSlot
      rw [if_neg (Nat.lt_irrefl _), if_neg (Nat.ne_of_lt consts_wf.1)]
    cases ht
    rw [decodeParents_of_firstSlot h, secondSlot_none]
    rfl
  | [a], ht, _ => by
    cases ht
    rw [decodeParents_of_firstSlot (firstSlot_parentPos hn a), secondSlot_none]
  | [a, b], ht, _ => by
    cases ht
    rw [decodeParents_of_firstSlot (firstSlot_parentPos hn a), secondSlot_parentPos hn, answerFor_cons]
  | a :: b :: c :: rest, ht, hE => by
    cases ht
    obtain ⟨pre, post, rfl, rfl⟩ := hE (by simp)
    rw [decodeParents_of_firstSlot (firstSlot_parentPos hn a), secondSlot_edges, List.drop_left,
      parseExtraEdges_flagLast hn (List.cons_ne_nil _ _), answerFor_cons]

theorem encodeAll_spec (oids : List Bytes) : ∀ (pss : List (Option (List Bytes))) (n i : Nat) (ps : Option (List Bytes)),
    pss[i]? = some ps →
      ∃ pre post p1 p2 ws, encodeParents oids ps (n + pre.length) = (p1, p2, ws) ∧
        (encodeAll oids pss n).1[i]? = some (p1, p2) ∧ (encodeAll oids pss n).2 = pre ++ (ws ++ post)
  | q :: more, n, 0, ps, hi => by
    cases Option.some.inj hi
    exact ⟨[], _, _, _, _, rfl, rfl, rfl⟩
  | q :: more, n, i + 1, ps, hi => by
    obtain ⟨pre, post, p1, p2, ws, ht, g1, g2⟩ :=
      encodeAll_spec oids more (n + (encodeParents oids q n).2.2.length) i ps hi
    refine ⟨(encodeParents oids q n).2.2 ++ pre, post, p1, p2, ws, ?_, g1, ?_⟩
    · rwa [List.length_append, ← Nat.add_assoc]
    · rw [List.append_assoc, ← g2]
      rfl

theorem encodeParents_edges_ne_nil (oids : List Bytes) (m : Nat) : ∀ {ps : List Bytes}, ps.length > 2 →
    (encodeParents oids (some ps) m).2.2 ≠ []
  | _ :: _ :: _ :: _, _ => List.cons_ne_nil _ _

end Dulwich.CommitGraphFmt

namespace Dulwich.Ewah
open Dulwich

/-! ### EWAH: word level, encoder and decoder against `Stream` -/

/-- `Stream ws cw`: `cw` is a well-formed compressed form of the dense words `ws`.
Any chunking qualifies: the encoder's (whatever its literal cap) and C git's. -/
inductive Stream : List Nat → List Nat → Prop
  | nil : Stream [] []
  | chunk {n rb : Nat} {l rest cw : List Nat} : n < 2 ^ 32 → rb < 2 → Stream rest cw →
      Stream (List.replicate n (if rb = 1 then allOnes else 0) ++ l ++ rest) (rlw l.length n rb :: (l ++ cw))

theorem takeRun_spec (v : Nat) (ws : List Nat) : ws = List.replicate (takeRun v ws).1 v ++ (takeRun v ws).2 := by
  fun_induction takeRun v ws with
  | case1 | case3 => rfl
  | case2 ws r ih => exact congrArg (v :: ·) ih

theorem takeLits_spec (mx : Nat) (ws : List Nat) (n : Nat) : ws = (takeLits mx n ws).1 ++ (takeLits mx n ws).2 := by
  fun_induction takeLits mx n ws with
  | case1 | case2 | case4 => rfl
  | case3 n w ws _ _ r ih => exact congrArg (w :: ·) ih

theorem takeLits_pos (mx n w : Nat) (ws : List Nat) (h : ¬ (w = 0 ∨ w = allOnes)) :
    1 ≤ (takeLits mx n (w :: ws)).1.length := by
  unfold takeLits
  rw [if_pos (not_or.mp h)]
  split <;> exact Nat.le_add_left 1 _

/-- one round of the encoder's outer loop: a run of `n` words of bit `rb`, then the literals `l`.  Nothing is said of
`l.length ≤ mx`: `Stream` has no cap. -/
theorem encodeWordsAux_cons (mx fuel w : Nat) (ws : List Nat) :
    ∃ n rb l rest, rb < 2 ∧ 1 ≤ l.length + n ∧
      w :: ws = List.replicate n (if rb = 1 then allOnes else 0) ++ l ++ rest ∧
      encodeWordsAux mx (fuel + 1) (w :: ws) = rlw l.length n rb :: (l ++ encodeWordsAux mx fuel rest) := by
  by_cases hrun : w = 0 ∨ w = allOnes
  · refine ⟨_, if w = allOnes then 1 else 0, _, _, by split <;> decide, Nat.le_add_left_of_le ?_, ?_,
      by rw [encodeWordsAux, if_pos hrun]⟩
    · rw [takeRun, if_pos rfl]
      exact Nat.le_add_left 1 _
    · have hval : (if (if w = allOnes then 1 else 0) = 1 then allOnes else 0) = w := by
        rcases hrun with rfl | rfl
        · rw [if_neg (show ¬ 0 = allOnes by decide)]
          rfl
        · rw [if_pos rfl, if_pos rfl]
      rw [hval, List.append_assoc, ← takeLits_spec, ← takeRun_spec]
  · exact ⟨0, 0, _, _, by decide, takeLits_pos mx 0 w ws hrun, takeLits_spec mx (w :: ws) 0,
      by rw [encodeWordsAux, if_neg hrun]⟩

theorem encodeWordsAux_stream (mx : Nat) : ∀ (fuel : Nat) (ws : List Nat), ws.length ≤ fuel → ws.length < 2 ^ 32 →
    Stream ws (encodeWordsAux mx fuel ws)
  | fuel, [], _, _ => by
    rw [show encodeWordsAux mx fuel [] = [] by cases fuel <;> rfl]
    exact .nil
  | 0, _ :: _, hf, _ => absurd hf (Nat.not_succ_le_zero _)
  | fuel + 1, w :: ws, hf, h32 => by
    obtain ⟨n, rb, l, rest, hrb, hpos, hsplit, henc⟩ := encodeWordsAux_cons mx fuel w ws
    have hlen := congrArg List.length hsplit
    simp only [List.length_cons, List.length_append, List.length_replicate] at hlen hf h32
    rw [henc, hsplit]
    exact .chunk (by omega) hrb (encodeWordsAux_stream mx fuel rest (by omega) (by omega))

theorem takeLitsDec_append (M : Nat) : ∀ (l : List Nat) (cur : Nat) (rest : List Nat),
    cur + l.length ≤ M → takeLitsDec M l.length cur (l ++ rest) = .ok (l, rest)
  | [], _, _, _ => rfl
  | x :: l, cur, rest, h => by
    rw [List.length_cons, ← Nat.add_assoc, Nat.add_right_comm] at h
    rw [List.length_cons, List.cons_append, takeLitsDec, if_neg (by omega), takeLitsDec_append M l (cur + 1) rest h]

/-- the one place where the generated shifts and the mask enter the EWAH proofs -/
theorem rlw_fields (nl rl rb : Nat) (hrl : rl < 2 ^ 32) (hrb : rb < 2) :
    rlw nl rl rb % 2 = rb ∧ runLenOf (rlw nl rl rb) = rl ∧ litCntOf (rlw nl rl rb) = nl := by
  unfold rlw runLenOf litCntOf Gen.Accel.ewahLitShiftEnc Gen.Accel.ewahRunShiftEnc Gen.Accel.ewahRunShiftDec
    Gen.Accel.ewahLitShiftDec Gen.Accel.ewahRunMask
  omega

theorem decode_chunk (M f cur n rb : Nat) (l cw rest : List Nat)
    (hn : n < 2 ^ 32) (hrb : rb < 2) (hM : cur + n + l.length ≤ M)
    (ht : decodeWordsAux M f (cur + n + l.length) cw = .ok rest) :
    decodeWordsAux M (f + 1) cur (rlw l.length n rb :: (l ++ cw)) =
      .ok (List.replicate n (if rb = 1 then allOnes else 0) ++ l ++ rest) := by
  obtain ⟨h1, h2, h3⟩ := rlw_fields l.length n rb hn hrb
  rw [decodeWordsAux, h2, h3, h1, if_neg (by omega), takeLitsDec_append M l (cur + n) cw hM]
  simp only [ht]

theorem decodeWordsAux_stream (M : Nat) {ws cw : List Nat} (h : Stream ws cw) : ∀ (fuel cur : Nat),
    cw.length ≤ fuel → cur + ws.length ≤ M → decodeWordsAux M fuel cur cw = .ok ws := by
  induction h with
  | nil => intro fuel cur _ _; cases fuel <;> rfl
  | @chunk n rb l rest cw hn hrb _ ih =>
    intro fuel cur hf hM
    simp only [List.length_cons, List.length_append, List.length_replicate] at hf hM
    obtain _ | f := fuel
    · exact absurd hf (Nat.not_succ_le_zero _)
    exact decode_chunk M f cur n rb l cw rest hn hrb (by omega) (ih f _ (by omega) (by omega))

/-! ### EWAH: the decoder's bound -/

theorem takeLitsDec_spec (M n cur : Nat) (ws l r : List Nat) (h : takeLitsDec M n cur ws = .ok (l, r)) (hc : cur ≤ M) :
    cur + l.length ≤ M ∧ ws = l ++ r := by
  fun_induction takeLitsDec M n cur ws generalizing l with
  | case1 | case2 =>
    cases h
    exact ⟨hc, rfl⟩
  | case3 | case5 => cases h
  | case4 n cur w ws hb l' r' hr ih =>
    cases h
    obtain ⟨h1, h2⟩ := ih l' hr (Nat.le_of_not_gt hb)
    exact ⟨by rwa [List.length_cons, ← Nat.add_assoc, Nat.add_right_comm], congrArg (w :: ·) h2⟩

theorem decodeWordsAux_bounded (M fuel cur : Nat) (cw ws : List Nat) (hc : cur ≤ M)
    (h : decodeWordsAux M fuel cur cw = .ok ws) : cur + ws.length ≤ M := by
  fun_induction decodeWordsAux M fuel cur cw generalizing ws with
  | case1 | case2 =>
    cases h
    exact hc
  | case3 | case4 | case5 => cases h
  | case6 fuel cur w cw hb lits rest hl tl ht ih =>
    cases h
    have := ih tl (takeLitsDec_spec M _ _ _ _ _ hl (by omega)).1 ht
    rwa [List.length_append, List.length_append, List.length_replicate, ← Nat.add_assoc, ← Nat.add_assoc]

/-! ### EWAH: byte level and bit level -/

theorem beBytes_length (k v : Nat) : (beBytes k v).length = k :=
  BigEndian.length_enc (fun _ => rfl) (fun _ _ => rfl) k v

theorem beVal_beBytes (k v : Nat) (h : v < 256 ^ k) : beVal (beBytes k v) = v :=
  BigEndian.val_enc (fun _ => rfl) (fun _ _ => rfl) k v h

theorem readWords_flatMap : ∀ (cw : List Nat) (rest : Bytes), (∀ w ∈ cw, w < 2 ^ 64) →
    readWords cw.length (cw.flatMap (beBytes 8) ++ rest) = cw
  | [], _, _ => rfl
  | c :: cs, rest, h => by
    have hl := beBytes_length 8 c
    rw [List.length_cons, List.flatMap_cons, List.append_assoc, readWords,
      if_neg (by rw [List.length_append, hl]; omega), List.take_left' hl, List.drop_left' hl,
      beVal_beBytes 8 c (h c List.mem_cons_self), readWords_flatMap cs rest fun w hw => h w (List.mem_cons_of_mem _ hw)]

theorem serialize_ok {bc : Nat} {cw : List Nat} {bytes : Bytes} (h : serialize bc cw = .ok bytes) :
    bc < 2 ^ 32 ∧ cw.length < 2 ^ 32 ∧ (∀ w ∈ cw, w < 2 ^ 64) ∧
      bytes = beBytes 4 bc ++ beBytes 4 cw.length ++ cw.flatMap (beBytes 8) ++ beBytes 4 0 := by
  unfold serialize at h
  split at h
  · cases h
  · rename_i hb
    cases h
    refine ⟨by omega, by omega, fun w hw => Nat.lt_of_not_le fun hge => hb ?_, rfl⟩
    exact .inr (.inr (List.any_eq_true.mpr ⟨w, hw, decide_eq_true hge⟩))

theorem decode_layout (bc : Nat) (cw : List Nat) (tail : Bytes) (hbc : bc < 2 ^ 32) (hlen : cw.length < 2 ^ 32)
    (hall : ∀ w ∈ cw, w < 2 ^ 64) :
    decode (beBytes 4 bc ++ beBytes 4 cw.length ++ cw.flatMap (beBytes 8) ++ tail) =
      match decodeWords ((bc + 63) / 64) cw with
      | .ok ws => .ok (bc, ws)
      | .error e => .error e := by
  have l4a := beBytes_length 4 bc
  have l4b := beBytes_length 4 cw.length
  unfold decode
  simp only [List.append_assoc]
  rw [if_neg (by rw [List.length_append, List.length_append, l4a, l4b]; omega), List.take_left' l4a,
    List.drop_left' l4a, List.take_left' l4b, beVal_beBytes 4 bc hbc, beVal_beBytes 4 _ hlen, ← List.append_assoc,
    List.drop_left' (by rw [List.length_append, l4a, l4b]), readWords_flatMap cw _ hall]
  rfl

theorem wordVal_bit : ∀ (l : List Bool) (j : Nat), wordVal l / 2 ^ j % 2 = if l.getD j false then 1 else 0
  | [], j => by
    rw [wordVal, Nat.zero_div, List.getD_nil]
    rfl
  | b :: bs, 0 => by
    rw [wordVal, Nat.pow_zero, Nat.div_one, Nat.add_mul_mod_self_left, List.getD_cons_zero]
    cases b <;> rfl
  | b :: bs, j + 1 => by
    rw [List.getD_cons_succ, ← wordVal_bit bs j, wordVal, Nat.pow_succ', ← Nat.div_div_eq_div_mul,
      Nat.add_mul_div_left _ _ (by decide)]
    cases b <;> exact congrArg (· / 2 ^ j % 2) (Nat.zero_add _)

theorem getD_of_bitCount_le : ∀ (bits : List Bool) (p : Nat), bitCount bits ≤ p → bits.getD p false = false
  | [], _, _ => rfl
  | b :: bs, 0, h => by
    rw [bitCount] at h
    by_cases h0 : bitCount bs = 0
    · rw [if_pos h0] at h
      cases b
      · rfl
      · cases h
    · rw [if_neg h0] at h
      cases h
  | b :: bs, p + 1, h => by
    rw [bitCount] at h
    refine getD_of_bitCount_le bs p ?_
    by_cases h0 : bitCount bs = 0
    · exact h0 ▸ Nat.zero_le p
    · rw [if_neg h0] at h
      exact Nat.le_of_succ_le_succ h

theorem wordsOfBits_bitAt (bits : List Bool) (p : Nat) : bitAt (wordsOfBits bits) p = bits.getD p false := by
  unfold bitAt wordsOfBits
  rw [getD_map_range]
  split
  · have e : ((bits.drop (64 * (p / 64))).take 64).getD (p % 64) false = bits.getD p false := by
      rw [List.getD_eq_getElem?_getD, List.getElem?_take_of_lt (Nat.mod_lt _ (by decide)), List.getElem?_drop,
        Nat.div_add_mod, List.getD_eq_getElem?_getD]
    rw [wordVal_bit, e]
    cases bits.getD p false <;> rfl
  · rw [getD_of_bitCount_le bits p (by omega), Nat.zero_div]
    rfl

theorem wordsOfBits_length (bits : List Bool) : (wordsOfBits bits).length = (bitCount bits + 63) / 64 := by
  rw [wordsOfBits, List.length_map, List.length_range]

theorem decode_encode (bits : List Bool) (bytes : Bytes) (h : encode bits = .ok bytes) :
    decode bytes = .ok (bitCount bits, wordsOfBits bits) := by
  unfold encode at h
  by_cases h0 : bitCount bits = 0
  · rw [if_pos h0] at h
    cases h
    rw [h0, show wordsOfBits bits = [] by rw [wordsOfBits, h0]; rfl]
    decide +kernel
  · rw [if_neg h0] at h
    obtain ⟨h32, hlen, hall, rfl⟩ := serialize_ok h
    have hl := wordsOfBits_length bits
    rw [decode_layout _ _ _ h32 hlen hall, decodeWords, encodeWords,
      decodeWordsAux_stream _ (encodeWordsAux_stream maxLit _ _ (Nat.le_refl _) (by omega)) _ 0 (Nat.le_refl _)
        (Nat.le_of_eq ((Nat.zero_add _).trans hl))]

end Dulwich.Ewah

namespace Dulwich.Midx
open Dulwich

theorem sorted_pos_lt {oids : List Nat} (hs : oids.Pairwise (· < ·)) {i j a b : Nat}
    (hi : oids[i]? = some a) (hj : oids[j]? = some b) (hab : a < b) : i < j := by
  obtain ⟨hi', rfl⟩ := List.getElem?_eq_some_iff.mp hi
  obtain ⟨hj', rfl⟩ := List.getElem?_eq_some_iff.mp hj
  refine Nat.lt_of_not_le fun hji => ?_
  rcases Nat.lt_or_eq_of_le hji with h | rfl
  · exact Nat.lt_asymm hab (List.pairwise_iff_getElem.mp hs j i hj' hi' h)
  · exact Nat.lt_irrefl _ hab

theorem writeFanout_getD (fbs : List Nat) (b : Nat) (hb : b < 256) :
    (writeFanout fbs).getD b 0 = (fbs.filter (· ≤ b)).length := by
  unfold writeFanout
  rw [getD_map_range, if_pos hb]

/-! OOFF / LOFF spill -/

theorem encodeOffsets_length : ∀ (os : List Nat) (n : Nat), (encodeOffsets os n).1.length = os.length := by
  intro os n
  fun_induction encodeOffsets os n with
  | case1 => rfl
  | case2 _ _ _ _ _ ih | case3 _ _ _ _ _ ih => exact congrArg (· + 1) ih

theorem decodeOffset_small {w : Nat} (h : w < 2 ^ 31) (loff : Option (List Nat)) : decodeOffset w loff = .ok w := by
  -- `decodeOffset` unfolds to the literal of Gen/Accel.lean, which `rw` does not match against `2 ^ 31`
  have h' : w < 2147483648 := h
  unfold decodeOffset Gen.Accel.midxLargeFlag
  rw [if_neg (by rw [Nat.div_eq_of_lt h']; decide)]

theorem decodeOffset_large {n : Nat} (h : n < 2 ^ 31) (t : List Nat) :
    decodeOffset (Gen.Accel.midxLargeFlag + n) (some t) =
      match t[n]? with
      | some v => .ok v
      | none => .error .format := by
  have h' : n < 2147483648 := h
  unfold decodeOffset Gen.Accel.midxLargeFlag Gen.Accel.midxLargeMask
  rw [if_pos (by rw [Nat.add_div_left _ (by decide), Nat.div_eq_of_lt h']), Nat.add_mod_left, Nat.mod_eq_of_lt h']
  rfl

/-- `pre` = the large offsets spilled by earlier entries -/
theorem decode_encodeOffsets : ∀ (os pre : List Nat), pre.length + os.length < 2 ^ 31 →
    (encodeOffsets os pre.length).1.map (decodeOffset · (some (pre ++ (encodeOffsets os pre.length).2))) = os.map .ok
  | [], _, _ => rfl
  | x :: xs, pre, h => by
    rw [List.length_cons] at h
    unfold encodeOffsets
    by_cases hl : x ≥ 2 ^ 31
    · have ih := decode_encodeOffsets xs (pre ++ [x])
        (by rwa [List.length_append, List.length_singleton, Nat.add_assoc, Nat.add_comm 1])
      rw [List.length_append, List.append_assoc] at ih
      rw [if_pos hl, List.map_cons, List.map_cons, decodeOffset_large (Nat.lt_of_le_of_lt (Nat.le_add_right _ _) h),
        List.getElem?_append_right (Nat.le_refl _), Nat.sub_self]
      exact congrArg _ ih
    · rw [if_neg hl, List.map_cons, List.map_cons, decodeOffset_small (Nat.lt_of_not_le hl),
        decode_encodeOffsets xs pre (Nat.lt_of_le_of_lt (Nat.add_le_add_left (Nat.le_succ _) _) h)]

end Dulwich.Midx
