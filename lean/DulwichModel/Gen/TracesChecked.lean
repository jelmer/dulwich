/- GENERATED by the translator from /repo on every run — do not edit.
   what the proved-sound checker of Model/Crash.lean says about the recorded programs of Gen/Traces.lean (harness/props/c09.py) -/

import DulwichModel.Gen.Traces

/-! One obligation per recorded scenario: the proved-sound checker (`crashSafe_of_check`) accepts the
recorded program — or, where the REAL crash states violate the property (known findings), rejects it and
the recorded prefix refutes the ref clause of `Recoverable`. -/

namespace Dulwich.Gen.TracesChecked
open Dulwich.Crash Dulwich.Gen.Traces

/-- the recorded scenarios whose every real crash state satisfied the oracle -/
def safe : List (Spec × List Call) := [
  (add_object_loose_spec, add_object_loose_prog),
  (add_object_packed_spec, add_object_packed_prog),
  (add_object_fsync_spec, add_object_fsync_prog),
  (add_objects_pack_loose_spec, add_objects_pack_loose_prog),
  (add_objects_pack_packed_spec, add_objects_pack_packed_prog),
  (add_objects_pack_fsync_spec, add_objects_pack_fsync_prog),
  (add_objects_over_orphan_pack_spec, add_objects_over_orphan_pack_prog),
  (repack_over_orphan_pack_spec, repack_over_orphan_pack_prog),
  (stage_loose_spec, stage_loose_prog),
  (index_write_spec, index_write_prog),
  (commit_loose_spec, commit_loose_prog),
  (commit_packed_spec, commit_packed_prog),
  (commit_mixed_spec, commit_mixed_prog),
  (commit_initial_spec, commit_initial_prog),
  (commit_fsync_spec, commit_fsync_prog),
  (set_ref_new_nested_spec, set_ref_new_nested_prog),
  (set_ref_update_loose_spec, set_ref_update_loose_prog),
  (set_ref_update_packed_spec, set_ref_update_packed_prog),
  (set_ref_update_both_spec, set_ref_update_both_prog),
  (set_symref_head_spec, set_symref_head_prog),
  (tag_create_spec, tag_create_prog),
  (delete_ref_loose_spec, delete_ref_loose_prog),
  (delete_ref_packed_spec, delete_ref_packed_prog),
  (delete_ref_both_spec, delete_ref_both_prog),
  (delete_ref_both_same_value_spec, delete_ref_both_same_value_prog),
  (pack_refs_all_loose_spec, pack_refs_all_loose_prog),
  (pack_refs_tags_loose_spec, pack_refs_tags_loose_prog),
  (pack_refs_all_packed_spec, pack_refs_all_packed_prog),
  (pack_refs_all_mixed_spec, pack_refs_all_mixed_prog),
  (thin_pack_direct_loose_spec, thin_pack_direct_loose_prog),
  (receive_pack_handler_packed_spec, receive_pack_handler_packed_prog),
  (receive_pack_handler_mixed_spec, receive_pack_handler_mixed_prog),
  (receive_pack_handler_fsync_spec, receive_pack_handler_fsync_prog),
  (fetch_local_spec, fetch_local_prog),
  (shallow_initial_subprocess_spec, shallow_initial_subprocess_prog),
  (shallow_deepen_subprocess_spec, shallow_deepen_subprocess_prog),
  (shallow_unshallow_subprocess_spec, shallow_unshallow_subprocess_prog),
  (shallow_initial_tcp_spec, shallow_initial_tcp_prog),
  (shallow_deepen_tcp_spec, shallow_deepen_tcp_prog),
  (shallow_unshallow_tcp_spec, shallow_unshallow_tcp_prog),
  (shallow_initial_http_spec, shallow_initial_http_prog),
  (shallow_deepen_http_spec, shallow_deepen_http_prog),
  (shallow_unshallow_http_spec, shallow_unshallow_http_prog),
  (shallow_initial_local_spec, shallow_initial_local_prog),
  (shallow_deepen_local_spec, shallow_deepen_local_prog),
  (shallow_unshallow_local_spec, shallow_unshallow_local_prog),
  (pack_loose_objects_loose_spec, pack_loose_objects_loose_prog),
  (pack_loose_objects_mixed_spec, pack_loose_objects_mixed_prog),
  (repack_loose_spec, repack_loose_prog),
  (repack_mixed_spec, repack_mixed_prog),
  (repack_two_packs_spec, repack_two_packs_prog),
  (repack_fsync_spec, repack_fsync_prog),
  (gc_loose_spec, gc_loose_prog),
  (gc_mixed_spec, gc_mixed_prog),
  (prune_stale_temp_spec, prune_stale_temp_prog),
  (config_write_spec, config_write_prog)]

/-- the recorded scenarios with a real crash state that violates the property (known findings) -/
def flagged : List (Spec × List Call) := [
  ]

/-- retry after a crash (Props.C09.retry_after_crash_safe): the recorded re-runs are accepted from every crash prefix -/
def retried : List (Spec × List Call × List (List Call)) := [
  (add_object_loose_spec, add_object_loose_prog, add_object_loose_retries),
  (commit_loose_spec, commit_loose_prog, commit_loose_retries),
  (commit_mixed_spec, commit_mixed_prog, commit_mixed_retries),
  (commit_initial_spec, commit_initial_prog, commit_initial_retries),
  (tag_create_spec, tag_create_prog, tag_create_retries),
  (shallow_initial_subprocess_spec, shallow_initial_subprocess_prog, shallow_initial_subprocess_retries),
  (shallow_deepen_subprocess_spec, shallow_deepen_subprocess_prog, shallow_deepen_subprocess_retries),
  (shallow_initial_local_spec, shallow_initial_local_prog, shallow_initial_local_retries),
  (shallow_unshallow_local_spec, shallow_unshallow_local_prog, shallow_unshallow_local_retries)]

/-- Everything this file states about the recorded scenarios, as one statement: the checker accepts every `safe`
program and rejects every `flagged` one, it accepts every recorded re-run, and every start state satisfies `preK`.
One statement because the tables speak of the same scenarios — `retried` re-runs programs of `safe` (the re-run
from crash point 0 is the program itself), scenarios of one operation start from the same repository — and are
evaluated together. -/
theorem tables_checked :
    safe.all (fun e => checkProgram e.1 e.2) = true ∧
    flagged.all (fun e => !checkProgram e.1 e.2) = true ∧
    retried.all (fun e => checkProgram e.1 e.2.1 && retryOK e.1 e.2.1 e.2.2) = true ∧
    (safe ++ flagged).all (fun e => preK e.1) = true := by decide +kernel

theorem safe_checked : safe.all (fun e => checkProgram e.1 e.2) = true := tables_checked.1

theorem flagged_rejected : flagged.all (fun e => !checkProgram e.1 e.2) = true := tables_checked.2.1

theorem retried_checked : retried.all (fun e => checkProgram e.1 e.2.1 && retryOK e.1 e.2.1 e.2.2) = true := tables_checked.2.2.1

/-- non-vacuity: every recorded start state satisfies the (executable) precondition -/
theorem all_pre : (safe ++ flagged).all (fun e => preK e.1) = true := tables_checked.2.2.2

theorem safe_row (i : Nat) {spec : Spec} {p : List Call} (h : safe[i]? = some (spec, p)) :
    checkProgram spec p = true :=
  List.all_eq_true.mp safe_checked _ (List.mem_of_getElem? h)

theorem add_object_loose_checked : checkProgram add_object_loose_spec add_object_loose_prog = true := safe_row 0 rfl

theorem add_object_packed_checked : checkProgram add_object_packed_spec add_object_packed_prog = true := safe_row 1 rfl

theorem add_object_fsync_checked : checkProgram add_object_fsync_spec add_object_fsync_prog = true := safe_row 2 rfl

theorem add_objects_pack_loose_checked : checkProgram add_objects_pack_loose_spec add_objects_pack_loose_prog = true := safe_row 3 rfl

theorem add_objects_pack_packed_checked : checkProgram add_objects_pack_packed_spec add_objects_pack_packed_prog = true := safe_row 4 rfl

theorem add_objects_pack_fsync_checked : checkProgram add_objects_pack_fsync_spec add_objects_pack_fsync_prog = true := safe_row 5 rfl

theorem add_objects_over_orphan_pack_checked : checkProgram add_objects_over_orphan_pack_spec add_objects_over_orphan_pack_prog = true := safe_row 6 rfl

theorem repack_over_orphan_pack_checked : checkProgram repack_over_orphan_pack_spec repack_over_orphan_pack_prog = true := safe_row 7 rfl

theorem stage_loose_checked : checkProgram stage_loose_spec stage_loose_prog = true := safe_row 8 rfl

theorem index_write_checked : checkProgram index_write_spec index_write_prog = true := safe_row 9 rfl

theorem commit_loose_checked : checkProgram commit_loose_spec commit_loose_prog = true := safe_row 10 rfl

theorem commit_packed_checked : checkProgram commit_packed_spec commit_packed_prog = true := safe_row 11 rfl

theorem commit_mixed_checked : checkProgram commit_mixed_spec commit_mixed_prog = true := safe_row 12 rfl

theorem commit_initial_checked : checkProgram commit_initial_spec commit_initial_prog = true := safe_row 13 rfl

theorem commit_fsync_checked : checkProgram commit_fsync_spec commit_fsync_prog = true := safe_row 14 rfl

theorem set_ref_new_nested_checked : checkProgram set_ref_new_nested_spec set_ref_new_nested_prog = true := safe_row 15 rfl

theorem set_ref_update_loose_checked : checkProgram set_ref_update_loose_spec set_ref_update_loose_prog = true := safe_row 16 rfl

theorem set_ref_update_packed_checked : checkProgram set_ref_update_packed_spec set_ref_update_packed_prog = true := safe_row 17 rfl

theorem set_ref_update_both_checked : checkProgram set_ref_update_both_spec set_ref_update_both_prog = true := safe_row 18 rfl

theorem set_symref_head_checked : checkProgram set_symref_head_spec set_symref_head_prog = true := safe_row 19 rfl

theorem tag_create_checked : checkProgram tag_create_spec tag_create_prog = true := safe_row 20 rfl

theorem delete_ref_loose_checked : checkProgram delete_ref_loose_spec delete_ref_loose_prog = true := safe_row 21 rfl

theorem delete_ref_packed_checked : checkProgram delete_ref_packed_spec delete_ref_packed_prog = true := safe_row 22 rfl

theorem delete_ref_both_checked : checkProgram delete_ref_both_spec delete_ref_both_prog = true := safe_row 23 rfl

theorem delete_ref_both_same_value_checked : checkProgram delete_ref_both_same_value_spec delete_ref_both_same_value_prog = true := safe_row 24 rfl

theorem pack_refs_all_loose_checked : checkProgram pack_refs_all_loose_spec pack_refs_all_loose_prog = true := safe_row 25 rfl

theorem pack_refs_tags_loose_checked : checkProgram pack_refs_tags_loose_spec pack_refs_tags_loose_prog = true := safe_row 26 rfl

theorem pack_refs_all_packed_checked : checkProgram pack_refs_all_packed_spec pack_refs_all_packed_prog = true := safe_row 27 rfl

theorem pack_refs_all_mixed_checked : checkProgram pack_refs_all_mixed_spec pack_refs_all_mixed_prog = true := safe_row 28 rfl

theorem thin_pack_direct_loose_checked : checkProgram thin_pack_direct_loose_spec thin_pack_direct_loose_prog = true := safe_row 29 rfl

theorem receive_pack_handler_packed_checked : checkProgram receive_pack_handler_packed_spec receive_pack_handler_packed_prog = true := safe_row 30 rfl

theorem receive_pack_handler_mixed_checked : checkProgram receive_pack_handler_mixed_spec receive_pack_handler_mixed_prog = true := safe_row 31 rfl

theorem receive_pack_handler_fsync_checked : checkProgram receive_pack_handler_fsync_spec receive_pack_handler_fsync_prog = true := safe_row 32 rfl

theorem fetch_local_checked : checkProgram fetch_local_spec fetch_local_prog = true := safe_row 33 rfl

theorem shallow_initial_subprocess_checked : checkProgram shallow_initial_subprocess_spec shallow_initial_subprocess_prog = true := safe_row 34 rfl

theorem shallow_deepen_subprocess_checked : checkProgram shallow_deepen_subprocess_spec shallow_deepen_subprocess_prog = true := safe_row 35 rfl

theorem shallow_unshallow_subprocess_checked : checkProgram shallow_unshallow_subprocess_spec shallow_unshallow_subprocess_prog = true := safe_row 36 rfl

theorem shallow_initial_tcp_checked : checkProgram shallow_initial_tcp_spec shallow_initial_tcp_prog = true := safe_row 37 rfl

theorem shallow_deepen_tcp_checked : checkProgram shallow_deepen_tcp_spec shallow_deepen_tcp_prog = true := safe_row 38 rfl

theorem shallow_unshallow_tcp_checked : checkProgram shallow_unshallow_tcp_spec shallow_unshallow_tcp_prog = true := safe_row 39 rfl

theorem shallow_initial_http_checked : checkProgram shallow_initial_http_spec shallow_initial_http_prog = true := safe_row 40 rfl

theorem shallow_deepen_http_checked : checkProgram shallow_deepen_http_spec shallow_deepen_http_prog = true := safe_row 41 rfl

theorem shallow_unshallow_http_checked : checkProgram shallow_unshallow_http_spec shallow_unshallow_http_prog = true := safe_row 42 rfl

theorem shallow_initial_local_checked : checkProgram shallow_initial_local_spec shallow_initial_local_prog = true := safe_row 43 rfl

theorem shallow_deepen_local_checked : checkProgram shallow_deepen_local_spec shallow_deepen_local_prog = true := safe_row 44 rfl

theorem shallow_unshallow_local_checked : checkProgram shallow_unshallow_local_spec shallow_unshallow_local_prog = true := safe_row 45 rfl

theorem pack_loose_objects_loose_checked : checkProgram pack_loose_objects_loose_spec pack_loose_objects_loose_prog = true := safe_row 46 rfl

theorem pack_loose_objects_mixed_checked : checkProgram pack_loose_objects_mixed_spec pack_loose_objects_mixed_prog = true := safe_row 47 rfl

theorem repack_loose_checked : checkProgram repack_loose_spec repack_loose_prog = true := safe_row 48 rfl

theorem repack_mixed_checked : checkProgram repack_mixed_spec repack_mixed_prog = true := safe_row 49 rfl

theorem repack_two_packs_checked : checkProgram repack_two_packs_spec repack_two_packs_prog = true := safe_row 50 rfl

theorem repack_fsync_checked : checkProgram repack_fsync_spec repack_fsync_prog = true := safe_row 51 rfl

theorem gc_loose_checked : checkProgram gc_loose_spec gc_loose_prog = true := safe_row 52 rfl

theorem gc_mixed_checked : checkProgram gc_mixed_spec gc_mixed_prog = true := safe_row 53 rfl

theorem prune_stale_temp_checked : checkProgram prune_stale_temp_spec prune_stale_temp_prog = true := safe_row 54 rfl

theorem config_write_checked : checkProgram config_write_spec config_write_prog = true := safe_row 55 rfl

/-- AST of DiskObjectStore.add_object: is the GitFile write inside a handler that swallows FileLocked / FileExistsError / OSError? -/
def addObjectSwallowsLock : Bool := false
/-- recorded: add_object of an object whose `<sha>.lock` exists raised FileLocked and wrote nothing -/
def addObjectUnderLockRaises : Bool := true

theorem add_object_lock_propagates : addObjectSwallowsLock = false ∧ addObjectUnderLockRaises = true := by decide

end Dulwich.Gen.TracesChecked
