/-
  Lemmas for the checkout model (C17).  In order: `resolve` along a chain of real directories (`DirChain`; `*_lexical`: the
  path resolves to itself); the six mutating calls under one name (`Mut.Did`, `Op`, `Op.run_ok`); runs of calls (`Ran`) and
  what a run keeps (the log, the cache, the frame, directories, every `OpClosed` invariant); then each procedure walked
  twice.  `*_any`: from every state its calls are `Plain`.  Below real directories they act on lexical prefixes of the path
  (`Lex`): `*_leaf` when all of `lead` is real, `*_lex` from what `verify_leading_dirs` left (`Verified`), with the chain
  that stands afterwards; `processEntry_lex`, `runEntries_lex` carry the cache invariant (`CacheInv`) beside it.  Last, for
  `update_working_tree` and sparse checkout: the steps after a fresh `verify_leading_dirs`, the invariant of the whole update
  (`LinkFrame`, `NoDotGitLinkBelow`), one validated path at a time (`*_lexMut`), and the write loop over change kinds as a
  write phase (`uwtWriteChanges_eq`).
-/
import DulwichModel.Model.Checkout
import DulwichModel.Lemmas.PathSafe
import DulwichModel.Lemmas.CommonPrefix

open Dulwich Dulwich.PathSafe Dulwich.Gen.PathSafe

namespace Dulwich.Checkout

/-- a component that `resolve` neither skips nor pops on (`resolve_cons`) -/
def CleanName (c : Name) : Prop := c ≠ [] ∧ c ≠ [46] ∧ c ≠ [46, 46]
/-- all that the resolution lemmas need of a validated path (`validate_path` gives more: `SafeComps`) -/
def Clean (comps : List Name) : Prop := ∀ c ∈ comps, CleanName c

/-- what the confinement proofs use of the components of an accepted path (`validated_safe`) -/
def SafeComps (comps : List Name) : Prop :=
  comps ≠ [] ∧ Clean comps ∧ ∀ c ∈ comps, lower c ≠ [46, 103, 105, 116]

/-- the first `k` components of `comps` below `root` are real directories — not symlinks; `root` itself is not looked at.
"Every component of `lead` is a real directory" is `DirChain fs root lead lead.length`. -/
def DirChain (fs : FS) (root : PPath) (comps : List Name) (k : Nat) : Prop :=
  ∀ i, 1 ≤ i → i ≤ k → fs (root ++ comps.take i) = some .dir

/-! ### path resolution along a chain of real directories -/

theorem resolve_nil (fs : FS) (fuel : Nat) (cur : PPath) (fl : Bool) : resolve fs fuel cur [] fl = .ok cur := by
  cases fuel <;> rfl

theorem resolve_cons (fs : FS) (fuel : Nat) (cur : PPath) {c : Name} (rest : List Name) (fl : Bool) (hc : CleanName c) :
    resolve fs (fuel + 1) cur (c :: rest) fl =
      match fs (cur ++ [c]) with
      | none => if rest = [] then .ok (cur ++ [c]) else .error .enoent
      | some (.link t) =>
        if rest = [] ∧ fl = false then .ok (cur ++ [c])
        else resolve fs fuel (if t.head? = some 47 then [] else cur) (splitOn 47 t ++ rest) fl
      | some .dir => resolve fs fuel (cur ++ [c]) rest fl
      | some (.file _ _) => if rest = [] then .ok (cur ++ [c]) else .error .enotdir := by
  obtain ⟨h1, h2, h3⟩ := hc
  simp only [resolve, h1, h2, h3, or_self, if_false]
  rfl

theorem Clean.take {l : List Name} (h : Clean l) (n : Nat) : Clean (l.take n) :=
  fun c hc => h c (List.mem_of_mem_take hc)

theorem Clean.left {l r : List Name} (h : Clean (l ++ r)) : Clean l :=
  fun c hc => h c (List.mem_append_left _ hc)

theorem DirChain.tail {fs : FS} {root : PPath} {c : Name} {rest : List Name} {k : Nat}
    (h : DirChain fs root (c :: rest) (k + 1)) : DirChain fs (root ++ [c]) rest k := by
  intro i h1 h2
  simpa using h (i + 1) (by omega) (by omega)

theorem DirChain.append {fs : FS} {root : PPath} {lead : List Name} {k : Nat} (last : List Name)
    (h : DirChain fs root lead k) (hk : k ≤ lead.length) : DirChain fs root (lead ++ last) k := by
  intro i h1 h2
  rw [List.take_append_of_le_length (by omega)]
  exact h i h1 h2

theorem DirChain.mono {fs : FS} {root : PPath} {lead : List Name} {k j : Nat}
    (h : DirChain fs root lead k) (hj : j ≤ k) : DirChain fs root lead j :=
  fun i h1 h2 => h i h1 (Nat.le_trans h2 hj)

theorem DirChain.succ {fs : FS} {root : PPath} {l : List Name} {k : Nat} (h : DirChain fs root l k)
    (hk : fs (root ++ l.take (k + 1)) = some .dir) : DirChain fs root l (k + 1) :=
  fun i h1 h2 => if hi : i ≤ k then h i h1 hi else (by omega : k + 1 = i) ▸ hk

theorem DirChain.of_take {fs : FS} {root : PPath} {l : List Name} {n k : Nat} (h : DirChain fs root l k) (hk : k ≤ n) :
    DirChain fs root (l.take n) k := by
  intro i h1 h2
  rw [List.take_take, Nat.min_eq_left (by omega)]
  exact h i h1 h2

theorem resolve_chain (fs : FS) (fl : Bool) : ∀ (comps : List Name) (k fuel : Nat) (root : PPath),
    Clean comps → k ≤ fuel → DirChain fs root comps k →
    resolve fs fuel root comps fl = resolve fs (fuel - k) (root ++ comps.take k) (comps.drop k) fl := by
  intro comps
  induction comps with
  | nil =>
    intro k fuel root _ _ _
    simp [resolve_nil]
  | cons c rest ih =>
    intro k fuel root hcl hf hd
    cases k with
    | zero => simp
    | succ k =>
      cases fuel with
      | zero => omega
      | succ fuel =>
        have h1 : fs (root ++ [c]) = some .dir := by simpa using hd 1 (by omega) (by omega)
        rw [resolve_cons fs fuel root rest fl (hcl c List.mem_cons_self), h1,
          ih k fuel (root ++ [c]) (fun x hx => hcl x (List.mem_cons_of_mem _ hx)) (by omega) hd.tail]
        simp

theorem resolve_step {fs : FS} {root : PPath} {cs : List Name} {k : Nat} (fl : Bool) (hcl : Clean cs) (hk : k < cs.length)
    (hd : DirChain fs root cs k) :
    ∃ fuel, resolve fs (fuelFor cs.length) root cs fl =
      match fs (root ++ cs.take (k + 1)) with
      | none => if cs.drop (k + 1) = [] then .ok (root ++ cs.take (k + 1)) else .error .enoent
      | some (.link t) =>
        if cs.drop (k + 1) = [] ∧ fl = false then .ok (root ++ cs.take (k + 1))
        else resolve fs fuel (if t.head? = some 47 then [] else root ++ cs.take k) (splitOn 47 t ++ cs.drop (k + 1)) fl
      | some .dir => resolve fs fuel (root ++ cs.take (k + 1)) (cs.drop (k + 1)) fl
      | some (.file _ _) => if cs.drop (k + 1) = [] then .ok (root ++ cs.take (k + 1)) else .error .enotdir := by
  have e : fuelFor cs.length - k = cs.length - (k + 1) + 4096 + 1 := by simp only [fuelFor]; omega
  rw [resolve_chain fs fl cs k _ root hcl (by simp only [fuelFor]; omega) hd, List.drop_eq_getElem_cons hk, e,
    resolve_cons _ _ _ _ _ (hcl _ (List.getElem_mem hk)), List.append_assoc, ← List.take_succ_eq_append_getElem hk]
  exact ⟨_, rfl⟩

theorem resolve_blocked {fs : FS} {root : PPath} {cs : List Name} {k : Nat} (fl : Bool) (hcl : Clean cs)
    (hk : k + 1 < cs.length) (hd : DirChain fs root cs k) :
    (fs (root ++ cs.take (k + 1)) = none → resolve fs (fuelFor cs.length) root cs fl = .error .enoent) ∧
    ∀ ct m, fs (root ++ cs.take (k + 1)) = some (.file ct m) →
      resolve fs (fuelFor cs.length) root cs fl = .error .enotdir := by
  obtain ⟨_, h⟩ := resolve_step fl hcl (by omega) hd
  simp only [List.drop_eq_nil_iff, Nat.not_le.mpr hk, if_false] at h
  rw [h]
  exact ⟨fun hn => by rw [hn], fun ct m hf => by rw [hf]⟩

theorem resolve_lexical (fs : FS) (root : PPath) (lead : List Name) (last : Name) (fl : Bool)
    (hcl : Clean (lead ++ [last])) (hd : DirChain fs root lead lead.length)
    (hl : fl = true → ∀ t, fs (root ++ (lead ++ [last])) ≠ some (.link t)) :
    resolve fs (fuelFor (lead ++ [last]).length) root (lead ++ [last]) fl = .ok (root ++ (lead ++ [last])) := by
  obtain ⟨_, hr⟩ := resolve_step fl hcl (by simp) (hd.append [last] (Nat.le_refl _))
  rw [hr]
  simp only [List.take_left', List.length_append, List.length_singleton, List.take_of_length_le,
    Nat.le_refl, List.drop_of_length_le, true_and]
  cases h : fs (root ++ (lead ++ [last])) with
  | none => rfl
  | some n =>
    cases n with
    | link t => cases fl with
      | false => rfl
      | true => exact absurd h (hl rfl t)
    | dir => exact resolve_nil ..
    | file ct m => rfl

theorem resolve_below_file {fs : FS} {root : PPath} {lead : List Name} {last : Name} {j : Nat} (fl : Bool)
    (hcl : Clean (lead ++ [last])) (hd : DirChain fs root lead j) (hj : j + 1 = lead.length)
    {ct : Bytes} {m : Nat} (hf : fs (root ++ lead) = some (.file ct m)) :
    resolve fs (fuelFor (lead ++ [last]).length) root (lead ++ [last]) fl = .error .enotdir :=
  (resolve_blocked fl hcl (by simp; omega) (hd.append [last] (by omega))).2 ct m
    (by rw [List.take_append_of_le_length (by omega), hj, List.take_length]; exact hf)

/-! ### states, steps -/

theorem FS.set_same (fs : FS) (p : PPath) (n : Option Node) : (fs.set p n) p = n := if_pos rfl
theorem FS.set_other (fs : FS) {p q : PPath} (n : Option Node) (h : q ≠ p) : (fs.set p n) q = fs q := if_neg h

theorem apply_err (st : St) (r : Except Errno (FS × Mut)) {e : Errno} (h : (st.apply r).2 = some e) :
    (st.apply r).1 = st := by
  cases r with
  | error e' => rfl
  | ok v => cases h

/-- `P` holds of the state the step reached, aborted or not.  A definition and not `P r.1` written out, so that two
statements `(f st).Sat P` that differ by a β-redex in `f st` (as after `Step.andThen` with a `fun` continuation) are
compared as steps; written out, Lean compares them by evaluating `f st`.  `Ran.log` and the like apply to a `Sat` term as it
stands (`h.log` for `h : r.Sat (Ran Q a)`): that unfolds `Sat` once and evaluates nothing. -/
def Step.Sat (r : Step) (P : St → Prop) : Prop := P r.1

theorem Step.Sat.of_eq {P : St → Prop} {r : Step} {st' : St} {e : Option Errno} (h : r.Sat P) (hr : r = (st', e)) :
    P st' := by
  subst hr; exact h

theorem Step.Sat.andThen {P : St → Prop} {r : Step} {f : St → Step} (h : r.Sat P)
    (hf : ∀ st, r = (st, none) → P st → (f st).Sat P) : (r.andThen f).Sat P := by
  obtain ⟨st1, _ | e⟩ := r
  · exact hf st1 rfl h
  · exact h

/-! ### the system calls -/

section sys
variable {fs fs' : FS} {root : PPath} {cs : List Name} {m : Mut}

theorem lstat_of_ok {P : PPath} (hr : resolve fs (fuelFor cs.length) root cs false = .ok P) :
    lstat fs root cs = match fs P with | none => .error .enoent | some n => .ok n := by
  rw [lstat, hr]; rfl

theorem lstat_of_error {e : Errno} (hr : resolve fs (fuelFor cs.length) root cs false = .error e) :
    lstat fs root cs = .error e := by
  rw [lstat, hr]

theorem stat_of_ok {P : PPath} (hr : resolve fs (fuelFor cs.length) root cs true = .ok P) :
    stat fs root cs = match fs P with | none => .error .enoent | some n => .ok n := by
  rw [stat, hr]; rfl

theorem stat_of_error {e : Errno} (hr : resolve fs (fuelFor cs.length) root cs true = .error e) :
    stat fs root cs = .error e := by
  rw [stat, hr]

theorem sysMkdir_of_error {e : Errno} (hr : resolve fs (fuelFor cs.length) root cs false = .error e) :
    sysMkdir fs root cs = .error e := by
  rw [sysMkdir, hr]

/-- what a successful call logged as `m` did to the file system, cut down to what the proofs read: the node is set at
`m.target`; nothing that was a directory is lost except by `rmdir` (`Ran.keepsDirs`); a symlink appears only by `symlink`
(`Mut.Did.set`, for `LinkFrame`).  Content, modes, and what `rmdir` found are left out on purpose. -/
def Mut.Did (fs fs' : FS) : Mut → Prop
  | .mkdir p => fs p = none ∧ fs' = fs.set p (some .dir)
  | .unlink p => fs p ≠ some .dir ∧ fs' = fs.set p none
  | .symlink p t => fs p = none ∧ fs' = fs.set p (some (.link t))
  | .write p => fs p ≠ some .dir ∧ ∃ ct md, fs' = fs.set p (some (.file ct md))
  | .chmod p _ => ∃ n, fs' = fs.set p (some n) ∧
      (fs p = some n ∨ ∃ c md md', fs p = some (.file c md) ∧ n = .file c md')
  | .rmdir p => fs' = fs.set p none

/-- the six mutating calls under one name (for the proofs only): how the call resolves its path, what it logs -/
inductive Op
  | mkdir | unlink | symlink (t : Bytes) | write (ct : Bytes) | chmod (mode : Nat) | rmdir (isEmpty : FS → PPath → Bool)

def Op.follows : Op → Bool
  | .write _ | .chmod _ => true
  | _ => false

def Op.mut : Op → PPath → Mut
  | .mkdir, p => .mkdir p | .unlink, p => .unlink p | .symlink t, p => .symlink p t | .write _, p => .write p
  | .chmod md, p => .chmod p (md % 4096) | .rmdir _, p => .rmdir p

def Op.run (op : Op) (fs : FS) (root : PPath) (cs : List Name) : Except Errno (FS × Mut) :=
  match op with
  | .mkdir => sysMkdir fs root cs
  | .unlink => sysUnlink fs root cs
  | .symlink t => sysSymlink fs t root cs
  | .write ct => sysOpenWrite fs ct root cs
  | .chmod md => sysChmod fs md root cs
  | .rmdir ie => sysRmdir ie fs root cs

theorem Op.target_mut (op : Op) (p : PPath) : (op.mut p).target = p := by cases op <;> rfl

/-- stated apart because it keeps what `Mut.write` does not log: the content written -/
theorem sysOpenWrite_ok {ct : Bytes} (h : sysOpenWrite fs ct root cs = .ok (fs', m)) :
    ∃ p md, resolve fs (fuelFor cs.length) root cs true = .ok p ∧ fs p ≠ some .dir ∧
      fs' = fs.set p (some (.file ct md)) ∧ m = .write p := by
  rw [sysOpenWrite] at h
  split at h
  · cases h
  · rename_i p hr
    split at h
    · cases h
    · cases h
    · rename_i hp; cases h; exact ⟨p, _, hr, by rw [hp]; nofun, rfl, rfl⟩
    · rename_i hp; cases h; exact ⟨p, _, hr, by rw [hp]; nofun, rfl, rfl⟩

/-- The calls are opened here (and in `sysOpenWrite_ok`, `sysMkdir_of_error`), by cases on what the path resolved to, and
nowhere else. -/
theorem Op.run_ok {op : Op} (h : op.run fs root cs = .ok (fs', m)) :
    ∃ p, resolve fs (fuelFor cs.length) root cs op.follows = .ok p ∧ m = op.mut p ∧ (op.mut p).Did fs fs' := by
  cases op with
  | mkdir =>
    replace h : sysMkdir fs root cs = _ := h
    rw [sysMkdir] at h
    split at h
    · cases h
    · rename_i p hr
      split at h
      · cases h
      · rename_i hp; cases h; exact ⟨p, hr, rfl, hp, rfl⟩
  | unlink =>
    replace h : sysUnlink fs root cs = _ := h
    rw [sysUnlink] at h
    split at h
    · cases h
    · rename_i p hr
      split at h
      · cases h
      · cases h
      · rename_i hnd _; cases h
        exact ⟨p, hr, rfl, fun hd => hnd (Option.some.inj (‹fs p = _›.symm.trans hd)), rfl⟩
  | symlink t =>
    replace h : sysSymlink fs t root cs = _ := h
    rw [sysSymlink] at h
    split at h
    · cases h
    · rename_i p hr
      split at h
      · cases h
      · rename_i hp; cases h; exact ⟨p, hr, rfl, hp, rfl⟩
  | write ct => obtain ⟨p, md, hp, hn, rfl, rfl⟩ := sysOpenWrite_ok h; exact ⟨p, hp, rfl, hn, _, _, rfl⟩
  | chmod mode =>
    replace h : sysChmod fs mode root cs = _ := h
    rw [sysChmod] at h
    split at h
    · cases h
    · rename_i p hr
      split at h
      · cases h
      · rename_i hp; cases h; exact ⟨p, hr, rfl, _, rfl, .inr ⟨_, _, _, hp, rfl⟩⟩
      · rename_i hp; cases h; exact ⟨p, hr, rfl, _, rfl, .inl hp⟩
  | rmdir isEmpty =>
    replace h : sysRmdir isEmpty fs root cs = _ := h
    rw [sysRmdir] at h
    split at h
    · cases h
    · rename_i p hr
      split at h
      · cases h
      · split at h
        · cases h; exact ⟨p, hr, rfl, rfl⟩
        · cases h
      · cases h

theorem sysMkdir_ok (h : sysMkdir fs root cs = .ok (fs', m)) :
    ∃ p, resolve fs (fuelFor cs.length) root cs false = .ok p ∧ fs p = none ∧ fs' = fs.set p (some .dir) ∧
      m = .mkdir p := by
  obtain ⟨p, hp, rfl, hn, rfl⟩ := Op.run_ok (op := .mkdir) h; exact ⟨p, hp, hn, rfl, rfl⟩

theorem sysUnlink_ok (h : sysUnlink fs root cs = .ok (fs', m)) :
    ∃ p, resolve fs (fuelFor cs.length) root cs false = .ok p ∧ fs p ≠ some .dir ∧ fs' = fs.set p none ∧
      m = .unlink p := by
  obtain ⟨p, hp, rfl, hn, rfl⟩ := Op.run_ok (op := .unlink) h; exact ⟨p, hp, hn, rfl, rfl⟩

theorem sysRmdir_ok {isEmpty : FS → PPath → Bool} (h : sysRmdir isEmpty fs root cs = .ok (fs', m)) :
    ∃ p, resolve fs (fuelFor cs.length) root cs false = .ok p ∧ fs' = fs.set p none ∧ m = .rmdir p := by
  obtain ⟨p, hp, rfl, rfl⟩ := Op.run_ok (op := .rmdir isEmpty) h; exact ⟨p, hp, rfl, rfl⟩

theorem sysSymlink_ok {t : Bytes} (h : sysSymlink fs t root cs = .ok (fs', m)) :
    ∃ p, resolve fs (fuelFor cs.length) root cs false = .ok p ∧ fs p = none ∧ fs' = fs.set p (some (.link t)) ∧
      m = .symlink p t := by
  obtain ⟨p, hp, rfl, hn, rfl⟩ := Op.run_ok (op := .symlink t) h; exact ⟨p, hp, hn, rfl, rfl⟩

theorem sysChmod_ok {mode : Nat} (h : sysChmod fs mode root cs = .ok (fs', m)) :
    ∃ p n, resolve fs (fuelFor cs.length) root cs true = .ok p ∧ fs' = fs.set p (some n) ∧ m = .chmod p (mode % 4096) ∧
      (fs p = some n ∨ ∃ c md md', fs p = some (.file c md) ∧ n = .file c md') := by
  obtain ⟨p, hp, rfl, n, rfl, hn⟩ := Op.run_ok (op := .chmod mode) h; exact ⟨p, n, hp, rfl, rfl, hn⟩

theorem Mut.Did.set {fs fs' : FS} {m : Mut} (h : m.Did fs fs') :
    ∃ n, fs' = fs.set m.target n ∧ ∀ t, n = some (.link t) → m = .symlink m.target t ∨ fs m.target = some (.link t) := by
  cases m with
  | mkdir p => exact ⟨_, h.2, nofun⟩
  | unlink p => exact ⟨_, h.2, nofun⟩
  | symlink p t => exact ⟨_, h.2, fun t' ht => by cases ht; exact .inl rfl⟩
  | write p => obtain ⟨-, ct, md, h⟩ := h; exact ⟨_, h, nofun⟩
  | chmod p md =>
    obtain ⟨n, h, hp | ⟨c, md, md', -, rfl⟩⟩ := h
    · exact ⟨_, h, fun t ht => .inr (hp.trans ht)⟩
    · exact ⟨_, h, nofun⟩
  | rmdir p => exact ⟨_, h, nofun⟩

end sys

/-- a state invariant that every run keeps (`Ran.closed`); `set` may assume of the call what `Mut.Did.set` gives and no more.
`LinkFrame` is the instance. -/
structure OpClosed (P : St → Prop) : Prop where
  set : ∀ (st : St) (p : PPath) (n : Option Node) (m : Mut),
    (∀ t, n = some (.link t) → m = .symlink p t ∨ st.fs p = some (.link t)) →
    P st → P { st with fs := st.fs.set p n, log := st.log ++ [m] }
  safe : ∀ (st : St) (s : List Name), P st → P { st with safe := s }

/-! ### runs of calls -/

/-- `st'` is reached from `st` by successful calls that satisfy `Q`, each a `Mut.Did` on the file system and one more entry
of the log, and — only if `cache` is set — by replacing the cache, which is all `processEntry` does besides its calls.
`Ran Q st` written without the flag leaves the cache alone (`Ran.safe`). -/
inductive Ran (Q : Mut → Prop) (st : St) (cache : Bool := false) : St → Prop
  | refl : Ran Q st cache st
  | call {st1 : St} {fs' : FS} {m : Mut} : Ran Q st cache st1 → m.Did st1.fs fs' → Q m →
      Ran Q st cache { st1 with fs := fs', log := st1.log ++ [m] }
  | replace {st1 : St} (s : List Name) : cache = true → Ran Q st cache st1 → Ran Q st cache { st1 with safe := s }

section ran
variable {Q : Mut → Prop} {c : Bool}

theorem Ran.inv {P : St → Prop} {a b : St} (h : Ran Q a c b)
    (hP : ∀ (s : St) fs' m, m.Did s.fs fs' → Q m → P s → P { s with fs := fs', log := s.log ++ [m] })
    (hS : c = true → ∀ (s : St) l, P s → P { s with safe := l }) (ha : P a) : P b := by
  induction h with
  | refl => exact ha
  | call _ hd hq ih => exact hP _ _ _ hd hq ih
  | replace l hc _ ih => exact hS hc _ l ih

theorem Ran.trans {a b d : St} (h1 : Ran Q a c b) (h2 : Ran Q b c d) : Ran Q a c d :=
  h2.inv (fun _ _ _ hd hq ih => ih.call hd hq) (fun hc _ l ih => ih.replace l hc) h1

theorem Ran.mono {Q' : Mut → Prop} {a : St} {r : Step} (hQ : ∀ m, Q m → Q' m) (h : r.Sat (Ran Q a c)) :
    r.Sat (Ran Q' a c) :=
  Ran.inv (P := Ran Q' a c) h (fun _ _ _ hd hq ih => ih.call hd (hQ _ hq)) (fun hc _ l ih => ih.replace l hc) .refl

theorem Ran.of_replace {a : St} {s : List Name} {r : Step} (h : r.Sat (Ran Q { a with safe := s })) : r.Sat (Ran Q a true) :=
  Ran.inv (P := Ran Q a true) h (fun _ _ _ hd hq ih => ih.call hd hq) nofun (Ran.refl.replace s rfl)

theorem Ran.log {a b : St} (h : Ran Q a c b) : ∀ m ∈ b.log, m ∈ a.log ∨ Q m :=
  h.inv (P := fun s => ∀ m ∈ s.log, m ∈ a.log ∨ Q m)
    (fun _ _ _ _ hq ih x hx => (List.mem_append.mp hx).elim (ih x) fun hx => .inr (List.mem_singleton.mp hx ▸ hq))
    (fun _ _ _ ih => ih) fun _ => .inl

theorem Ran.safe {a b : St} (h : Ran Q a false b) : b.safe = a.safe :=
  h.inv (P := fun s => s.safe = a.safe) (fun _ _ _ _ _ ih => ih) nofun rfl

theorem Ran.closed {P : St → Prop} (hc : OpClosed P) {a b : St} (h : Ran Q a c b) (ha : P a) : P b :=
  h.inv (fun s _ m hd _ ih => by obtain ⟨n, rfl, hl⟩ := hd.set; exact hc.set s m.target n m hl ih)
    (fun _ s l ih => hc.safe s l ih) ha

theorem Ran.frame {a b : St} (h : Ran Q a c b) {q : PPath} (hq : ∀ m, Q m → m.target ≠ q) : b.fs q = a.fs q :=
  h.inv (P := fun s => s.fs q = a.fs q)
    (fun s _ m hd hm ih => by obtain ⟨n, rfl, -⟩ := hd.set; exact (FS.set_other _ _ (Ne.symm (hq m hm))).trans ih)
    (fun _ _ _ ih => ih) rfl

theorem Ran.andThen {a : St} {r : Step} {f : St → Step} (h1 : r.Sat (Ran Q a c))
    (h2 : ∀ st1, r = (st1, none) → (f st1).Sat (Ran Q st1 c)) : (r.andThen f).Sat (Ran Q a c) :=
  Step.Sat.andThen h1 fun st1 e h => Ran.trans h (h2 st1 e)

theorem Ran.andThen_ok {I : St → Prop} {a : St} {r : Step} {f : St → Step} (h1 : r.Sat (Ran Q a c))
    (h2 : ∀ st1, r = (st1, none) → (f st1).Sat (Ran Q st1 c) ∧ ∀ st', f st1 = (st', none) → I st') :
    (r.andThen f).Sat (Ran Q a c) ∧ ∀ st', r.andThen f = (st', none) → I st' := by
  obtain ⟨st1, _ | e⟩ := r
  · exact (h2 st1 rfl).imp_left (Ran.trans h1)
  · exact ⟨h1, nofun⟩

theorem Ran.apply {st : St} {r : Except Errno (FS × Mut)} (h : ∀ fs' m, r = .ok (fs', m) → m.Did st.fs fs' ∧ Q m) :
    (st.apply r).Sat (Ran Q st) := by
  cases r with
  | error e => exact Ran.refl
  | ok v => obtain ⟨hd, hq⟩ := h v.1 v.2 rfl; exact Ran.refl.call hd hq

end ran

/-! ### from EVERY state: what the calls of each procedure are, whatever they resolve to -/

/-- what every call of `makedirs`, `build_file_from_blob`, the gitlink `mkdir` and the placeholder write satisfies, whatever
its path resolves to; it is what keeps directories (`Ran.keepsDirs`) and gives `chmod_canonical` -/
def Plain : Mut → Prop
  | .chmod _ md => ∃ mode, md = cleanupMode mode % 4096
  | .rmdir _ => False
  | _ => True

theorem Ran.keepsDirs {c : Bool} {a b : St} (h : Ran Plain a c b) : ∀ q, a.fs q = some .dir → b.fs q = some .dir :=
  h.inv (P := fun s => ∀ q, a.fs q = some .dir → s.fs q = some .dir) (fun s _ m hd hm ih q hq => by
    have hs := ih q hq
    by_cases hqp : q = m.target
    · subst hqp
      cases m with
      | mkdir p => exact hd.2 ▸ FS.set_same ..
      | unlink p => exact absurd hs hd.1
      | symlink p t => exact nomatch hd.1.symm.trans hs
      | write p => exact absurd hs hd.1
      | chmod p md =>
        obtain ⟨n, rfl, hn | ⟨c, m0, m1, hn, -⟩⟩ := hd
        · exact (FS.set_same ..).trans (hn.symm.trans hs)
        · exact nomatch hn.symm.trans hs
      | rmdir p => exact hm.elim
    · obtain ⟨n, rfl, -⟩ := hd.set
      exact (FS.set_other _ _ hqp).trans hs) (fun _ _ _ ih => ih) fun _ h => h

theorem call_any (op : Op) (hg : ∀ p, Plain (op.mut p)) (st : St) (root : PPath) (cs : List Name) :
    (st.apply (op.run st.fs root cs)).Sat (Ran Plain st) :=
  Ran.apply fun _ _ h => by obtain ⟨p, -, rfl, hd⟩ := Op.run_ok h; exact ⟨hd, hg p⟩

theorem mkdirsUp_any (root : PPath) (lead : List Name) : ∀ (cnt i : Nat) (st : St),
    (mkdirsUp root lead i cnt st).Sat (Ran Plain st)
  | 0, _, _ => Ran.refl
  | cnt + 1, i, st => by
    rw [mkdirsUp]
    exact Ran.andThen (call_any .mkdir (fun _ => trivial) ..) fun s _ => mkdirsUp_any root lead cnt (i + 1) s

theorem ensureParent_any (root : PPath) (lead : List Name) (st : St) : (ensureParent root lead st).Sat (Ran Plain st) := by
  rw [ensureParent]
  split
  · exact Ran.refl
  · exact mkdirsUp_any ..

theorem writeAndChmod_any (root : PPath) (comps : List Name) (mode : Nat) (content : Bytes) (st : St) :
    (writeAndChmod root comps mode content st).Sat (Ran Plain st) :=
  Ran.andThen (call_any (.write content) (fun _ => trivial) ..) fun _ _ =>
    call_any (.chmod (cleanupMode mode)) (fun _ => ⟨mode, rfl⟩) ..

theorem buildFileFromBlob_any (root : PPath) (comps : List Name) (mode : Nat) (content : Bytes) (st : St) :
    (buildFileFromBlob root comps mode content st).Sat (Ran Plain st) := by
  have hu := fun (f : St → Step) (hf : ∀ s, (f s).Sat (Ran Plain s)) =>
    Ran.andThen (call_any .unlink (fun _ => trivial) st root comps) fun s _ => hf s
  rw [buildFileFromBlob]
  split
  · split
    · exact call_any (.symlink content) (fun _ => trivial) ..
    · exact writeAndChmod_any ..
  · exact Ran.refl
  · split
    · exact hu _ fun _ => call_any (.symlink content) (fun _ => trivial) ..
    · split
      · exact hu _ (writeAndChmod_any _ _ _ _)
      · exact Ran.refl
      · split
        · exact Ran.refl
        · exact writeAndChmod_any ..

theorem placeholder_any (root : PPath) (comps : List Name) (content : Bytes) (st : St) :
    (placeholder root comps content st).Sat (Ran Plain st) := by
  rw [placeholder]
  refine Ran.andThen (ensureParent_any ..) fun s _ => ?_
  split
  · exact Ran.refl
  · exact call_any (.write content) (fun _ => trivial) ..

/-- `entryLeaf`: the last step of `processEntry`, which the model writes inline — `buildGitlink` or `buildFileFromBlob` -/
theorem entryLeaf_any (root : PPath) (comps : List Name) (e : Entry) (st : St) :
    (if isGitlinkMode e.mode = true then buildGitlink root comps st
      else buildFileFromBlob root comps e.mode e.content st).Sat (Ran Plain st) := by
  split
  · rw [buildGitlink]
    split
    · exact Ran.refl
    · exact call_any .mkdir (fun _ => trivial) ..
  · exact buildFileFromBlob_any ..

theorem processEntry_any (v : Bytes → Bool) (root : PPath) (e : Entry) (st : St) :
    (processEntry v root e st).Sat (Ran Plain st true) := by
  rw [processEntry]
  split
  · exact Ran.refl
  · dsimp only
    split
    · exact Ran.refl
    · rename_i safe' _
      exact Ran.of_replace (Ran.andThen (ensureParent_any root _ { st with safe := safe' }) fun s _ => entryLeaf_any root _ e s)

theorem runEntries_any (v : Bytes → Bool) (root : PPath) : ∀ (es : List Entry) (st : St),
    (runEntries v root es st).Sat (Ran Plain st true)
  | [], _ => Ran.refl
  | e :: es, st => by
    rw [runEntries]
    exact Ran.andThen (processEntry_any v root e st) fun s _ => runEntries_any v root es s

section closed
variable {P : St → Prop} (hc : OpClosed P)
include hc

theorem OpClosed.buildFileFromBlob (root : PPath) (comps : List Name) (mode : Nat) (content : Bytes) (st : St) (h : P st) :
    P (buildFileFromBlob root comps mode content st).1 :=
  (buildFileFromBlob_any root comps mode content st).closed hc h

theorem OpClosed.placeholder (root : PPath) (comps : List Name) (content : Bytes) (st : St) (h : P st) :
    P (placeholder root comps content st).1 :=
  (placeholder_any root comps content st).closed hc h

end closed

/-! ### the leaf: calls on `root/lead/last` when every component of `lead` is a real directory -/

/-- the call acted on `root/comps[:i]` for some `i ≥ 1`: where the path leads when read as a string, symlinks or not -/
def Lex (root : PPath) (comps : List Name) (m : Mut) : Prop :=
  ∃ i, 1 ≤ i ∧ i ≤ comps.length ∧ m.target = root ++ comps.take i

theorem Lex.widen {root : PPath} {lead : List Name} {m : Mut} (more : List Name) (h : Lex root lead m) :
    Lex root (lead ++ more) m := by
  obtain ⟨i, h1, h2, h3⟩ := h
  exact ⟨i, h1, by simp; omega, by rw [List.take_append_of_le_length h2]; exact h3⟩

section leaf
variable {root : PPath} {lead : List Name} {last : Name} {Q : Mut → Prop}

theorem Lex.leaf (op : Op) : Lex root (lead ++ [last]) (op.mut (root ++ (lead ++ [last]))) :=
  ⟨(lead ++ [last]).length, by simp, Nat.le_refl _, by rw [List.take_length, op.target_mut]⟩

theorem take_ne_concat (i : Nat) : root ++ lead.take i ≠ root ++ (lead ++ [last]) := by
  intro he
  have := congrArg List.length he
  simp at this; omega

theorem DirChain.set_leaf {fs : FS} (hd : DirChain fs root lead lead.length) (n : Option Node) :
    DirChain (fs.set (root ++ (lead ++ [last])) n) root lead lead.length := by
  intro i h1 h2
  rw [FS.set_other _ _ (take_ne_concat i)]
  exact hd i h1 h2

theorem lstat_lexical (fs : FS) (hcl : Clean (lead ++ [last])) (hd : DirChain fs root lead lead.length) :
    lstat fs root (lead ++ [last]) = match fs (root ++ (lead ++ [last])) with
      | none => .error .enoent | some n => .ok n :=
  lstat_of_ok (resolve_lexical fs root lead last false hcl hd nofun)

theorem Op.at_leaf (op : Op) {fs fs' : FS} {m : Mut} (hcl : Clean (lead ++ [last]))
    (hd : DirChain fs root lead lead.length)
    (hl : op.follows = true → ∀ t, fs (root ++ (lead ++ [last])) ≠ some (.link t))
    (h : op.run fs root (lead ++ [last]) = .ok (fs', m)) :
    m = op.mut (root ++ (lead ++ [last])) ∧ (op.mut (root ++ (lead ++ [last]))).Did fs fs' := by
  obtain ⟨p, hp, rfl, hdid⟩ := Op.run_ok h
  cases (resolve_lexical fs root lead last op.follows hcl hd hl).symm.trans hp
  exact ⟨rfl, hdid⟩

theorem call_leaf_then (op : Op) (st : St) (hcl : Clean (lead ++ [last])) (hd : DirChain st.fs root lead lead.length)
    (hl : op.follows = true → ∀ t, st.fs (root ++ (lead ++ [last])) ≠ some (.link t))
    (hQ : ∀ m, Lex root (lead ++ [last]) m → Q m) {f : St → Step}
    (hf : ∀ st1 : St, (op.mut (root ++ (lead ++ [last]))).Did st.fs st1.fs → (f st1).Sat (Ran Q st1)) :
    ((st.apply (op.run st.fs root (lead ++ [last]))).andThen f).Sat (Ran Q st) := by
  cases h : op.run st.fs root (lead ++ [last]) with
  | error e => exact Ran.refl
  | ok v =>
    obtain ⟨fs', m⟩ := v
    obtain ⟨rfl, hdid⟩ := op.at_leaf hcl hd hl h
    exact Ran.trans (Ran.refl.call hdid (hQ _ (Lex.leaf op))) (hf _ hdid)

theorem call_leaf (op : Op) (st : St) (hcl : Clean (lead ++ [last])) (hd : DirChain st.fs root lead lead.length)
    (hl : op.follows = true → ∀ t, st.fs (root ++ (lead ++ [last])) ≠ some (.link t)) :
    (st.apply (op.run st.fs root (lead ++ [last]))).Sat (Ran (Lex root (lead ++ [last])) st) := by
  refine Ran.apply fun fs' m h => ?_
  obtain ⟨rfl, hdid⟩ := op.at_leaf hcl hd hl h
  exact ⟨hdid, Lex.leaf op⟩

theorem writeAndChmod_leaf (st : St) (mode : Nat) (content : Bytes) (hcl : Clean (lead ++ [last]))
    (hd : DirChain st.fs root lead lead.length) (hl : ∀ t, st.fs (root ++ (lead ++ [last])) ≠ some (.link t)) :
    (writeAndChmod root (lead ++ [last]) mode content st).Sat (Ran (Lex root (lead ++ [last])) st) := by
  rw [writeAndChmod]
  refine call_leaf_then (.write content) st hcl hd (fun _ => hl) (fun _ h => h) fun st1 ⟨_, ct, md, e⟩ => ?_
  exact call_leaf (.chmod _) st1 hcl (e ▸ hd.set_leaf _) fun _ t => by rw [e, FS.set_same]; nofun

theorem buildFileFromBlob_leaf (st : St) (mode : Nat) (content : Bytes) (hcl : Clean (lead ++ [last]))
    (hd : DirChain st.fs root lead lead.length) :
    (buildFileFromBlob root (lead ++ [last]) mode content st).Sat (Ran (Lex root (lead ++ [last])) st) := by
  rw [buildFileFromBlob, lstat_lexical st.fs hcl hd]
  cases hP : st.fs (root ++ (lead ++ [last])) with
  | none =>
    dsimp only
    split
    · exact call_leaf (.symlink content) st hcl hd nofun
    · exact writeAndChmod_leaf st mode content hcl hd (by intro t; rw [hP]; nofun)
  | some old =>
    dsimp only
    split
    · exact call_leaf_then .unlink st hcl hd nofun (fun _ h => h) fun st1 ⟨_, e⟩ =>
        call_leaf (.symlink content) st1 hcl (e ▸ hd.set_leaf none) nofun
    · cases old with
      | link t =>
        exact call_leaf_then .unlink st hcl hd nofun (fun _ h => h) fun st1 ⟨_, e⟩ =>
          writeAndChmod_leaf st1 mode content hcl (e ▸ hd.set_leaf none) (by rw [e, FS.set_same]; nofun)
      | dir => exact Ran.refl
      | file c md =>
        dsimp only
        split
        · exact Ran.refl
        · exact writeAndChmod_leaf st mode content hcl hd (by intro t; rw [hP]; nofun)

theorem buildGitlink_leaf (st : St) (hcl : Clean (lead ++ [last]))
    (hd : DirChain st.fs root lead lead.length) :
    (buildGitlink root (lead ++ [last]) st).Sat (Ran (Lex root (lead ++ [last])) st) := by
  rw [buildGitlink]
  split
  · exact Ran.refl
  · exact call_leaf .mkdir st hcl hd nofun

theorem entryLeaf_leaf (e : Entry) (st : St) (hcl : Clean (lead ++ [last])) (hd : DirChain st.fs root lead lead.length) :
    (if isGitlinkMode e.mode = true then buildGitlink root (lead ++ [last]) st
      else buildFileFromBlob root (lead ++ [last]) e.mode e.content st).Sat (Ran (Lex root (lead ++ [last])) st) := by
  split
  · exact buildGitlink_leaf st hcl hd
  · exact buildFileFromBlob_leaf st e.mode e.content hcl hd

theorem leaf_parent_file (st : St) {j : Nat} (hcl : Clean (lead ++ [last]))
    (hd : DirChain st.fs root lead j) (hj : j + 1 = lead.length) {ct : Bytes} {m : Nat}
    (hf : st.fs (root ++ lead) = some (.file ct m)) (mode : Nat) (content : Bytes) :
    buildFileFromBlob root (lead ++ [last]) mode content st = (st, some .enotdir) ∧
    buildGitlink root (lead ++ [last]) st = (st, some .enotdir) := by
  have h1 := resolve_below_file false hcl hd hj hf
  have h2 := resolve_below_file true hcl hd hj hf
  constructor
  · rw [buildFileFromBlob, lstat_of_error h1]
  · rw [buildGitlink, isdir, stat_of_error h2, sysMkdir_of_error h1]
    rfl

end leaf

/-! ### the parent phase: `if not exists(dirname): makedirs(dirname)` -/

section parent
variable {root : PPath}

theorem chain_after_mkdir {fs : FS} {lead : List Name} {i : Nat} (hd : DirChain fs root lead i) :
    DirChain (fs.set (root ++ lead.take (i + 1)) (some .dir)) root lead (i + 1) := by
  intro j h1 h2
  by_cases he : root ++ lead.take j = root ++ lead.take (i + 1)
  · rw [he]; exact FS.set_same ..
  · rw [FS.set_other _ _ he]
    exact hd j h1 (Nat.le_of_lt_succ (Nat.lt_of_le_of_ne h2 fun h => he (h ▸ rfl)))

theorem mkdirsUp_lex (lead : List Name) (hcl : Clean lead) : ∀ (cnt i : Nat) (st : St), i + cnt ≤ lead.length →
    DirChain st.fs root lead i →
    (mkdirsUp root lead i cnt st).Sat (Ran (Lex root lead) st) ∧
    ∀ st', mkdirsUp root lead i cnt st = (st', none) → DirChain st'.fs root lead (i + cnt) := by
  intro cnt
  induction cnt with
  | zero => exact fun i st _ hd => ⟨Ran.refl, fun st' h => by cases h; exact hd⟩
  | succ cnt ih =>
    intro i st hlen hd
    have hi : i < lead.length := by omega
    have htk : lead.take (i + 1) = lead.take i ++ [lead[i]] := List.take_succ_eq_append_getElem hi
    rw [mkdirsUp]
    cases hm : sysMkdir st.fs root (lead.take (i + 1)) with
    | error e => exact ⟨Ran.refl, nofun⟩
    | ok v =>
      obtain ⟨fs', m⟩ := v
      obtain ⟨rfl, hn, rfl⟩ := Op.at_leaf .mkdir (htk ▸ hcl.take _)
        (by rw [List.length_take_of_le (by omega)]; exact hd.of_take (Nat.le_refl _)) nofun (htk ▸ hm)
      obtain ⟨ih1, ih3⟩ := ih (i + 1) { st with fs := _, log := st.log ++ [.mkdir _] } (by omega)
        (htk ▸ chain_after_mkdir hd)
      exact ⟨Ran.trans (Ran.refl.call (m := .mkdir _) ⟨hn, rfl⟩ ⟨i + 1, by omega, hi, by rw [htk]; rfl⟩) ih1,
        fun st' h => Nat.add_right_comm i 1 cnt ▸ ih3 st' h⟩

/-- What `verify_leading_dirs` establishes about the leading components: the first `j` are real directories, and that is
all of them, or the next one is absent (the loop's `break`), or — the loop lets any non-symlink pass — the LAST one is a
regular file; a file further up makes the next `lstat` fail (`resolve_below_file`).  In the third case `ensureParent` does
nothing and the leaf fails with ENOTDIR (`leaf_parent_file`). -/
def Verified (fs : FS) (root : PPath) (lead : List Name) (j : Nat) : Prop :=
  j ≤ lead.length ∧ DirChain fs root lead j ∧
  (j = lead.length ∨ (j < lead.length ∧ fs (root ++ lead.take (j + 1)) = none) ∨
   (j + 1 = lead.length ∧ ∃ c m, fs (root ++ lead) = some (.file c m)))

theorem exists_absent {fs : FS} {cs : List Name} {k : Nat} (hcl : Clean cs) (hk : k < cs.length)
    (hd : DirChain fs root cs k) (hn : fs (root ++ cs.take (k + 1)) = none) : exists_ fs root cs = false := by
  obtain ⟨_, hr⟩ := resolve_step true hcl hk hd
  simp only [hn] at hr
  rw [exists_]
  split at hr
  · rw [stat_of_ok hr, hn]
  · rw [stat_of_error hr]

theorem deepestExisting_spec (fs : FS) (lead : List Name) : ∀ n, ∃ d, deepestExisting fs root lead n = d ∧ d ≤ n ∧
    (d = 0 ∨ exists_ fs root (lead.take d) = true)
  | 0 => ⟨0, rfl, Nat.le_refl _, .inl rfl⟩
  | n + 1 => by
    rw [deepestExisting]
    split
    · exact ⟨_, rfl, Nat.le_refl _, .inr ‹_›⟩
    · obtain ⟨d, h, hn, hex⟩ := deepestExisting_spec fs lead n
      exact ⟨d, h, Nat.le_succ_of_le hn, hex⟩

theorem ensureParent_lex {lead : List Name} {j : Nat} (st : St) (hcl : Clean lead) (hv : Verified st.fs root lead j) :
    (ensureParent root lead st).Sat (Ran (Lex root lead) st) ∧
    ∀ st', ensureParent root lead st = (st', none) → DirChain st'.fs root lead lead.length ∨
      (st' = st ∧ j + 1 = lead.length ∧ ∃ c m, st.fs (root ++ lead) = some (.file c m)) := by
  rw [ensureParent]
  split
  · rename_i hex
    refine ⟨Ran.refl, fun st' h => ?_⟩
    cases h
    obtain ⟨hj, hd, h | ⟨h', h⟩ | ⟨h, hf⟩⟩ := hv
    · exact .inl (h ▸ hd)
    · rw [exists_absent hcl h' hd h] at hex; cases hex
    · exact .inr ⟨rfl, h, hf⟩
  · rw [makedirs]
    obtain ⟨start, hst, hs3, hex⟩ := deepestExisting_spec (root := root) st.fs lead (lead.length - 1)
    rw [hst]
    -- an existing prefix is no longer than the verified chain: beyond it the next component is absent
    have hs : start ≤ j := by
      obtain ⟨hj, hd, h | ⟨h', h⟩ | ⟨h, hf⟩⟩ := hv
      · omega
      · refine hex.elim (fun h0 => h0 ▸ Nat.zero_le _) fun hex => Nat.le_of_not_lt fun hlt => ?_
        rw [exists_absent (hcl.take _) (by simp; omega) (hd.of_take (Nat.le_of_lt hlt))
          (by rw [List.take_take, Nat.min_eq_left hlt]; exact h)] at hex
        cases hex
      · omega
    obtain ⟨h1, h2⟩ := mkdirsUp_lex lead hcl (lead.length - start) start st (by omega) (hv.2.1.mono hs)
    have e : start + (lead.length - start) = lead.length := by omega
    exact ⟨h1, fun st' h => .inl (e ▸ h2 st' h)⟩

end parent

/-! ### `verify_leading_dirs` -/

section verify
variable {root : PPath}

theorem commonLen_spec : ∀ (a b : List Name), a.take (commonLen a b) = b.take (commonLen a b) ∧
    commonLen a b ≤ a.length ∧ commonLen a b ≤ b.length :=
  CommonPrefix.spec (fun _ => rfl) (fun a => by cases a <;> rfl) (fun _ _ _ _ => rfl)

theorem verifyLoop_spec {fs : FS} {lead : List Name} (hcl : Clean lead) : ∀ (todo done : List Name) {safe' : List Name},
    lead = done ++ todo → DirChain fs root lead done.length →
    verifyLoop fs root done todo done = .ok safe' →
    (∃ j, Verified fs root lead j) ∧ ∃ s, s ≤ lead.length ∧ safe' = lead.take s := by
  intro todo
  induction todo with
  | nil =>
    intro done safe' hl hd h
    rw [verifyLoop] at h
    cases h
    simp only [List.append_nil] at hl
    subst hl
    exact ⟨⟨lead.length, Nat.le_refl _, hd, Or.inl rfl⟩, lead.length, Nat.le_refl _, by simp⟩
  | cons c rest ih =>
    intro done safe' hl hd h
    subst hl
    have hclc : Clean (done ++ [c]) := Clean.left (r := rest) (by rw [List.append_assoc]; exact hcl)
    have hdd : DirChain fs root done done.length := fun i h1 h2 => List.take_append_of_le_length h2 ▸ hd i h1 h2
    have htake : (done ++ c :: rest).take (done.length + 1) = done ++ [c] := by
      rw [List.take_append]; simp [List.take_of_length_le]
    rw [verifyLoop, lstat_lexical fs hclc hdd] at h
    cases hP : fs (root ++ (done ++ [c])) with
    | none =>
      simp only [hP, Except.ok.injEq] at h
      subst h
      exact ⟨⟨done.length, by simp, hd, .inr (.inl ⟨by simp, by rw [htake]; exact hP⟩)⟩, done.length, by simp, by simp⟩
    | some n =>
      cases n with
      | link t => simp [hP] at h
      | dir =>
        simp only [hP] at h
        refine ih (done ++ [c]) (by simp) ?_ h
        rw [List.length_append]
        exact hd.succ (by rw [htake]; exact hP)
      | file ct md =>
        simp only [hP] at h
        cases rest with
        | nil =>
          rw [verifyLoop] at h
          cases h
          exact ⟨⟨done.length, by simp, hd, .inr (.inr ⟨by simp, ct, md, hP⟩)⟩, _, Nat.le_refl _, (List.take_length ..).symm⟩
        | cons c2 r =>
          exfalso
          have hcl2 : Clean (done ++ [c] ++ [c2]) :=
            Clean.left (r := r) (by rw [List.append_assoc, List.append_assoc]; exact hcl)
          rw [verifyLoop, lstat_of_error (resolve_below_file false hcl2 (hdd.append [c] (Nat.le_refl _)) (by simp) hP)] at h
          cases h

theorem verifyLeadingDirs_spec {fs : FS} {lead : List Name} {last : Name} {safe safe' : List Name} (hcl : Clean lead)
    (hinv : DirChain fs root safe safe.length) (h : verifyLeadingDirs fs root (lead ++ [last]) safe = .ok safe') :
    (∃ j, Verified fs root lead j) ∧ (lead = [] ∧ safe' = safe ∨ ∃ s, s ≤ lead.length ∧ safe' = lead.take s) := by
  simp only [verifyLeadingDirs, List.dropLast_concat] at h
  split at h
  · rename_i hl0
    subst hl0
    exact ⟨⟨0, Nat.le_refl _, fun i h1 h2 => by omega, .inl rfl⟩, .inl ⟨rfl, (Except.ok.inj h).symm⟩⟩
  · obtain ⟨h1, h2, h3⟩ := commonLen_spec safe lead
    generalize commonLen safe lead = common at *
    rw [h1] at h
    refine (verifyLoop_spec hcl (lead.drop common) (lead.take common) (List.take_append_drop _ _).symm ?_ h).imp_right .inr
    rw [List.length_take_of_le h3]
    intro i hi1 hi2
    have e : lead.take i = safe.take i := by
      rw [← Nat.min_eq_left hi2, ← List.take_take, ← List.take_take, h1]
    rw [e]
    exact hinv i hi1 (by omega)

theorem verified_fresh {fs : FS} {lead : List Name} {last : Name} {safe' : List Name} (hcl : Clean lead)
    (hver : verifyLeadingDirs fs root (lead ++ [last]) [] = .ok safe') : ∃ j, Verified fs root lead j :=
  (verifyLeadingDirs_spec hcl (fun i h1 h2 => by simp at h2; omega) hver).1

end verify

/-! ### one iteration of `build_index_from_tree`, and the run -/

section entry
variable {root : PPath}

/-- every component in the `safe_prefix` cache is a real directory now: what lets `verify_leading_dirs` skip them -/
def CacheInv (root : PPath) (st : St) : Prop := DirChain st.fs root st.safe st.safe.length

theorem processEntry_lex (v : Bytes → Bool) (e : Entry) (st : St) (hinv : CacheInv root st)
    (hclean : validatePath v e.path = true → Clean (splitOn pathSep e.path)) :
    (processEntry v root e st).Sat
      (Ran (fun m => validatePath v e.path = true ∧ Lex root (splitOn pathSep e.path) m) st true) ∧
    ∀ st', processEntry v root e st = (st', none) → CacheInv root st' := by
  rw [processEntry]
  split
  · exact ⟨Ran.refl, nofun⟩
  · rename_i hval
    have hval : validatePath v e.path = true := by simpa using hval
    have hcl := hclean hval
    obtain ⟨lead, last, hsplit⟩ := splitOn_concat pathSep e.path
    rw [hsplit] at hcl ⊢
    simp only [List.dropLast_concat]
    cases hver : verifyLeadingDirs st.fs root (lead ++ [last]) st.safe with
    | error err => exact ⟨Ran.refl, nofun⟩
    | ok safe' =>
      dsimp only
      obtain ⟨⟨j, hVj⟩, hsafe⟩ := verifyLeadingDirs_spec hcl.left hinv hver
      obtain ⟨hE1, hE2⟩ := ensureParent_lex { st with safe := safe' } hcl.left hVj
      refine (Ran.andThen_ok (Ran.mono (fun m => Lex.widen [last]) hE1) fun st1 hr1 => ?_).imp_left fun h =>
        Ran.of_replace (Ran.mono (fun m h => ⟨hval, h⟩) h)
      rcases hE2 st1 hr1 with hall | ⟨rfl, hj1, ct, md, hf⟩
      · have hleaf := entryLeaf_leaf e st1 hcl hall
        refine ⟨hleaf, fun st' hr2 => ?_⟩
        have hs' : st'.safe = safe' := (hleaf.of_eq hr2).safe.trans (hE1.of_eq hr1).safe
        have hk := ((entryLeaf_any root _ e st1).of_eq hr2).keepsDirs
        unfold CacheInv
        rw [hs']
        rcases hsafe with ⟨rfl, rfl⟩ | ⟨s, hs1, rfl⟩
        · exact fun i h1 h2 => hk _ (((hE1.of_eq hr1).frame fun _ ⟨_, h1, h2, _⟩ => absurd (Nat.le_trans h1 h2) (by decide)).trans (hinv i h1 h2))
        · rw [List.length_take_of_le hs1]
          exact fun i h1 h2 => hk _ ((hall.mono hs1).of_take (Nat.le_refl _) i h1 h2)
      · obtain ⟨hb, hg⟩ := leaf_parent_file { st with safe := safe' } hcl hVj.2.1 hj1 hf e.mode e.content
        rw [hb, hg, ite_self]
        exact ⟨Ran.refl, nofun⟩

theorem runEntries_lex (v : Bytes → Bool) (hclean : ∀ p, validatePath v p = true → Clean (splitOn pathSep p)) :
    ∀ (es : List Entry) (st : St), CacheInv root st →
    (runEntries v root es st).Sat (Ran (fun m => ∃ e ∈ es, validatePath v e.path = true ∧
      Lex root (splitOn pathSep e.path) m) st true) ∧
    ∀ st', runEntries v root es st = (st', none) → CacheInv root st' := by
  intro es
  induction es with
  | nil => intro st hinv; exact ⟨Ran.refl, fun st' h => by cases h; exact hinv⟩
  | cons e es ih =>
    intro st hinv
    obtain ⟨hE1, hE2⟩ := processEntry_lex v e st hinv (hclean e.path)
    rw [runEntries]
    exact Ran.andThen_ok (Ran.mono (fun m h => ⟨e, List.mem_cons_self, h⟩) hE1) fun st1 hr1 =>
      (ih st1 (hE2 st1 hr1)).imp_left (Ran.mono fun m ⟨e', he', h⟩ => ⟨e', List.mem_cons_of_mem _ he', h⟩)

theorem buildIndexFromTree_lex (v : Bytes → Bool) (hclean : ∀ p, validatePath v p = true → Clean (splitOn pathSep p))
    (es : List Entry) (fs : FS) :
    (∀ m ∈ (buildIndexFromTree v root es fs).1.log, ∃ e ∈ es, validatePath v e.path = true ∧
      Lex root (splitOn pathSep e.path) m) ∧
    ∀ st', buildIndexFromTree v root es fs = (st', none) → CacheInv root st' := by
  obtain ⟨h1, h2⟩ := runEntries_lex v hclean es { fs := fs, log := [], safe := [] }
    fun i _ h2 => absurd h2 (by simp; omega)
  exact ⟨fun m hm => (h1.log m hm).elim nofun id, h2⟩

end entry

/-! ### `update_working_tree` and sparse checkout: the steps after a fresh `verify_leading_dirs` -/

section uwt
variable {root : PPath}

/-- where a call of the gitlink branch on `root/comps` may have acted: `Lex`, or it is the placeholder write -/
def LexG (root : PPath) (comps : List Name) (m : Mut) : Prop :=
  Lex root comps m ∨ m = .write (root ++ (comps ++ [dotGit]))

/-- where a logged call of `update_working_tree` may have acted: `∃ comps, SafeComps comps ∧ LexG root comps m` with `LexG`
and `Lex` written out (the proofs below build it from either by `⟨_, hsafe, h⟩`) -/
def LexMut (root : PPath) (m : Mut) : Prop :=
  ∃ comps : List Name, SafeComps comps ∧
    ((∃ i, 1 ≤ i ∧ i ≤ comps.length ∧ m.target = root ++ comps.take i) ∨ m = .write (root ++ (comps ++ [dotGit])))

theorem lstat_verified {fs : FS} {lead : List Name} {last : Name} {j : Nat} (hcl : Clean (lead ++ [last]))
    (hv : Verified fs root lead j) :
    (lstat fs root (lead ++ [last]) = .error .enoent → DirChain fs root (lead ++ [last]) j ∧
      j < (lead ++ [last]).length ∧ fs (root ++ (lead ++ [last]).take (j + 1)) = none) ∧
    ∀ n, lstat fs root (lead ++ [last]) = .ok n →
      DirChain fs root lead lead.length ∧ fs (root ++ (lead ++ [last])) = some n := by
  obtain ⟨hj, hd, hje | ⟨hjl, hn⟩ | ⟨hj1, ct, md, hf⟩⟩ := hv
  · subst hje
    rw [lstat_lexical fs hcl hd, List.take_of_length_le (by simp)]
    cases hP : fs (root ++ (lead ++ [last])) with
    | none => exact ⟨fun _ => ⟨hd.append [last] (Nat.le_refl _), by simp, rfl⟩, nofun⟩
    | some n => exact ⟨nofun, fun n' h => ⟨hd, by cases h; rfl⟩⟩
  · have hn' : fs (root ++ (lead ++ [last]).take (j + 1)) = none := by
      rw [List.take_append_of_le_length (by omega)]; exact hn
    rw [lstat_of_error ((resolve_blocked false hcl (by simp; omega) (hd.append [last] (by omega))).1 hn')]
    exact ⟨fun _ => ⟨hd.append [last] (by omega), by simp; omega, hn'⟩, nofun⟩
  · rw [lstat_of_error (resolve_below_file false hcl hd hj1 hf)]
    exact ⟨nofun, nofun⟩

theorem lstatTracked_lexical {fs : FS} {lead : List Name} {last : Name} {n : Node} (hcl : Clean (lead ++ [last]))
    (h : lstatTracked fs root (lead ++ [last]) = .ok n) :
    DirChain fs root lead lead.length ∧ fs (root ++ (lead ++ [last])) = some n := by
  rw [lstatTracked] at h
  cases hver : verifyLeadingDirs fs root (lead ++ [last]) [] with
  | error e => rw [hver] at h; cases e <;> cases h
  | ok safe' =>
    rw [hver] at h
    obtain ⟨j, hv⟩ := verified_fresh hcl.left hver
    exact (lstat_verified hcl hv).2 n h

theorem parent_then_blob_lex {lead : List Name} {last : Name} (st : St) (hcl : Clean (lead ++ [last]))
    (hv : ∃ j, Verified st.fs root lead j) (mode : Nat) (content : Bytes) :
    ((ensureParent root lead st).andThen (buildFileFromBlob root (lead ++ [last]) mode content)).Sat
      (Ran (Lex root (lead ++ [last])) st) := by
  obtain ⟨j, hv⟩ := hv
  obtain ⟨hE1, hE2⟩ := ensureParent_lex st hcl.left hv
  refine Ran.andThen (Ran.mono (fun m => Lex.widen [last]) hE1) fun st1 hr1 => ?_
  rcases hE2 st1 hr1 with hall | ⟨rfl, hj1, ct, md, hf⟩
  · exact buildFileFromBlob_leaf st1 mode content hcl hall
  · rw [(leaf_parent_file st1 hcl hv.2.1 hj1 hf mode content).1]
    exact Ran.refl

theorem dotGit_clean : CleanName dotGit := by unfold CleanName dotGit; decide

theorem placeholder_lex {comps : List Name} {j : Nat} (content : Bytes) (st : St) (hcl : Clean comps)
    (hd : DirChain st.fs root comps j)
    (hj : j = comps.length ∨ j < comps.length ∧ st.fs (root ++ comps.take (j + 1)) = none)
    (hgit : ∀ t, st.fs (root ++ (comps ++ [dotGit])) ≠ some (.link t)) :
    (placeholder root comps content st).Sat (Ran (LexG root comps) st) := by
  rw [placeholder]
  obtain ⟨hE1, hE2⟩ := ensureParent_lex st hcl ⟨by omega, hd, hj.imp_right .inl⟩
  refine Ran.andThen (Ran.mono (fun m => .inl) hE1) fun s hr1 => ?_
  rcases hE2 s hr1 with hall | ⟨-, hj1, hf⟩
  · split
    · exact Ran.refl
    · have hcl2 : Clean (comps ++ [dotGit]) := fun c hc =>
        (List.mem_append.mp hc).elim (hcl c) fun h => List.mem_singleton.mp h ▸ dotGit_clean
      -- the parent phase did not touch `root/comps/.git`
      have hnl : ∀ t, s.fs (root ++ (comps ++ [dotGit])) ≠ some (.link t) := fun t => by
        rw [(hE1.of_eq hr1).frame fun _ ⟨i, _, _, ht⟩ he => take_ne_concat i (ht.symm.trans he)]
        exact hgit t
      refine Ran.apply fun fs' m h => ?_
      obtain ⟨rfl, hdid⟩ := Op.at_leaf (.write content) hcl2 hall (fun _ => hnl) h
      exact ⟨hdid, .inr rfl⟩
  · obtain ⟨c, m, hf⟩ := hf
    rcases hj with hj | ⟨_, hn⟩
    · omega
    · rw [hj1, List.take_length, hf] at hn
      cases hn

theorem uwtGitlinkG_lex (content : Bytes) (st : St) (lead : List Name) (last : Name) (hcl : Clean (lead ++ [last]))
    {safe' : List Name} (hver : verifyLeadingDirs st.fs root (lead ++ [last]) [] = .ok safe')
    (hgit : ∀ t, st.fs (root ++ (lead ++ [last] ++ [dotGit])) ≠ some (.link t)) :
    (uwtGitlinkG false root (lead ++ [last]) content st).Sat (Ran (LexG root (lead ++ [last])) st) := by
  obtain ⟨j, hv⟩ := verified_fresh hcl.left hver
  obtain ⟨hno, hok⟩ := lstat_verified (last := last) hcl hv
  rw [uwtGitlinkG]
  cases hl : lstat st.fs root (lead ++ [last]) with
  | error err =>
    cases err with
    | enoent =>
      obtain ⟨hd, hlt, hn⟩ := hno hl
      exact placeholder_lex content st hcl hd (.inr ⟨hlt, hn⟩) hgit
    | _ => exact Ran.refl
  | ok cur =>
    simp only [Bool.false_eq_true, if_false]
    obtain ⟨hdall, hP⟩ := hok cur hl
    split
    · rename_i hdir
      obtain rfl : cur = .dir := by simpa using hdir
      refine placeholder_lex content st hcl ?_ (.inl rfl) hgit
      rw [List.length_append]
      exact (hdall.append [last] (Nat.le_refl _)).succ (by rw [List.take_of_length_le (by simp)]; exact hP)
    · refine call_leaf_then .unlink st hcl hdall nofun (fun _ => Or.inl) fun st1 ⟨_, e1⟩ => ?_
      refine placeholder_lex content st1 hcl ((e1 ▸ hdall.set_leaf none).append [last] (Nat.le_refl _))
        (.inr ⟨by simp, by rw [List.take_of_length_le (by simp), e1]; exact FS.set_same ..⟩) fun t => ?_
      rw [e1, FS.set_other _ _ (by simp)]
      exact hgit t

end uwt

/-! ### the invariant of the whole update: lexical log, and every symlink accounted for -/

section inv
variable {root : PPath}

/-- no symlink named `.git` anywhere on the disk (the hypothesis of `uwt_confined` as first written; its proof reads
`NoDotGitLinkBelow root` only) -/
def NoDotGitLink (fs : FS) : Prop := ∀ p t, fs (p ++ [dotGit]) ≠ some (.link t)

/-- the part of `NoDotGitLink` that the gitlink branch needs: no symlink named `.git` below the work-tree root, whatever
lies elsewhere on the disk -/
def NoDotGitLinkBelow (root : PPath) (fs : FS) : Prop := ∀ comps t, fs (root ++ (comps ++ [dotGit])) ≠ some (.link t)

theorem NoDotGitLink.below {fs : FS} (h : NoDotGitLink fs) (root : PPath) : NoDotGitLinkBelow root fs :=
  fun comps t => List.append_assoc root comps [dotGit] ▸ h (root ++ comps) t

/-- every symlink on disk was one in `fs0` or has its `symlink` call in the log: with a lexical log none is named `.git`
(`NoDotGitLinkBelow.kept`) -/
def LinkFrame (fs0 : FS) (st : St) : Prop :=
  ∀ q t, st.fs q = some (.link t) → (∃ t', fs0 q = some (.link t')) ∨ ∃ t', Mut.symlink q t' ∈ st.log

theorem linkFrame_closed (fs0 : FS) : OpClosed (LinkFrame fs0) where
  set := by
    intro st p n m hn h q t hq
    have hold : ∀ t, st.fs q = some (.link t) →
        (∃ t', fs0 q = some (.link t')) ∨ ∃ t', Mut.symlink q t' ∈ st.log ++ [m] :=
      fun t h' => (h q t h').imp_right fun ⟨t', b⟩ => ⟨t', List.mem_append_left _ b⟩
    dsimp only at hq
    by_cases hqp : q = p
    · subst hqp
      rw [FS.set_same] at hq
      rcases hn t hq with rfl | h'
      · exact .inr ⟨t, List.mem_append_right _ List.mem_cons_self⟩
      · exact hold t h'
    · rw [FS.set_other _ _ hqp] at hq
      exact hold t hq
  safe := fun _ _ h => h

theorem lower_dotGit : lower dotGit = [46, 103, 105, 116] := by decide

theorem NoDotGitLinkBelow.kept {fs0 : FS} {st : St} (h0 : NoDotGitLinkBelow root fs0) (hlog : ∀ m ∈ st.log, LexMut root m)
    (hfr : LinkFrame fs0 st) : NoDotGitLinkBelow root st.fs := by
  intro p t hq
  rcases hfr _ t hq with ⟨t', h⟩ | ⟨t', hm⟩
  · exact h0 p t' h
  · obtain ⟨comps, ⟨_, _, hs⟩, ⟨i, hi1, hi2, ht⟩ | hw⟩ := hlog _ hm
    · -- the last component of `root ++ comps.take i` is a component of `comps`, so it is not `.git`
      have hne : comps.take i ≠ [] := List.ne_nil_of_length_pos (by rw [List.length_take]; omega)
      have hlast := congrArg List.getLast? (show root ++ p ++ [dotGit] = root ++ comps.take i from
        (List.append_assoc ..).trans ht)
      rw [List.getLast?_concat, List.getLast?_append, List.getLast?_eq_some_getLast hne] at hlast
      exact hs _ (List.mem_of_mem_take (List.getLast_mem hne)) (Option.some.inj hlast ▸ lower_dotGit)
    · cases hw

end inv

/-! ### one path at a time, then the phases — for a validator that lets only safe components through -/

section phases
variable {root : PPath} {v : Bytes → Bool} (hv : ∀ p, validatePath v p = true → SafeComps (splitOn pathSep p))
include hv

theorem safe_split {p : Bytes} (h : ¬ validatePath v p = false) :
    ∃ lead last, splitOn pathSep p = lead ++ [last] ∧ SafeComps (lead ++ [last]) := by
  obtain ⟨lead, last, hsplit⟩ := splitOn_concat pathSep p
  exact ⟨lead, last, hsplit, hsplit ▸ hv p (by simpa using h)⟩

theorem deleteOldG_lexMut (guarded : Bool) (path : Bytes) (st : St)
    (hd : guarded = false → ∀ i, 1 ≤ i → i < (splitOn pathSep path).length →
      st.fs (root ++ (splitOn pathSep path).take i) = some .dir) :
    (deleteOldG guarded v root path st).Sat (Ran (LexMut root) st) := by
  rw [deleteOldG]
  split
  · exact Ran.refl
  · obtain ⟨lead, last, hsplit, hsafe⟩ := safe_split hv ‹_›
    have hcl := hsafe.2.1
    refine Ran.mono (fun _ h => ⟨_, hsafe, .inl h⟩) ?_
    simp only [hsplit] at hd ⊢
    split
    · exact Ran.refl
    · exact Ran.refl
    · exact Ran.refl
    · have hch : DirChain st.fs root lead lead.length := by
        cases guarded with
        | false => exact fun i h1 h2 => List.take_append_of_le_length h2 ▸ hd rfl i h1 (by simp; omega)
        | true => exact (lstatTracked_lexical hcl ‹_›).1
      exact call_leaf .unlink st hcl hch nofun

theorem deletePhaseG_lexMut : ∀ (ps : List Bytes) (st : St), (deletePhaseG true v root ps st).Sat (Ran (LexMut root) st)
  | [], _ => Ran.refl
  | p :: ps, st => by
    rw [deletePhaseG]
    exact Ran.andThen (deleteOldG_lexMut hv true p st nofun) fun s _ => deletePhaseG_lexMut ps s

theorem uwtWriteG_lexMut (isEmpty : FS → PPath → Bool) (e : Entry) (st : St) :
    (uwtWriteG true isEmpty v root e st).Sat (Ran (LexMut root) st) := by
  rw [uwtWriteG]
  split
  · exact Ran.refl
  · obtain ⟨lead, last, hsplit, hsafe⟩ := safe_split hv ‹_›
    have hcl := hsafe.2.1
    refine Ran.mono (fun _ h => ⟨_, hsafe, .inl h⟩) ?_
    simp only [hsplit, if_true, List.dropLast_concat]
    -- the inner `lstat` is analysed first (the other order is slow to check)
    cases hl : lstat st.fs root (lead ++ [last]) with
    | error err =>
      cases hver : verifyLeadingDirs st.fs root (lead ++ [last]) [] with
      | error err' => exact Ran.refl
      | ok safe' =>
        cases err with
        | enoent => exact parent_then_blob_lex st hcl (verified_fresh hcl.left hver) e.mode e.content
        | _ => exact Ran.refl
    | ok cur =>
      cases hver : verifyLeadingDirs st.fs root (lead ++ [last]) [] with
      | error err' => exact Ran.refl
      | ok safe' =>
        dsimp only
        split
        · exact Ran.refl
        · obtain ⟨j, hv⟩ := verified_fresh hcl.left hver
          obtain ⟨hd, -⟩ := (lstat_verified hcl hv).2 cur hl
          have hw := fun (st1 : St) (e1 : st1.fs = st.fs.set (root ++ (lead ++ [last])) none) =>
            parent_then_blob_lex st1 hcl ⟨_, Nat.le_refl _, e1 ▸ hd.set_leaf none, .inl rfl⟩ e.mode e.content
          split
          · exact call_leaf_then (.rmdir isEmpty) st hcl hd nofun (fun _ h => h) hw
          · exact call_leaf_then .unlink st hcl hd nofun (fun _ h => h) fun st1 h => hw st1 h.2

theorem uwtWritePhaseG_lexMut (isEmpty : FS → PPath → Bool) : ∀ (es : List Entry) (st : St),
    (uwtWritePhaseG true isEmpty v root es st).Sat (Ran (LexMut root) st)
  | [], _ => Ran.refl
  | e :: es, st => by
    rw [uwtWritePhaseG]
    exact Ran.andThen (uwtWriteG_lexMut hv isEmpty e st) fun s _ => uwtWritePhaseG_lexMut isEmpty es s

theorem sparseEntryG_lexMut (e : Entry) (x : Bool) (st : St) :
    (sparseEntryG true v root e x st).Sat (Ran (LexMut root) st) := by
  rw [sparseEntryG, if_pos rfl]
  split
  · exact deleteOldG_lexMut hv true e.path st nofun
  · split
    · exact Ran.refl
    · obtain ⟨lead, last, hsplit, hsafe⟩ := safe_split hv ‹_›
      have hcl := hsafe.2.1
      refine Ran.mono (fun _ h => ⟨_, hsafe, .inl h⟩) ?_
      simp only [hsplit, List.dropLast_concat]
      cases hl : lstat st.fs root (lead ++ [last]) with
      | ok cur => cases verifyLeadingDirs st.fs root (lead ++ [last]) [] <;> exact Ran.refl
      | error err =>
        cases hver : verifyLeadingDirs st.fs root (lead ++ [last]) [] with
        | error err' => exact Ran.refl
        | ok safe' =>
          cases err with
          | enoent => exact parent_then_blob_lex st hcl (verified_fresh hcl.left hver) e.mode e.content
          | _ => exact Ran.refl

theorem sparseApplyG_lexMut : ∀ (es : List (Entry × Bool)) (st : St),
    (sparseApplyG true v root es st).Sat (Ran (LexMut root) st)
  | [], _ => Ran.refl
  | (e, x) :: es, st => by
    rw [sparseApplyG]
    exact Ran.andThen (sparseEntryG_lexMut hv e x st) fun s _ => sparseApplyG_lexMut es s

theorem uwtEntryG_lexMut (isEmpty : FS → PPath → Bool) (e : Entry) (st : St) (hgit : NoDotGitLinkBelow root st.fs) :
    (uwtEntryG true false isEmpty v root e st).Sat (Ran (LexMut root) st) := by
  rw [uwtEntryG]
  split
  · split
    · exact Ran.refl
    · obtain ⟨lead, last, hsplit, hsafe⟩ := safe_split hv ‹_›
      refine Ran.mono (fun _ h => ⟨_, hsafe, h⟩) ?_
      simp only [hsplit, if_true]
      cases hver : verifyLeadingDirs st.fs root (lead ++ [last]) [] with
      | error err => exact Ran.refl
      | ok safe' =>
        exact uwtGitlinkG_lex (gitfileContent e.path) st lead last hsafe.2.1 hver (hgit (lead ++ [last]))
  · exact uwtWriteG_lexMut hv isEmpty e st

/-- the write phase, gitlink entries included, from a state with a lexical log whose symlinks `LinkFrame fs0` accounts for (a
run keeps both): so at each entry no symlink below the root is named `.git` (`NoDotGitLinkBelow.kept`) -/
theorem uwtPhaseAllG_lexMut (isEmpty : FS → PPath → Bool) {fs0 : FS} (h0 : NoDotGitLinkBelow root fs0) :
    ∀ (adds : List Entry) (st : St), (∀ m ∈ st.log, LexMut root m) → LinkFrame fs0 st →
      (uwtPhaseAllG true false isEmpty v root adds st).Sat (Ran (LexMut root) st)
  | [], _, _, _ => Ran.refl
  | e :: es, st, hlog, hfr => by
    rw [uwtPhaseAllG]
    have h1 := uwtEntryG_lexMut hv isEmpty e st (NoDotGitLinkBelow.kept h0 hlog hfr)
    exact Ran.andThen h1 fun s hs => uwtPhaseAllG_lexMut isEmpty h0 es s
      (fun m hm => ((h1.of_eq hs).log m hm).elim (hlog m) id) ((h1.of_eq hs).closed (linkFrame_closed fs0) hfr)

end phases

/-! ### the write loop over change kinds is a write phase -/

theorem uwtWriteChanges_eq (hwv : ∀ k, writtenKind k = true → validatedKind k = true) (isEmpty : FS → PPath → Bool)
    (v : Bytes → Bool) (root : PPath) (cs : List Change) :
    uwtWriteChanges isEmpty v root cs = uwtPhaseAllG uwtFreshCache gitlinkDirTestFollows isEmpty v root
      ((cs.filter fun c => writtenKind c.1).map (·.2.2)) := by
  induction cs with
  | nil => funext st; rfl
  | cons c cs ih =>
    obtain ⟨k, old, e⟩ := c
    funext st
    rw [uwtWriteChanges]
    cases hw : writtenKind k with
    | true =>
      rw [if_pos rfl, if_pos (hwv k hw), ih, List.filter_cons_of_pos (p := fun c : Change => writtenKind c.1) hw]
      rfl
    | false =>
      rw [if_neg nofun, ih, List.filter_cons_of_neg (p := fun c : Change => writtenKind c.1) (by rw [hw]; nofun)]

end Dulwich.Checkout
