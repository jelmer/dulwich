/-
  Lemmas for the path validators (C17): `lower` on short names; the NTFS `.git` family (`NtfsDotGitFamily`), all of it
  recognised by `isNtfsDotgit`; `splitOn` and `rstrip`; the strict UTF-8 decoder, the ignorable-code-point filter and the
  encoder on ASCII (what `hfs_ascii` in Props/C17.lean is proved from).
-/
import DulwichModel.Model.PathSafe

namespace Dulwich.PathSafe
open Dulwich Dulwich.Gen.PathSafe

/-! ### ASCII case -/

theorem lowerByte_eq {b c : UInt8} (h : lowerByte b = c) :
    b = c ∨ (b.toNat + 32 = c.toNat ∧ 65 ≤ b.toNat ∧ b.toNat ≤ 90) := by
  unfold lowerByte at h
  split at h
  · right
    have := congrArg UInt8.toNat h
    rw [UInt8.toNat_ofNat'] at this
    omega
  · left; exact h

theorem lowerByte_punct {b c : UInt8} (h : lowerByte b = c) (hc : c.toNat < 97) : b = c := by
  rcases lowerByte_eq h with h | ⟨h1, h2, _⟩
  · exact h
  · omega

theorem ascii_of_lower {e : Bytes} (h : ∀ x ∈ lower e, x.toNat < 128) : ∀ b ∈ e, b.toNat < 128 := by
  intro b hb
  have hl := h (lowerByte b) (List.mem_map_of_mem hb)
  rcases lowerByte_eq (rfl : lowerByte b = lowerByte b) with h1 | ⟨h1, _, _⟩
  · exact h1 ▸ hl
  · omega

theorem lower_eq_nil {e : Bytes} : lower e = [] ↔ e = [] := by simp [lower]

theorem lower_eq_cons {e : Bytes} {c : UInt8} {r : Bytes} :
    lower e = c :: r ↔ ∃ b t, e = b :: t ∧ lowerByte b = c ∧ lower t = r := by
  cases e with
  | nil => simp [lower]
  | cons b t =>
    simp only [lower, List.map_cons, List.cons.injEq]
    constructor
    · rintro ⟨h1, h2⟩; exact ⟨b, t, ⟨rfl, rfl⟩, h1, h2⟩
    · rintro ⟨b', t', ⟨rfl, rfl⟩, h1, h2⟩; exact ⟨h1, h2⟩

/-! ### the NTFS `.git` family -/

def DotsSpaces (ds : Bytes) : Prop := ∀ b ∈ ds, b = 46 ∨ b = 32

def IsDotGit (pre : Bytes) : Prop :=
  ∃ g i t, pre = [46, g, i, t] ∧ lowerByte g = 103 ∧ lowerByte i = 105 ∧ lowerByte t = 116

def IsGitTilde1 (pre : Bytes) : Prop :=
  ∃ g i t, pre = [g, i, t, 126, 49] ∧ lowerByte g = 103 ∧ lowerByte i = 105 ∧ lowerByte t = 116

theorem isDotGit_iff {c : Bytes} : IsDotGit c ↔ lower c = [46, 103, 105, 116] := by
  constructor
  · rintro ⟨g, i, t, rfl, hg, hi, ht⟩
    simp only [lower, List.map_cons, List.map_nil, hg, hi, ht]
    rfl
  · intro h
    obtain ⟨d, r1, rfl, hd, h⟩ := lower_eq_cons.mp h
    obtain ⟨g, r2, rfl, hg, h⟩ := lower_eq_cons.mp h
    obtain ⟨i, r3, rfl, hi, h⟩ := lower_eq_cons.mp h
    obtain ⟨t, r4, rfl, ht, h⟩ := lower_eq_cons.mp h
    obtain rfl := lower_eq_nil.mp h
    obtain rfl : d = 46 := lowerByte_punct hd (by decide)
    exact ⟨g, i, t, rfl, hg, hi, ht⟩

theorem IsGitTilde1.lower_eq {c : Bytes} (h : IsGitTilde1 c) : lower c = [103, 105, 116, 126, 49] := by
  obtain ⟨g, i, t, rfl, hg, hi, ht⟩ := h
  simp only [lower, List.map_cons, List.map_nil, hg, hi, ht]
  rfl

/-- The family of the CVE regression tests, for all strings: (`.git` | `git~1`) in any ASCII case, then any
mix of dots and spaces, then either the end or `:` followed by anything at all. -/
inductive NtfsDotGitFamily : Bytes → Prop
  | plain (pre ds : Bytes) : (IsDotGit pre ∨ IsGitTilde1 pre) → DotsSpaces ds → NtfsDotGitFamily (pre ++ ds)
  | ads (pre ds rest : Bytes) : (IsDotGit pre ∨ IsGitTilde1 pre) → DotsSpaces ds →
      NtfsDotGitFamily (pre ++ ds ++ 58 :: rest)

theorem dgTail_ds : ∀ ds tl, DotsSpaces ds → dgTail (ds ++ tl) = dgTail tl := by
  intro ds
  induction ds with
  | nil => intro tl _; rfl
  | cons c r ih =>
    intro tl h
    have hc := h c (List.mem_cons_self)
    have hr : DotsSpaces r := fun b hb => h b (List.mem_cons_of_mem _ hb)
    rcases hc with rfl | rfl <;> simp [dgTail, dgColon, dgTailDot, dgTailSpace, ih tl hr]

theorem isNtfsDotgit_dot (g i t : UInt8) (tl : Bytes) (hg : lowerByte g = 103) (hi : lowerByte i = 105)
    (ht : lowerByte t = 116) : isNtfsDotgit (46 :: g :: i :: t :: tl) = dgTail tl := by
  simp [isNtfsDotgit, dgDot, slice, dgGitFrom, dgGitTo, dgGit, dgGitTail, lower, hg, hi, ht]

theorem isNtfsDotgit_short (g i t : UInt8) (tl : Bytes) (hg : lowerByte g = 103) (hi : lowerByte i = 105)
    (ht : lowerByte t = 116) : isNtfsDotgit (g :: i :: t :: 126 :: 49 :: tl) = dgTail tl := by
  have hne : g ≠ 46 := by
    rintro rfl
    exact absurd hg (by decide)
  simp [isNtfsDotgit, dgDot, dgG, slice, dgItFrom, dgItTo, dgIt, dgTildeFrom, dgTildeTo, dgTilde, dgShortTail, lower,
    hg, hi, ht, hne]

theorem isNtfsDotgit_pre {pre : Bytes} (h : IsDotGit pre ∨ IsGitTilde1 pre) (tl : Bytes) :
    isNtfsDotgit (pre ++ tl) = dgTail tl := by
  rcases h with ⟨g, i, t, rfl, hg, hi, ht⟩ | ⟨g, i, t, rfl, hg, hi, ht⟩
  · exact isNtfsDotgit_dot g i t tl hg hi ht
  · exact isNtfsDotgit_short g i t tl hg hi ht

theorem isNtfsDotgit_family {e : Bytes} (h : NtfsDotGitFamily e) : isNtfsDotgit e = true := by
  cases h with
  | plain pre ds hp hd => rw [isNtfsDotgit_pre hp, ← List.append_nil ds, dgTail_ds ds [] hd, dgTail]
  | ads pre ds rest hp hd => rw [List.append_assoc, isNtfsDotgit_pre hp, dgTail_ds ds _ hd, dgTail]; exact if_pos rfl

/-! ### split / rstrip -/

theorem splitOn_ne_nil (sep : UInt8) : ∀ l, splitOn sep l ≠ [] := by
  intro l
  cases l with
  | nil => simp [splitOn]
  | cons b r => simp only [splitOn]; split <;> simp

theorem splitOn_cons_head (sep : UInt8) (l : Bytes) :
    splitOn sep l = (splitOn sep l).headD [] :: (splitOn sep l).tail := by
  have := splitOn_ne_nil sep l
  cases h : splitOn sep l with
  | nil => exact absurd h this
  | cons a t => rfl

theorem splitOn_concat (sep : UInt8) (p : Bytes) : ∃ lead last, splitOn sep p = lead ++ [last] :=
  ⟨_, _, (List.dropLast_concat_getLast (splitOn_ne_nil _ _)).symm⟩

theorem splitOn_append (sep : UInt8) : ∀ (a b : Bytes), (∀ x ∈ a, x ≠ sep) →
    splitOn sep (a ++ b) = (a ++ (splitOn sep b).headD []) :: (splitOn sep b).tail := by
  intro a
  induction a with
  | nil => intro b _; simpa using splitOn_cons_head sep b
  | cons x a ih =>
    intro b h
    have hx : x ≠ sep := h x List.mem_cons_self
    have ha : ∀ y ∈ a, y ≠ sep := fun y hy => h y (List.mem_cons_of_mem _ hy)
    simp only [List.cons_append, splitOn, hx, if_false]
    rw [ih b ha]
    simp

theorem splitOn_no_sep (sep : UInt8) : ∀ (l : Bytes) (c : Bytes), c ∈ splitOn sep l → sep ∉ c := by
  intro l
  induction l with
  | nil => intro c hc; simp [splitOn] at hc; subst hc; simp
  | cons b r ih =>
    intro c hc
    simp only [splitOn] at hc
    split at hc
    · rcases List.mem_cons.mp hc with rfl | h
      · simp
      · exact ih c h
    · rename_i hb
      rw [splitOn_cons_head sep r] at ih
      rcases List.mem_cons.mp hc with rfl | h
      · intro hm
        rcases List.mem_cons.mp hm with h1 | h1
        · exact hb h1.symm
        · exact ih _ List.mem_cons_self h1
      · exact ih c (List.mem_cons_of_mem _ h)

theorem rstrip_all (set : Bytes) : ∀ ds, (∀ b ∈ ds, set.contains b = true) → rstrip set ds = [] := by
  intro ds
  induction ds with
  | nil => intro _; rfl
  | cons c r ih =>
    intro h
    have hr := ih (fun b hb => h b (List.mem_cons_of_mem _ hb))
    have hc := h c List.mem_cons_self
    simp only [rstrip, hr, hc, if_true]

/-! ### strict UTF-8 on ASCII -/

theorem utf8Go_ascii : ∀ (bs : Bytes) (out : List Nat), (∀ b ∈ bs, b.toNat < 128) →
    utf8Go bs 0 0 0 0 out = some (out.reverse ++ bs.map UInt8.toNat) := by
  intro bs
  induction bs with
  | nil => intro out _; simp [utf8Go]
  | cons b r ih =>
    intro out h
    have hb := h b List.mem_cons_self
    have hr := ih (b.toNat :: out) (fun x hx => h x (List.mem_cons_of_mem _ hx))
    simp only [utf8Go, hb, if_true, hr]
    simp

theorem utf8Decode_ascii (bs : Bytes) (h : ∀ b ∈ bs, b.toNat < 128) :
    utf8Decode bs = some (bs.map UInt8.toNat) := by
  unfold utf8Decode; rw [utf8Go_ascii bs [] h]; simp

theorem hfsFilter_ascii : ∀ (cs : List Nat), (∀ c ∈ cs, c < 128) → hfsFilter cs = cs := by
  intro cs h
  unfold hfsFilter
  apply List.filter_eq_self.mpr
  intro c hc
  have := h c hc
  simp only [hfsIgnorable, Bool.not_eq_true', List.contains_eq_mem, decide_eq_false_iff_not]
  intro hm
  simp only [List.mem_cons, List.not_mem_nil, or_false] at hm
  omega

theorem utf8Encode_ascii : ∀ (cs : List Nat), (∀ c ∈ cs, c < 128) → utf8Encode cs = cs.map UInt8.ofNat := by
  intro cs
  induction cs with
  | nil => intro _; rfl
  | cons c r ih =>
    intro h
    have hc := h c List.mem_cons_self
    have hr := ih (fun x hx => h x (List.mem_cons_of_mem _ hx))
    unfold utf8Encode at hr ⊢
    simp only [List.flatMap_cons, utf8EncodeCp, hc, if_true, hr]
    simp

end Dulwich.PathSafe
