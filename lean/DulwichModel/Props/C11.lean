/-
  C11 — Index file round trip, ordering, checksum, agreement with C git.

  The predicates used in the statements are in Lemmas/Index.lean.  The model is
  Model/Index.lean; its masks, struct layouts, version thresholds and varint constants come from
  Gen/Index.lean, which the translator regenerates from /repo on every run, so a change of one of them
  in the source re-checks (and, when it matters, breaks) the proofs below.
  Lemmas/ExceptEq.lean is imported for the `decide`d witnesses on `R`-valued results.
-/
import DulwichModel.Lemmas.Index
import DulwichModel.Lemmas.ExceptEq

namespace Dulwich.Props.C11
open Dulwich Dulwich.Index Dulwich.Gen.Index

/-! ## 0. The layout facts the hand-written model hard-wires -/

/-- The struct layouts, field order, header shape and thresholds that `Model/Index.lean` assumes
structurally (the numeric constants are imported, these shapes are not).  If the source changes one
of them the build stops, here or already in Lemmas/Index.lean: the model no longer describes the code. -/
theorem gen_layout_as_modelled :
    entryWriteFmt = [4, 4, 4, 4, 4, 4, 20, 2] ∧ entryReadFmt = [4, 4, 4, 4, 4, 4, 20, 2] ∧
    entryReadLen = 46 ∧ timeWriteFmt = [4, 4] ∧ timeReadFmt = [4, 4] ∧
    extFlagsWriteFmt = [2] ∧ extFlagsReadFmt = [2] ∧ extLenWriteFmt = [4] ∧ extLenReadFmt = [4] ∧
    headerFmt = [4, 4] ∧ writeHeaderFmt = [4, 4] ∧ magic.length = 4 ∧
    writeStageOrder = [1, 2, 3, 0] ∧
    (readStageNormal, readStageAncestor, readStageThis, readStageOther) = (0, 1, 2, 3) ∧
    flagStageMask = 3 <<< flagStageShift ∧ flagStageShift = 12 ∧
    trailerLen = 20 ∧ shaReadLen = 20 ∧ skipHashZeros = 20 ∧
    shaZeroLen = 20 ∧ wCompressFrom = wCompressFrom2 ∧ wCompressFrom = rCompressFrom ∧
    wExtendedFrom = rExtendedFrom ∧ bumpBelow = wExtendedFrom ∧ bumpTo = wExtendedFrom := by
  decide

/-! ## 1. v4 varint: round trip, and the encoder is git's -/

theorem varint_roundtrip (n : Nat) (rest : Bytes) :
    readVarint (encodeVarint n ++ rest) = .ok (n, rest) :=
  readVarint_encode n rest

theorem varint_roundtrip_buffer (n : Nat) (rest : Bytes) :
    decodeVarint (encodeVarint n ++ rest) = .ok (n, rest) :=
  (decodeVarintAux_eq _ 0).trans (readVarint_encode n rest)

example : encodeVarint 300 = [129, 44] ∧ readVarint ([129, 44] ++ [9]) = .ok (300, [9]) := by decide

/-- **The encoder is git's** (`varint.c: encode_varint`, transcribed independently as `gitEncodeVarint`
and tied to C git itself by the `git.varint` stream): equality for every natural. -/
theorem varint_is_git_varint (n : Nat) : encodeVarint n = gitEncodeVarint n :=
  encodeVarintAux_eq_git _ _ _

/-- … and git's decoder (`decode_varint`, without its overflow check) reads what the code writes: it is the
stream decoder (`gitDecodeVarint_eq`, on every input), so this holds of every `n` and every continuation, not
only of the listed ones. -/
theorem git_reads_varint_sample :
    ∀ n ∈ [0, 1, 127, 128, 129, 255, 256, 16383, 16384, 16511, 16512, 16513, 2113663, 2113664, 4294967296],
      gitDecodeVarint (encodeVarint n ++ [5]) = some (n, [5]) :=
  fun n _ => by rw [gitDecodeVarint_eq, readVarint_encode]; rfl

/-- Regression witness on the code before the repair: the plain little-endian base-128 varint differs
from git's from 128 on, and git decodes it to a different number. -/
theorem old_varint_git_counterexample :
    Old.encodeVarint 128 = [0x80, 0x01] ∧ gitEncodeVarint 128 = [0x80, 0x00] ∧
    gitDecodeVarint (Old.encodeVarint 128) = some (129, []) ∧ encodeVarint 128 = [0x80, 0x00] := by decide

/-! ## 2. v4 path prefix compression round trip -/

/-- For every path without a NUL byte and *every* previous path (no relation between the two is
needed), decompressing what `_compress_path` produced gives the path back and consumes exactly
the encoding — stream reader (`_decompress_path_from_stream`, the one `read_cache_entry` uses). -/
theorem path_compress_roundtrip (path prev rest : Bytes) (h : (0 : UInt8) ∉ path) :
    decompressPathStream prev (compressPath path prev ++ rest) = .ok (path, rest) :=
  decompressPathStream_compress path prev rest h

/-- Same for the buffer reader `_decompress_path`. -/
theorem path_compress_roundtrip_buffer (path prev rest : Bytes) (h : (0 : UInt8) ∉ path) :
    decompressPath prev (compressPath path prev ++ rest) = .ok (path, rest) :=
  (decompressPath_eq _ _).trans (decompressPathStream_compress path prev rest h)

example : compressPath [97, 47, 99] [97, 47, 98, 98] = [2, 99, 0] ∧
    decompressPathStream [97, 47, 98, 98] [2, 99, 0, 7] = .ok ([97, 47, 99], [7]) ∧
    (compressPath [98] (List.replicate 200 97)).take 2 = [0x80, 0x48] := by decide +kernel

/-- The NUL hypothesis is necessary: a path containing NUL does not survive (git paths never do). -/
theorem path_with_nul_counterexample :
    decompressPathStream [] (compressPath [97, 0, 98] []) ≠ .ok ([97, 0, 98], []) := by decide

/-! ## 3. Padding -/

/-- An entry of `n` bytes (fixed part + name) gets between 1 and 8 NUL bytes and ends on a multiple
of 8; reader and writer compute the same amount. -/
theorem pad_between_1_and_8 (n : Nat) :
    1 ≤ padLenWrite n ∧ padLenWrite n ≤ 8 ∧ (n + padLenWrite n) % 8 = 0 ∧ padLenRead n = padLenWrite n := by
  have h := padLenWrite_eq n
  exact ⟨by omega, by omega, by omega, padLenRead_eq_write n⟩

/-! ## 4. One entry: write then read, versions 2, 3 and 4 (and any other version number) -/

/-- **Entry round trip.**  `write_cache_entry` succeeds and `read_cache_entry` on its output followed by
anything returns exactly the normal form of the entry and leaves exactly the trailing bytes — for every
version number, every previous path, **names of any length, sizes, times, dev and ino of any magnitude**.
`WFEntry` only asks for what a git index entry is: no NUL in the path (below version 4 only beyond byte 4095
matters), `mode`/`uid`/`gid` that fit their 32-bit fields, a 20-byte id, 16-bit flag words, extended flags only
from version 3. -/
theorem entry_roundtrip (v : Nat) (prev : Bytes) (e : Entry) (h : WFEntry v e) :
    ∃ b, writeCacheEntry v prev e = .ok b ∧
      ∀ rest, readCacheEntry v prev (b ++ rest) = .ok (normEntry e, rest) :=
  ⟨entryBytes v prev e, writeCacheEntry_ok prev h, fun rest => readCacheEntry_entryBytes prev rest h⟩

/-- **Exactly what comes back.**  Name, mode, uid, gid, id and extended flags are untouched; size, dev,
ino and both halves of each time are reduced modulo 2^32 (what C git's `unsigned int` stat fields hold);
an `int` time `t` comes back as `(t mod 2^32, 0)`; the stage and assume-valid bits of the flags are kept,
the name-length bits cleared, the "extended" bit set when there are extended flags. -/
theorem normEntry_fields (e : Entry) :
    (normEntry e).name = e.name ∧ (normEntry e).mode = e.mode ∧ (normEntry e).uid = e.uid ∧
    (normEntry e).gid = e.gid ∧ (normEntry e).sha = e.sha ∧ (normEntry e).ext = e.ext ∧
    (normEntry e).size = e.size % 4294967296 ∧ (normEntry e).dev = e.dev % 4294967296 ∧
    (normEntry e).ino = e.ino % 4294967296 ∧
    (normEntry e).ctime = normTime e.ctime ∧ (normEntry e).mtime = normTime e.mtime ∧
    (∀ t, normTime (.int t) = .pair (t % 4294967296) 0) ∧
    (∀ s n, normTime (.pair s n) = .pair (s % 4294967296) (n % 4294967296)) ∧
    (normEntry e).flags = 4096 * (e.flags / 4096 ||| (if e.ext ≠ 0 then 4 else 0)) :=
  ⟨rfl, rfl, rfl, rfl, rfl, rfl, rfl, rfl, rfl, rfl, rfl, fun _ => rfl, fun _ _ => rfl, normFlags_eq e⟩

/-- Entries that are already in the reader's form (what `Index.read` hands out: pairs, everything below
2^32) come back equal. -/
theorem entry_roundtrip_canonical (v : Nat) (prev : Bytes) (e : Entry) (h : WFEntry v e) (hc : Canonical e) :
    ∃ b, writeCacheEntry v prev e = .ok b ∧ ∀ rest, readCacheEntry v prev (b ++ rest) = .ok (e, rest) := by
  obtain ⟨b, hw, hr⟩ := entry_roundtrip v prev e h
  refine ⟨b, hw, fun rest => ?_⟩
  rw [hr rest, normEntry_of_canonical h.2.2.2.2.2.2.1 hc]

/-- The statement in the property's own terms: every entry with a NUL-free name of any length and size,
times, dev and ino of any magnitude round-trips in versions 2..4, the size coming back modulo 2^32 and the stage
unchanged. -/
def EntryRoundtripStatement : Prop :=
  ∀ (v : Nat) (prev : Bytes) (e : Entry), 2 ≤ v → v ≤ 4 → (0 : UInt8) ∉ e.name →
    e.mode < 4294967296 → e.uid < 4294967296 → e.gid < 4294967296 →
    e.sha.length = 20 → e.flags < 65536 → e.ext < 65536 →
    ((e.ext ≠ 0 ∨ e.flags &&& flagExtended ≠ 0) → 3 ≤ v) →
    ∃ b, writeCacheEntry v prev e = .ok b ∧
      ∀ rest, ∃ e', readCacheEntry v prev (b ++ rest) = .ok (e', rest) ∧ e'.name = e.name ∧
        e'.size = e.size % 4294967296 ∧ entryStage e' = entryStage e

theorem entry_roundtrip_statement : EntryRoundtripStatement := by
  intro v prev e _ _ hnul hm hu hg hsha hf hx hv
  have hwf : WFEntry v e :=
    ⟨fun _ => hnul, fun _ hm' => hnul (List.mem_of_mem_drop hm'), hm, hu, hg, hsha, hf, hx, hv⟩
  obtain ⟨b, hw, hr⟩ := entry_roundtrip v prev e hwf
  exact ⟨b, hw, fun rest => ⟨normEntry e, hr rest, rfl, rfl, stage_normEntry e⟩⟩

/-- Non-vacuity: a 5000-byte non-UTF-8 name, size and time above 2^32, 64-bit inode, conflict stage 2
with assume-valid, skip-worktree + intent-to-add, in versions 3 and 4 (version 2 cannot hold extended
flags). -/
def exEntry : Entry :=
  { name := List.replicate 4999 0xff ++ [0x2f], ctime := .pair 4294967295 999999999, mtime := .int 8589934599,
    dev := 4294967295, ino := 1099511627776 + 6, mode := 0o100755, uid := 4294967295, gid := 0,
    size := 4294967296 + 9, sha := List.replicate 20 0xab, flags := 0x8000 + 0x2000 + 0x4000, ext := 0x6000 }

-- The name is not walked: that it has no NUL follows from what it is made of.
example : WFEntry 3 exEntry ∧ WFEntry 4 exEntry ∧ ¬ WFEntry 2 exEntry := by
  have hnul : (0 : UInt8) ∉ exEntry.name := fun h =>
    (List.mem_append.mp h).elim (fun h => absurd (List.eq_of_mem_replicate h) (by decide))
      fun h => absurd (List.mem_singleton.mp h) (by decide)
  exact ⟨wfEntry_of_name hnul (by decide), wfEntry_of_name hnul (by decide),
    fun ⟨_, _, _, _, _, _, _, _, hv⟩ => absurd (hv (Or.inl (by decide))) (by decide)⟩

example : (normEntry exEntry).flags = 0xE000 ∧ (normEntry exEntry).ino = 6 ∧ (normEntry exEntry).size = 9 ∧
    (normEntry exEntry).mtime = .pair 7 0 :=
  ⟨(normFlags_eq exEntry).trans (by decide), by decide, by decide, by decide⟩

/-- The round trip where the 12-bit length field saturates: a 4096-byte name in versions 2 and 4 comes back
whole, at stage 0.  An instance of `entry_roundtrip`; the `Old` witnesses below are the same computation on
the code before the repair. -/
theorem long_name_evaluated :
    (writeCacheEntry 2 [] { exEntry with name := List.replicate 4096 97, flags := 0, ext := 0 } >>= fun b =>
      readCacheEntry 2 [] b >>= fun r => pure (r.1.name.length, entryStage r.1, r.2)) = .ok (4096, 0, []) ∧
    (writeCacheEntry 4 [] { exEntry with name := List.replicate 4096 97, flags := 0, ext := 0 } >>= fun b =>
      readCacheEntry 4 [] b >>= fun r => pure (r.1.name.length, entryStage r.1, r.2)) = .ok (4096, 0, []) := by
  have hnul : (0 : UInt8) ∉ List.replicate 4096 97 := fun h => absurd (List.eq_of_mem_replicate h) (by decide)
  have rt : ∀ {v e}, WFEntry v e → (writeCacheEntry v [] e >>= fun b =>
      readCacheEntry v [] b >>= fun r => pure (r.1.name.length, entryStage r.1, r.2)) =
        .ok (e.name.length, entryStage e, []) := fun {v e} h => by
    obtain ⟨b, hw, hr⟩ := entry_roundtrip v [] e h
    have hr := hr []
    rw [List.append_nil] at hr
    rw [hw, bind_ok, hr, bind_ok, stage_normEntry]; rfl
  exact ⟨(rt (wfEntry_of_name hnul (by decide))).trans (by rw [List.length_replicate]; rfl),
    (rt (wfEntry_of_name hnul (by decide))).trans (by rw [List.length_replicate]; rfl)⟩

/-! ### Regression witnesses on the code before the repair (`namespace Old`) -/

/-- A 4096-byte name with small stat values (so that the old writer gets as far as the name). -/
def exLongName : Entry :=
  { exEntry with name := List.replicate 4096 97, flags := 0, ext := 0, size := 9, mtime := .int 1 }

theorem exLongName_word : OldWord4096 exLongName :=
  ⟨by rw [Old.diskFlags, show exLongName.name.length = 4096 from List.length_replicate]; decide,
    by decide, by decide, by decide, by decide, by decide, by decide, by decide⟩

/-- Before: a 4096-byte name in version 2 was read back as an empty name at stage 1 … -/
theorem old_long_name_counterexample_v2 :
    (Old.writeCacheEntry 2 [] exLongName >>= fun b =>
      Old.readCacheEntry 2 [] b >>= fun r => pure (r.1.name, entryStage r.1)) = .ok ([], 1) :=
  oldWord4096_v2 exLongName_word

/-- … and in version 4 the name survived but the entry came back at stage 1 (conflicted). -/
theorem old_long_name_counterexample_v4 :
    (Old.writeCacheEntry 4 [] exLongName >>= fun b =>
      Old.readCacheEntry 4 [] b >>= fun r => pure (r.1.name.length, entryStage r.1, r.2)) = .ok (4096, 1, []) :=
  (oldWord4096_v4 exLongName_word fun h => absurd (List.eq_of_mem_replicate h) (by decide)).trans
    (by rw [show exLongName.name.length = 4096 from List.length_replicate])

/-- Before: a size of 2^32, or a time of 2^32, was not written at all (`struct.error`); now both are. -/
theorem old_big_size_counterexample :
    Old.writeCacheEntry 2 [] { exEntry with name := [97], flags := 0, ext := 0, mtime := .int 1, size := 4294967296 } = .error .struct ∧
    Old.writeCacheEntry 2 [] { exEntry with name := [97], flags := 0, ext := 0, mtime := .int 4294967296, size := 1 } = .error .struct ∧
    (writeCacheEntry 2 [] { exEntry with name := [97], flags := 0, ext := 0, mtime := .int 4294967296, size := 4294967296 }).toBool = true := by
  decide +kernel

/-! ### The (sec, nsec) of a nanosecond counter (`index_entry_from_stat`) -/

/-- `index_entry_from_stat` narrows nothing, and does not need to: whatever the file size and the
timestamps, the entry it builds is written and comes back with size and times modulo 2^32. -/
theorem from_stat_roundtrip (v : Nat) (prev : Bytes) (c m dev ino mode uid gid size : Nat) (sha : Bytes)
    (hv : v < 4) (hmode : mode < 4294967296) (hu : uid < 4294967296) (hg : gid < 4294967296) (hsha : sha.length = 20) :
    ∃ b, writeCacheEntry v prev (entryFromStat c m dev ino mode uid gid size sha) = .ok b ∧
      ∀ rest, ∃ e', readCacheEntry v prev (b ++ rest) = .ok (e', rest) ∧ e'.size = size % 4294967296 ∧
        e'.mtime = .pair (m / 1000000000 % 4294967296) (m % 1000000000 % 4294967296) := by
  obtain ⟨b, hw, hr⟩ := entry_roundtrip v prev _ (wfEntry_entryFromStat v hmode hu hg hsha)
  exact ⟨b, hw, fun rest => ⟨_, hr rest, rfl, rfl⟩⟩

/-- `timespecOfNs ns` is **the unique** `(s, n)` with `0 ≤ n < 10^9` and `s·10^9 + n = ns` — for every
integer, negative ones (pre-1970) included.  So the whole second comes from the nanosecond counter
alone; no float view of the same timestamp (which rounds *up* within ~120 ns below a second at today's
dates) has a say. -/
theorem timespec_unique (ns s n : Int) :
    (0 ≤ n ∧ n < 1000000000 ∧ s * 1000000000 + n = ns) ↔ (s, n) = timespecOfNs ns := by
  unfold timespecOfNs
  constructor
  · rintro ⟨h0, h1, h2⟩
    have : s = ns / 1000000000 ∧ n = ns % 1000000000 := by omega
    rw [this.1, this.2]
  · intro h
    simp only [Prod.mk.injEq] at h
    omega

/-- Floor, not truncation: one nanosecond before the epoch is `(-1, 999999999)`, whereas truncating
gives `(0, -1)`, which is no timespec; and the instant `-1.5 s` is `(-2, 500000000)`, stored as
`(2^32 - 2, 500000000)`. -/
theorem timespec_floor_not_trunc_counterexample :
    timespecOfNs (-1) = (-1, 999999999) ∧ truncTimespecOfNs (-1) = (0, -1) ∧
    timespecOfNs (-1500000000) = (-2, 500000000) ∧ truncTimespecOfNs (-1500000000) = (-1, -500000000) ∧
    timeWords (timespecOfNs (-1500000000)) = (4294967294, 500000000) := by decide

example : timespecOfNs 1790000000999999900 = (1790000000, 999999900) := by decide

/-! ## 5. The entry loop and the whole file -/

/-- **Index round trip.**
For a dictionary `d`, extensions `xs`, requested version `ver` (or none), skip-hash on or off and
*any* hash function `H` with 20-byte output: `Index.write` succeeds; `Index(path)` on the bytes
accepts the checksum, reports the version `write_index` chose (`effectiveVersion`: bumped to 3 iff an
extended flag is present and the request was below 3), reports the non-empty extensions in order
(`fromRaw`: TREE/REUC/sdir payloads parse to nothing, every other signature is carried opaquely;
`WFExt`: a known signature or one that starts with `A..Z`),
and its dictionary is the reader's dictionary-building loop run over the *normal forms of the
entries in the order they were written* — path bytes ascending, then stage (§6 below). -/
theorem index_roundtrip (H : Bytes → Bytes) (hH : ∀ x, (H x).length = 20) (skipHash : Bool)
    (ver : Option Nat) (d : Dict) (xs : List Ext)
    (hv : versions.contains (effectiveVersion ver (flattenDict d)) = true)
    (hn : (flattenDict d).length < 4294967296)
    (hes : ∀ e ∈ flattenDict d, WFEntry (effectiveVersion ver (flattenDict d)) e)
    (hxs : ∀ x ∈ xs, WFExt x) :
    ∃ file, indexWrite H skipHash ver d xs = .ok file ∧
      indexRead H file =
        (match foldAdd [] ((flattenDict d).map normEntry) with
         | .ok dict => .ok (dict, effectiveVersion ver (flattenDict d),
                            (xs.filter fun x => !x.2.isEmpty).map fun x => fromRaw x.1 x.2)
         | .error x => .error x) := by
  have hxs' : ∀ x ∈ xs.filter (fun x => !x.2.isEmpty), WFExt x := fun x hx => hxs x (List.mem_filter.mp hx).1
  refine ⟨_, indexWrite_ok H skipHash hv hn hes hxs, ?_⟩
  cases skipHash with
  | true =>
    exact indexRead_body_trailer H hv hn hes hxs' rfl (checkSha_zeros H _)
  | false =>
    exact indexRead_body_trailer H hv hn hes hxs' (hH _) (checkSha_hash H hH allowEmpty _)

/-- The version rule of `write_index`, spelled out. -/
theorem version_rule (ver : Option Nat) (es : List Entry) :
    effectiveVersion ver es =
      (if (∃ e ∈ es, e.ext ≠ 0) ∧ ver.getD 2 < 3 then 3 else ver.getD 2) := by
  simp only [effectiveVersion, defaultVersion, bumpBelow, bumpTo, List.any_eq_true, decide_eq_true_eq]

/-- **The dictionary that comes back** (closing the gap left by `index_roundtrip`): for a
Python dictionary (distinct keys, of any length), the reader's
dictionary-building loop over the written entries yields exactly the input dictionary *sorted by
path*, every value replaced by its normal form (`normVal`: entries normalised as in §4 with the
stage forced by the slot; a `ConflictedIndexEntry` keeps its three slots, missing stages stay
missing; a conflict with no stage at all contributes nothing and disappears).  In particular no
`AssertionError("Non-conflicted entry … exists")` can arise from what `write_index_dict` wrote. -/
theorem dict_roundtrip (d : Dict) (hnd : (keys d).Nodup) :
    foldAdd [] ((flattenDict d).map normEntry) = .ok ((sortDict d).filterMap fun kv => normVal kv.1 kv.2) := by
  have hp : (keys (sortDict d)).Perm (keys d) := (sortDict_perm d).map _
  simpa [flattenDict] using
    foldAdd_flatten (sortDict d) [] (fun _ _ h => nomatch h) (hp.nodup_iff.mpr hnd)

/-- **Index round trip, dictionary level.**  `Index.write` then
`Index(path)`: same keys (minus empty conflicts) in git's order, every value in normal form, the
version of the `write_index` rule, the non-empty extensions — for every hash function with 20-byte
output, with and without skip-hash. -/
theorem index_roundtrip_dict (H : Bytes → Bytes) (hH : ∀ x, (H x).length = 20) (skipHash : Bool)
    (ver : Option Nat) (d : Dict) (xs : List Ext) (hnd : (keys d).Nodup)
    (hv : versions.contains (effectiveVersion ver (flattenDict d)) = true)
    (hn : (flattenDict d).length < 4294967296)
    (hes : ∀ e ∈ flattenDict d, WFEntry (effectiveVersion ver (flattenDict d)) e)
    (hxs : ∀ x ∈ xs, WFExt x) :
    ∃ file, indexWrite H skipHash ver d xs = .ok file ∧
      indexRead H file = .ok ((sortDict d).filterMap (fun kv => normVal kv.1 kv.2),
        effectiveVersion ver (flattenDict d), (xs.filter fun x => !x.2.isEmpty).map fun x => fromRaw x.1 x.2) := by
  obtain ⟨file, hw, hr⟩ := index_roundtrip H hH skipHash ver d xs hv hn hes hxs
  refine ⟨file, hw, ?_⟩
  rw [hr, dict_roundtrip d hnd]

/-- Non-vacuity of §5: a three-way conflict with a missing stage next to a plain entry with
skip-worktree, version requested 2 (written as 3); extensions `ABCD`, `sdir`, `Xy1z` (well-formed) and
`link` (not). -/
def exDict : Dict :=
  [([98], .normal { exEntry with name := [], flags := 0, ext := 0x4000 }),
   ([97, 47, 120], .conflict (some { exEntry with name := [], ext := 0 }) none
                              (some { exEntry with name := [], ext := 0, flags := 0, mode := 0o120000 }))]

example : effectiveVersion (some 2) (flattenDict exDict) = 3 ∧
    (∀ e ∈ flattenDict exDict, WFEntry 3 e) ∧
    (flattenDict exDict).map (fun e => (e.name, entryStage e)) = [([97, 47, 120], 1), ([97, 47, 120], 3), ([98], 0)] ∧
    WFExt ([65, 66, 67, 68], [1, 2, 3]) ∧ WFExt (sdirSig, []) ∧ WFExt ([88, 121, 49, 122], [0]) ∧
    ¬ WFExt ([108, 105, 110, 107], [0]) := by decide +kernel

example : (keys exDict).Nodup ∧
    ((sortDict exDict).filterMap fun kv => normVal kv.1 kv.2).map (·.1) = [[97, 47, 120], [98]] := by
  decide +kernel

/-! ## 6. Order: path bytes, then stage -/

/-- `sorted(entries)` as modelled is a sorting function: its output is ordered by `bytes.__lt__`
(no later key is smaller than an earlier one) … -/
theorem order_is_git_order (d : Dict) :
    (sortDict d).Pairwise (fun a b => bytesLt b.1 a.1 = false) :=
  (sortDict_sorted d).imp bytesLt_eq_false.mpr

/-- … and it is a permutation of the dictionary (nothing lost, nothing invented). -/
theorem sort_is_permutation (d : Dict) : (sortDict d).Perm d :=
  sortDict_perm d

/-- Within one path the stages are written in increasing order 1, 2, 3 (present ones only), each
serialised entry carries the dictionary key as its name and exactly its stage — whatever stage bits
the caller left in `flags` — and a plain entry is written with stage 0. -/
theorem stages_in_order (k : Bytes) (a t o : Option Entry) :
    (flattenVal k (.conflict a t o)).map (fun x => (x.name, entryStage x)) =
      (a.map fun _ => (k, 1)).toList ++ (t.map fun _ => (k, 2)).toList ++ (o.map fun _ => (k, 3)).toList := by
  have h : ∀ (x : Option Entry) (s : Nat), s ≤ 3 →
      (x.map fun e => serialize e k s).toList.map (fun x => (x.name, entryStage x)) = (x.map fun _ => (k, s)).toList :=
    fun x s hs => by
      cases x with
      | none => rfl
      | some e => simp [serialize_stage e k s hs, serialize_name]
  simp only [flattenVal_conflict, List.map_append, h _ 1 (by decide), h _ 2 (by decide), h _ 3 (by decide)]

theorem plain_entry_stage_zero (k : Bytes) (e : Entry) :
    (flattenVal k (.normal e)).map (fun x => (x.name, entryStage x)) = [(k, 0)] := by
  simp [flattenVal_normal, serialize_stage e k 0 (by decide), serialize_name]

/-- `bytes.__lt__` as modelled is git's `cache_name_compare` order — memcmp on the common length,
then the shorter name first: it is a strict total order (asymmetric, transitive, trichotomous) in
which a proper prefix is smaller and the first differing byte decides. -/
theorem bytesLt_is_memcmp_then_length :
    (∀ a b, bytesLt a b = true → bytesLt b a = false) ∧
    (∀ a b c, bytesLt a b = true → bytesLt b c = true → bytesLt a c = true) ∧
    (∀ a b, a = b ∨ bytesLt a b = true ∨ bytesLt b a = true) ∧
    (∀ a y t, bytesLt a (a ++ y :: t) = true) ∧
    (∀ p x y s t, x < y → bytesLt (p ++ x :: s) (p ++ y :: t) = true) :=
  ⟨fun _ _ h => bytesLt_eq_false.mpr (List.le_of_lt (bytesLt_iff_lt.mp h)),
    fun _ _ _ h1 h2 => bytesLt_iff_lt.mpr (List.lt_trans (bytesLt_iff_lt.mp h1) (bytesLt_iff_lt.mp h2)),
    fun a b => by
      rw [bytesLt_iff_lt, bytesLt_iff_lt]
      exact (Std.lt_trichotomy a b).elim (.inr ∘ .inl) (·.elim .inl (.inr ∘ .inr)),
    fun a y t => bytesLt_iff_lt.mpr (by simpa using List.append_left_lt (l₁ := a) (List.nil_lt_cons y t)),
    fun _ _ _ _ _ h => bytesLt_iff_lt.mpr (List.append_left_lt (List.cons_lt_cons_iff.mpr (.inl h)))⟩

/-! ## 7. Checksum -/

/-- The statement "damage is detected" at the level that needs no assumption on `H`: when `Index.read`
accepts a file, the 20 bytes after the parsed part are the hash of exactly the bytes that went through the
reader, or they are 20 zero bytes (skip-hash). -/
def ChecksumStatement : Prop :=
  ∀ (H : Bytes → Bytes) (file : Bytes) (r : Dict × Nat × List Ext), indexRead H file = .ok r →
    ∃ dict v exts rest hashed, readIndexDict file = .ok (dict, v, exts, rest, hashed) ∧
      hashed = file.take (file.length - rest.length) ∧
      (rest.take 20 = H hashed ∨ rest.take 20 = zeros20)

/-- No third case.  In particular a file that lost any part of its trailer, or whose
parsed part swallowed some of it, is rejected — `rest.take 20` then has fewer than 20 bytes and can equal
neither a 20-byte hash nor 20 zeros. -/
theorem checksum_accept_cases : ChecksumStatement := by
  intro H file r h
  unfold indexRead at h
  cases hr : readIndexDict file with
  | error e => rw [hr] at h; cases h
  | ok val =>
    obtain ⟨dict, v, exts, rest, hashed⟩ := val
    rw [hr] at h
    simp only at h
    refine ⟨dict, v, exts, rest, hashed, rfl, readIndexDict_hashed hr, ?_⟩
    by_cases hc : checkSha H allowEmpty hashed rest = true
    · exact ((checkSha_true_iff H allowEmpty hashed rest).1 hc).imp id And.right
    · rw [if_neg hc] at h; cases h

/-- A file with a 19-byte trailer is rejected, for every hash function with 20-byte output (`checkSha_short` for any
short trailer; cf. the witness below). -/
theorem short_trailer_rejected (H : Bytes → Bytes) (hH : ∀ x, (H x).length = 20) :
    indexRead H ([68, 73, 82, 67, 0, 0, 0, 2, 0, 0, 0, 0] ++ List.replicate 19 7) = .error .checksum := by
  have h : readIndexDict ([68, 73, 82, 67, 0, 0, 0, 2, 0, 0, 0, 0] ++ List.replicate 19 7) =
      .ok ([], 2, [], List.replicate 19 7, [68, 73, 82, 67, 0, 0, 0, 2, 0, 0, 0, 0]) := rfl
  rw [indexRead, h]
  exact if_neg (checkSha_short H hH _ _ (by decide))

/-- Regression witness on the code before the repair: the same truncated file was accepted, whatever the
hash function. -/
theorem old_short_trailer_counterexample (H : Bytes → Bytes) :
    Old.indexRead H ([68, 73, 82, 67, 0, 0, 0, 2, 0, 0, 0, 0] ++ List.replicate 19 7) = .ok ([], 2, []) := by
  have h : Old.readIndexDict ([68, 73, 82, 67, 0, 0, 0, 2, 0, 0, 0, 0] ++ List.replicate 19 7) =
      .ok ([], 2, [], List.replicate 19 7, [68, 73, 82, 67, 0, 0, 0, 2, 0, 0, 0, 0]) := rfl
  unfold Old.indexRead
  rw [h]
  have hc : Old.checkSha H allowEmpty [68, 73, 82, 67, 0, 0, 0, 2, 0, 0, 0, 0] (List.replicate 19 7) = true := by
    have hl : ¬ (((List.replicate 19 (7 : UInt8)).take shaReadLen).length = 20) := by decide
    unfold Old.checkSha
    simp only [hl, decide_false, Bool.false_and, allowEmpty, Bool.not_true, Bool.false_or, Bool.and_false,
      Bool.not_false]
  simp only [hc, if_true]

/-- An index with git's `sdir` extension (sparse index) and a correct checksum is read, and the
extension is reported — for any hash function. -/
theorem lowercase_extension_read (H : Bytes → Bytes) (hH : ∀ x, (H x).length = 20) :
    indexRead H (fileBody 2 [] [(sdirSig, [])] ++ H (fileBody 2 [] [(sdirSig, [])])) =
      .ok ([], 2, [(sdirSig, [])]) := by
  have h := indexRead_body_trailer H (v := 2) (es := []) (xs := [(sdirSig, [])])
    (trailer := H (fileBody 2 [] [(sdirSig, [])])) (by decide) (by decide) (by intro e he; cases he)
    (by intro x hx; simp only [List.mem_singleton] at hx; subst hx; decide) (hH _)
    (checkSha_hash H hH allowEmpty _)
  rw [h]; rfl

/-- An unknown extension that is not optional (`link` of a split index) is refused with
`UnsupportedIndexExtension`, not with a checksum error and not silently. -/
theorem mandatory_extension_refused :
    indexRead (fun _ => List.replicate 20 9)
      (fileBody 2 [] [([108, 105, 110, 107], [1, 2])] ++ List.replicate 20 9) = .error .unsupportedExt := by
  -- the parser refuses before anything is hashed: the hash function plays no part
  have h : readIndexDict (fileBody 2 [] [([108, 105, 110, 107], [1, 2])] ++ List.replicate 20 9) =
      .error .unsupportedExt := rfl
  rw [indexRead, h]

/-- Regression witness on the code before the repair: the correct sparse-index file above failed with
`ChecksumMismatch` (the four signature bytes were hashed, then un-read).  Evaluated with a stand-in hash. -/
theorem old_lowercase_extension_counterexample :
    Old.indexRead (fun _ => List.replicate 20 9) (fileBody 2 [] [(sdirSig, [])] ++ List.replicate 20 9)
      = .error .checksum ∧
    indexRead (fun _ => List.replicate 20 9) (fileBody 2 [] [(sdirSig, [])] ++ List.replicate 20 9)
      = .ok ([], 2, [(sdirSig, [])]) :=
  ⟨by decide +kernel, by decide +kernel⟩

end Dulwich.Props.C11
