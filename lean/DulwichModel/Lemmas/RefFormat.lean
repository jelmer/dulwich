/-
  Lemmas for the ref-name model (C16): `hasInfix` is `<:+:`; `splitOnByte` and `joinWith` are inverse on lists of
  separator-free components (`exists_join_iff`: in the form of `GitRefRules.comps`); no test list raises on a non-empty
  name; what each kind of `RefTest` checks; `checkRefFormat_unfold`, the generated test list
  of `check_ref_format` read as one conjunction — the form Props/C16.lean compares with `GitRefRules`; and
  `badRefChars_iff`, the generated BAD_REF_CHARS against the characters that `GitRefRules.chars` lists.
-/
import DulwichModel.Model.RefFormat
namespace Dulwich.RefFormat
open Dulwich Dulwich.Gen.Refs

theorem hasInfix_iff (pat l : Bytes) : hasInfix pat l = true ↔ pat <:+: l := by
  induction l with
  | nil => simp [hasInfix]
  | cons b rest ih =>
    simp only [hasInfix, Bool.or_eq_true, ih, List.isPrefixOf_iff_prefix, List.infix_cons_iff]

theorem singleton_infix_iff (b : UInt8) (l : Bytes) : [b] <:+: l ↔ b ∈ l :=
  ⟨fun ⟨s, t, h⟩ => by simp [← h], fun h => let ⟨s, t, h⟩ := List.append_of_mem h; ⟨s, t, by simp [h]⟩⟩

theorem join_split (sep : UInt8) (l : Bytes) : joinWith sep (splitOnByte sep l) = l := by
  unfold splitOnByte
  induction l with
  | nil => simp [splitFirst, joinWith]
  | cons b rest ih =>
    simp only [splitFirst]
    split
    · rename_i h; subst h
      simp only [joinWith, List.nil_append, ih]
    · generalize hr : splitFirst sep rest = r at ih
      obtain ⟨c, cs⟩ := r
      cases cs with
      | nil => simp [joinWith] at ih ⊢; exact ih
      | cons c' cs => simp [joinWith] at ih ⊢; exact ih

theorem splitFirst_no_sep (sep : UInt8) (l : Bytes) :
    sep ∉ (splitFirst sep l).1 ∧ ∀ c ∈ (splitFirst sep l).2, sep ∉ c := by
  induction l with
  | nil => simp [splitFirst]
  | cons b rest ih =>
    simp only [splitFirst]
    split
    · simp; exact ih
    · rename_i h
      simp; exact ⟨⟨fun h' => h h'.symm, ih.1⟩, ih.2⟩

theorem split_no_sep (sep : UInt8) (l : Bytes) : ∀ c ∈ splitOnByte sep l, sep ∉ c := by
  intro c hc
  simp only [splitOnByte, List.mem_cons] at hc
  rcases hc with rfl | hc
  · exact (splitFirst_no_sep sep l).1
  · exact (splitFirst_no_sep sep l).2 c hc

theorem splitFirst_append (sep : UInt8) (c rest : Bytes) (hc : sep ∉ c) :
    splitFirst sep (c ++ rest) = (c ++ (splitFirst sep rest).1, (splitFirst sep rest).2) := by
  induction c with
  | nil => rfl
  | cons b c ih =>
    simp only [List.mem_cons, not_or] at hc
    have : ¬ b = sep := fun h => hc.1 h.symm
    simp [splitFirst, ih hc.2, this]

theorem splitFirst_snoc_sep (sep : UInt8) (l : Bytes) : [] ∈ (splitFirst sep (l ++ [sep])).2 := by
  induction l with
  | nil => simp [splitFirst]
  | cons b l ih =>
    simp only [List.cons_append, splitFirst]
    split
    · simp [ih]
    · exact ih

theorem split_join (sep : UInt8) : ∀ (cs : List Bytes), cs ≠ [] → (∀ c ∈ cs, sep ∉ c) →
    splitOnByte sep (joinWith sep cs) = cs := by
  intro cs
  induction cs with
  | nil => intro h; exact absurd rfl h
  | cons c cs ih =>
    intro _ hall
    cases cs with
    | nil =>
      have := splitFirst_append sep c [] (hall c (by simp))
      simp only [splitFirst, List.append_nil] at this
      simp only [joinWith, splitOnByte, this]
    | cons c' cs =>
      have h1 := hall c (by simp)
      have ih' := ih (by simp) (fun x hx => hall x (by simp [hx]))
      simp only [joinWith, splitOnByte] at ih' ⊢
      rw [splitFirst_append sep c _ h1]
      simp only [splitFirst, if_true, List.append_nil, ih']

theorem split_length_of_mem (sep : UInt8) (l : Bytes) (h : sep ∈ l) : 2 ≤ (splitOnByte sep l).length := by
  induction l with
  | nil => simp at h
  | cons b rest ih =>
    simp only [splitOnByte, splitFirst]
    split
    · simp
    · rename_i hb
      simp only [List.mem_cons] at h
      rcases h with h | h
      · exact absurd h.symm hb
      · have := ih h
        simp only [splitOnByte, List.length_cons] at this ⊢
        exact this

theorem mem_join_of_length (sep : UInt8) : ∀ (cs : List Bytes), 2 ≤ cs.length → sep ∈ joinWith sep cs := by
  intro cs h
  match cs, h with
  | c :: c' :: cs, _ => simp [joinWith]

theorem exists_join_iff (sep : UInt8) (n : Bytes) (Q : Bytes → Prop) :
    (∃ cs : List Bytes, 2 ≤ cs.length ∧ n = joinWith sep cs ∧ ∀ c ∈ cs, sep ∉ c ∧ Q c) ↔
      sep ∈ n ∧ ∀ c ∈ splitOnByte sep n, Q c := by
  constructor
  · rintro ⟨cs, hlen, rfl, hcs⟩
    rw [split_join sep cs (fun h => by simp [h] at hlen) fun c hc => (hcs c hc).1]
    exact ⟨mem_join_of_length sep cs hlen, fun c hc => (hcs c hc).2⟩
  · rintro ⟨hm, hq⟩
    exact ⟨_, split_length_of_mem sep n hm, (join_split sep n).symm, fun c hc => ⟨split_no_sep sep n c hc, hq c hc⟩⟩

theorem runTests_cons_true (t : RefTest) (ts : List RefTest) (n : Bytes) :
    runTests (t :: ts) n = some true ↔ runTest n t = some true ∧ runTests ts n = some true := by
  simp only [runTests]
  split <;> simp_all

theorem runTests_nil (n : Bytes) : runTests [] n = some true := rfl

/-- only `refname[-1]` can raise, and only on `b""` -/
theorem runTests_ne_none (ts : List RefTest) {n : Bytes} (hn : n ≠ []) : runTests ts n ≠ none := by
  induction ts with
  | nil => simp [runTests]
  | cons t ts ih =>
    have ht : runTest n t ≠ none := by
      cases t <;> simp [runTest]
      cases h : n.getLast? with
      | none => exact absurd (List.getLast?_eq_none_iff.mp h) hn
      | some c => simp
    simp only [runTests]
    split
    · exact absurd ‹_› ht
    · simp
    · exact ih

-- a `RefTest` is named for what makes it fire (`return False`); `= some true` is falling through, so each reads negated
theorem runTest_eqWhole (n lit : Bytes) : runTest n (.eqWhole lit) = some true ↔ n ≠ lit := by
  simp [runTest]
theorem runTest_lacks (n lit : Bytes) : runTest n (.lacks lit) = some true ↔ lit <:+: n := by
  simp [runTest, hasInfix_iff]
theorem runTest_contains (n lit : Bytes) : runTest n (.contains lit) = some true ↔ ¬ lit <:+: n := by
  simp [runTest, ← hasInfix_iff]
theorem runTest_charLoop (n : Bytes) (limit : Nat) (bad : List UInt8) :
    runTest n (.charLoop limit bad) = some true ↔ ∀ c ∈ n, limit ≤ c.toNat ∧ c ∉ bad := by
  simp [runTest, List.all_eq_true]
theorem runTest_lastIn (n : Bytes) (set : List UInt8) :
    runTest n (.lastIn set) = some true ↔ n ≠ [] ∧ ∀ c ∈ set, ¬ [c] <:+ n := by
  rcases List.eq_nil_or_concat n with rfl | ⟨l, c, rfl⟩
  · simp [runTest]
  · simp [runTest, List.singleton_suffix_iff_getLast?_eq_some]
    exact ⟨fun h c' hc' e => h (e ▸ hc'), fun h hc => h c hc rfl⟩
theorem runTest_components (n : Bytes) (sep : UInt8) (tests : List CompTest) :
    runTest n (.components sep tests) = some true ↔
      ∀ c ∈ splitOnByte sep n, ∀ t ∈ tests, compFires c t = false := by
  simp [runTest, List.all_eq_true]

theorem compFires_empty (c : Bytes) : compFires c .empty = false ↔ c ≠ [] := by
  simp [compFires]
theorem compFires_startsWith (c lit : Bytes) : compFires c (.startsWith lit) = false ↔ ¬ lit <+: c := by
  simp [compFires, ← List.isPrefixOf_iff_prefix]
theorem compFires_endsWith (c lit : Bytes) : compFires c (.endsWith lit) = false ↔ ¬ lit <:+ c := by
  simp [compFires, ← List.isSuffixOf_iff_suffix]

/-- `check_ref_format` as one conjunction, test by test in the order of the generated `checkRefFormatTests` (whose
literals reappear here: this is the lemma that breaks when the translator extracts a different list). -/
theorem checkRefFormat_unfold (n : Bytes) : checkRefFormat n = some true ↔
    (n ≠ b!"@" ∧ (47:UInt8) ∈ n ∧ ¬ (b!".." <:+: n) ∧
     (∀ c ∈ n, 32 ≤ c.toNat ∧ c ∉ badRefChars) ∧
     (n ≠ [] ∧ ¬ (b!"/" <:+ n) ∧ ¬ (b!"." <:+ n)) ∧
     ¬ (b!"@{" <:+: n) ∧ (92:UInt8) ∉ n ∧
     (∀ c ∈ splitOnByte 47 n, c ≠ [] ∧ ¬ (b!"." <+: c) ∧ ¬ (b!".lock" <:+ c))) := by
  unfold checkRefFormat checkRefFormatTests
  simp only [runTests_cons_true, runTests_nil, and_true, runTest_eqWhole, runTest_lacks, runTest_contains,
    runTest_charLoop, runTest_lastIn, runTest_components]
  simp only [singleton_infix_iff, List.forall_mem_cons, compFires_empty, compFires_startsWith, compFires_endsWith,
    List.not_mem_nil, false_imp_iff, implies_true, and_true]

theorem badRefChars_iff (c : UInt8) : c ∉ badRefChars ↔ (c.toNat ≠ 127 ∧ c ∉ b!" ~^:?*[") := by
  have : c.toNat ≠ 127 ↔ c ≠ 127 := by
    constructor
    · intro h h'; subst h'; exact h rfl
    · intro h h'; apply h; exact UInt8.toNat_inj.mp h'
  rw [this]
  simp only [badRefChars, List.mem_cons, List.not_mem_nil, or_false, not_or]
  grind

end Dulwich.RefFormat
