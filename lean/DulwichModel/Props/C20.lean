/-
  C20 — Configuration files round-trip and mean the same to dulwich and git.

  The theorems are the round trips through dulwich's own writer and reader (values, subsections and headers, whole
  files) and the laws of the multi-valued dictionary.  None speaks of git's reader or writer: that git and dulwich read
  each other's files is tested by the harness on every run (harness/props/c20.py), not proved.

  The model is Model/Config.lean; every table and syntax byte it uses comes from Gen/Config.lean, which the translator
  regenerates from /repo on every run.

  Three `fix:` commits of /repo carry these theorems: 6d569a0 (`_format_string` quotes whatever `strip()` would change
  and values containing `;` or CR; CR is written raw), f1ebc7b (`_strip_comments` is escape-aware) and 21a48ab
  (`_parse_string` strips only space, TAB, CR, LF around a value, like git).  The inputs on which the code fails without
  them are the regression theorems (`…_roundtrips`, `…_reads_back`).
-/
import DulwichModel.Lemmas.Config

namespace Dulwich.Props.C20
open Dulwich Dulwich.Config

/-! ## 1. value round trip: `_parse_string(_format_string(v)) == v` for EVERY byte string -/

/-- The statement the property makes about values, in full (no hypothesis at all: NUL, CR, VT, FF,
both comment characters, quotes, backslashes, LF, TAB, blanks anywhere). -/
def valueRoundtripStatement : Prop := ∀ v : Bytes, parseString (formatString v) = .ok v

/-- **Value round trip.** Reading what `_format_string` wrote gives the value back, for every value. -/
theorem value_roundtrip : valueRoundtripStatement := by
  intro v
  have := parseString_format_padded (l := []) (r := []) (by simp) (by simp) v
  rwa [List.nil_append, List.append_nil] at this

/-- the same through the text `from_file` actually hands to `_parse_string` for a line
`\tkey = VALUE\n`: a space, the formatted value, LF -/
theorem value_roundtrip_in_line (v : Bytes) :
    parseString (32 :: (formatString v ++ [10])) = .ok v :=
  parseString_value_line v

/-! ### regression for 6d569a0: values that need the quotes -/

/-- `a;b` is written `"a;b"` -/
theorem semicolon_roundtrips :
    formatString [97, 59, 98] = [34, 97, 59, 98, 34] ∧ parseString (formatString [97, 59, 98]) = .ok [97, 59, 98] :=
  ⟨by decide +kernel, value_roundtrip _⟩

/-- `a<CR>b` is written `"a<CR>b"` (raw CR inside quotes, as git writes it) -/
theorem cr_roundtrips :
    formatString [97, 13, 98] = [34, 97, 13, 98, 34] ∧ parseString (formatString [97, 13, 98]) = .ok [97, 13, 98] :=
  ⟨by decide +kernel, value_roundtrip _⟩

theorem cr_edges_roundtrip : parseString (formatString [13, 32, 13]) = .ok [13, 32, 13] := value_roundtrip _

/-- a leading VT is protected by quotes -/
theorem leading_vt_roundtrips :
    formatString [11, 97] = [34, 11, 97, 34] ∧ parseString (formatString [11, 97]) = .ok [11, 97] :=
  ⟨by decide +kernel, value_roundtrip _⟩

/-- a trailing FF comes back -/
theorem trailing_ff_roundtrips : parseString (formatString [97, 12]) = .ok [97, 12] := value_roundtrip _

/-- regression (21a48ab, reader side): the line git writes for the value `<VT>a` — unquoted, git's
`isspace` does not include VT — is read back with the VT … -/
theorem git_unquoted_vt_value_reads_back :
    parseString [32, 11, 97, 10] = .ok [11, 97] ∧ parseString [32, 97, 32, 12, 10] = .ok [97, 32, 12] := by decide +kernel

/-- … also through the whole reader: `[s]\n\tk = <VT>a\n` -/
theorem git_unquoted_vt_file_reads_back :
    readFile [91, 115, 93, 10, 9, 107, 32, 61, 32, 11, 97, 10] = .ok [(([115], none), [([107], [11, 97])])] := by
  decide +kernel

/-- the reader drops what git drops around a value: space, TAB, CR, LF -/
example : parseString [32, 9, 97, 32, 13, 10] = .ok [97] := by decide +kernel

/-- values that need no quotes are written bare -/
example : formatString [97, 32, 34, 92, 9, 10, 11, 98] = [97, 32, 92, 34, 92, 92, 92, 116, 92, 110, 11, 98] := by decide +kernel
example : parseString (formatString [0, 32, 9, 34, 92, 35, 59, 10, 13, 110, 116, 98, 11, 12, 8, 255, 32])
    = .ok [0, 32, 9, 34, 92, 35, 59, 10, 13, 110, 116, 98, 11, 12, 8, 255, 32] := value_roundtrip _

/-! ## 2. subsections and section headers -/

/-- **Subsection escape round trip**, for every byte string the writer accepts (everything without LF
and NUL — quotes, backslashes, dots, spaces, brackets, comment characters included). -/
theorem subsection_roundtrip (s e : Bytes) (h : escapeSubsection s = .ok e) : unescapeSubsection e = s := by
  rw [escapeSubsection_eq] at h
  split at h
  · cases h; exact unescape_escaped s
  · cases h

/-- the writer accepts every subsection without LF and NUL (git forbids both; for their refusal see
`subsection_lf_refused`) -/
theorem escapeSubsection_total (s : Bytes) (h10 : ¬ 10 ∈ s) (h0 : ¬ 0 ∈ s) : ∃ e, escapeSubsection s = .ok e :=
  ⟨_, by rw [escapeSubsection_eq, wfSubsection_iff.mpr ⟨h10, h0⟩]; rfl⟩

/-- a subsection containing LF or NUL is refused by the writer (ValueError) -/
theorem subsection_lf_refused : escapeSubsection [97, 10] = .error .format ∧ escapeSubsection [0] = .error .format := by
  decide +kernel

example : escapeSubsection [97, 34, 92, 46, 32, 93, 35, 59, 34] = .ok [97, 92, 34, 92, 92, 46, 32, 93, 35, 59, 92, 34] := by
  decide +kernel

/-- The statement the property makes about section headers, in full: for every section name in the
reader's grammar (`isalnum`/`-`/`.`; no `.` when there is no subsection) and EVERY subsection,
whatever header the writer emits is read back as the same section, with nothing left on the line. -/
def headerRoundtripStatement : Prop :=
  ∀ (sec : Section) (hdr : Bytes), checkSectionName sec.1 = true → (sec.2 = none → ¬ 46 ∈ sec.1) →
    writeHeader sec = .ok hdr → parseHeader hdr = .ok (sec, [])

/-- **Header round trip**: the (escape-aware) `_strip_comments` leaves the written line alone, the scan
finds the final `]`, the split finds the name, and unescaping inverts escaping. -/
theorem header_roundtrip : headerRoundtripStatement := by
  intro sec hdr hn hdot hw
  rw [writeHeader_eq] at hw
  split at hw <;> cases hw
  exact parseHeader_headerLine sec hn hdot

/-- regression for f1ebc7b: `(s, a"#b)` is written `[s "a\"#b"]` and read back -/
theorem quote_hash_subsection_roundtrips :
    writeHeader ([115], some [97, 34, 35, 98]) = .ok [91, 115, 32, 34, 97, 92, 34, 35, 98, 34, 93, 10] ∧
    parseHeader [91, 115, 32, 34, 97, 92, 34, 35, 98, 34, 93, 10] = .ok (([115], some [97, 34, 35, 98]), []) := by
  decide +kernel

/-- what the hypothesis on `.` in `headerRoundtripStatement` excludes: `[a.b]` is the legacy spelling of section `a`,
subsection `b` (git reads it the same way), so a one-element section key containing `.` does not come back as such -/
theorem dotted_section_reads_as_subsection :
    parseHeader [91, 97, 46, 98, 93, 10] = .ok (([97], some [98]), []) := by decide +kernel

/-! ## 3. whole files: `ConfigFile.from_file(write_to_file(cfg)) == cfg` -/

/-- names in the reader's grammar and no empty key: what `wfCfg` asks besides subsections without LF/NUL and distinct
sections -/
def namesOk (cfg : Cfg) : Bool :=
  cfg.all fun e => checkSectionName e.1.1 && (e.1.2.isSome || !e.1.1.contains 46) && e.2.all fun kv => wfKey kv.1

/-- The statement the property makes about whole configurations, in full: every configuration — an
ordered list of sections, each with an ordered list of `(key, value)` entries, repeated keys allowed,
ANY values, ANY subsections — whose names are in the reader's grammar, with no empty key, and whose sections are
pairwise different under `lower_key` (what `ConfigDict.set/add` maintain): whenever `write_to_file`
succeeds, `from_file` on its output returns exactly the same ordered structure. -/
def fileRoundtripStatement : Prop :=
  ∀ cfg : Cfg, namesOk cfg = true → distinctSections cfg = true →
    ∀ data, writeFile cfg = .ok data → readFile data = .ok cfg

theorem wfCfg_iff (cfg : Cfg) : wfCfg cfg = true ↔
    namesOk cfg = true ∧ cfg.all (fun e => e.1.2.all wfSubsection) = true ∧ distinctSections cfg = true := by
  simp only [wfCfg, namesOk, wfEntries, Bool.and_eq_true, List.all_eq_true, wfSection_iff]
  constructor
  · rintro ⟨h, hd⟩
    exact ⟨fun e he => ⟨⟨(h e he).1.1, (h e he).1.2.1⟩, (h e he).2⟩, fun e he => (h e he).1.2.2, hd⟩
  · rintro ⟨h, hs, hd⟩
    exact ⟨fun e he => ⟨⟨(h e he).1.1, (h e he).1.2, hs e he⟩, (h e he).2⟩, hd⟩

/-- **Whole-file round trip**: same sections in the same order with their original spelling, same
keys, same values, every multi-valued key with all its values in their original order. -/
theorem file_roundtrip : fileRoundtripStatement := by
  intro cfg hn hd data hw
  rw [writeFile_eq] at hw
  split at hw <;> cases hw
  rename_i hs
  exact readFile_written cfg ((wfCfg_iff cfg).mpr ⟨hn, hs, hd⟩)

/-- under `wfCfg` (names as above, subsections without LF/NUL) the writer does not raise -/
theorem writeFile_total (cfg : Cfg) (h : wfCfg cfg = true) : ∃ data, writeFile cfg = .ok data :=
  ⟨_, by rw [writeFile_eq, if_pos ((wfCfg_iff cfg).mp h).2.1]⟩

/-- non-vacuity: two sections differing only in subsection case, a multi-valued key in three spellings,
a subsection with `#` behind an escaped quote, values with `;`, CR, VT and FF at the edges, `#` -/
example : wfCfg [(([82, 101], some [97, 34, 35, 98]),
                    [([85, 114, 108], [97, 59, 98]), ([117, 114, 108], [13]), ([85, 82, 76], [11, 97, 12])]),
                 (([114, 101], some [65, 34, 35, 98]), [([107], [35])]),
                 (([99, 111, 114, 101], none), [])] = true := by decide +kernel

/-- regression for 6d569a0 through the whole file: `[s] k = a;b` -/
theorem file_semicolon_roundtrips :
    writeFile [(([115], none), [([107], [97, 59, 98])])]
      = .ok [91, 115, 93, 10, 9, 107, 32, 61, 32, 34, 97, 59, 98, 34, 10] ∧
    readFile [91, 115, 93, 10, 9, 107, 32, 61, 32, 34, 97, 59, 98, 34, 10]
      = .ok [(([115], none), [([107], [97, 59, 98])])] := by
  decide +kernel

/-! ## 4. the multi-valued dictionary: `set`/`add`/`remove` refine the association-list spec -/

/-- `add` appends: multi-valued keys keep their order -/
theorem getAll_add (d : Entries) (k v k' : Bytes) :
    entGetAll (entAdd d k v) k' = if sameKey k k' then entGetAll d k' ++ [v] else entGetAll d k' := by
  unfold entGetAll entAdd
  by_cases h : sameKey k k' = true <;> simp [List.filter_append, h]

/-- `set` replaces every value of the key (case-insensitively) by the one new value, others untouched -/
theorem getAll_set (d : Entries) (k v k' : Bytes) :
    entGetAll (entSet d k v) k' = if sameKey k k' then [v] else entGetAll d k' := by
  rw [show entSet d k v = entAdd (d.filter fun e => !sameKey e.1 k) k v from rfl, getAll_add, getAll_filter_ne]
  split <;> rfl

/-- `remove` deletes every value of the key, others untouched -/
theorem getAll_del (d d' : Entries) (k k' : Bytes) (h : entDel d k = .ok d') :
    entGetAll d' k' = if sameKey k k' then [] else entGetAll d k' := by
  unfold entDel at h
  split at h
  · cases h; exact getAll_filter_ne d k k'
  · cases h

/-- `ConfigDict.set`, `add` and `remove` keep the sections pairwise distinct under `lower_key`, so every
configuration built through them from the empty one satisfies that hypothesis of `file_roundtrip` -/
theorem set_keeps_sections_distinct (cfg : Cfg) (sec : Section) (k v : Bytes) (h : distinctSections cfg = true) :
    distinctSections (cfgSet cfg sec k v) = true :=
  distinct_modify _ _ _ (distinct_setDefault cfg sec h)

theorem add_keeps_sections_distinct (cfg : Cfg) (sec : Section) (k v : Bytes) (h : distinctSections cfg = true) :
    distinctSections (cfgAdd cfg sec k v) = true :=
  distinct_modify _ _ _ (distinct_setDefault cfg sec h)

theorem remove_keeps_sections_distinct (cfg cfg' : Cfg) (sec : Section) (k : Bytes)
    (h : distinctSections cfg = true) (hr : cfgRemove cfg sec k = .ok cfg') : distinctSections cfg' = true := by
  unfold cfgRemove at hr
  split at hr
  · cases hr
  · split at hr
    · cases hr
    · simp only [Except.ok.injEq] at hr; subst hr; exact distinct_modify _ _ _ h

/-- `d[k]` is the last value stored -/
theorem get_eq_last (d : Entries) (k : Bytes) : entGet d k = (entGetAll d k).getLast? := rfl

example : entGetAll (entAdd (entAdd (entSet [([107], [48])] [75] [49]) [107] [50]) [120] [51]) [75] = [[49], [50]] := by
  decide +kernel

end Dulwich.Props.C20
