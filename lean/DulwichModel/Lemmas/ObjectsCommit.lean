/- Time entries, tags and commits (C01), with the grammar predicates the Props statements are written in (`WFTag`,
`WFCommit`, `WFCommitG`, and those of their fields).  After the time-entry round trip: `Tag` and `Commit` are serialised
slot by slot (`collect`) and read back header by header (`foldFields`); `collect_foldFields` joins the two, so that each
round trip needs one fact per slot (`tagSlot_absorb`, `commitSlot_absorb`; what reading a slot's headers back does is
`tagAbsorb`, `commitAbsorb`). -/
import DulwichModel.Lemmas.ObjectsText

namespace Dulwich.Objects
open Dulwich

/-! ### time entries -/

theorem rindexGtSp_none : ∀ (l : Bytes), (62 : UInt8) ∉ l → rindexGtSp l = none
  | [], _ => rfl
  | b :: r, h => by
    have hb : ¬ b = 62 := fun e => h (e ▸ List.mem_cons_self)
    simp [rindexGtSp, rindexGtSp_none r fun e => h (List.mem_cons_of_mem _ e), hb]

theorem rindexGtSp_person : ∀ (q s : Bytes), (62 : UInt8) ∉ s →
    rindexGtSp (q ++ 62 :: 32 :: s) = some q.length
  | [], s, hs => by
    have h32 : (62 : UInt8) ∉ (32 :: s) := fun h => (List.mem_cons.mp h).elim (by decide) hs
    rw [List.nil_append, rindexGtSp, rindexGtSp_none _ h32]
    rfl
  | c :: q, s, hs => by
    rw [List.cons_append, rindexGtSp, rindexGtSp_person q s hs]
    rfl

theorem rsplitSpace_none : ∀ (l : Bytes), (32 : UInt8) ∉ l → rsplitSpace l = none
  | [], _ => rfl
  | b :: r, h => by
    have hb : ¬ b = 32 := fun e => h (e ▸ List.mem_cons_self)
    simp [rsplitSpace, rsplitSpace_none r fun e => h (List.mem_cons_of_mem _ e), hb]

theorem rsplitSpace_last : ∀ (a z : Bytes), (32 : UInt8) ∉ z → rsplitSpace (a ++ 32 :: z) = some (a, z)
  | [], z, hz => by simp [rsplitSpace, rsplitSpace_none z hz]
  | c :: a, z, hz => by simp [rsplitSpace, rsplitSpace_last a z hz]

theorem intToDec_not_mem {x : UInt8} (hx : x.toNat < 48 ∨ 57 < x.toNat) (h45 : x ≠ 45) (t : Int) :
    x ∉ intToDec t := by
  have hd := fun n => (Numeral.natToDec n).isDig
  unfold intToDec
  split
  · exact not_mem_signed hx h45 (hd _)
  · exact fun h => dig_ne _ (hd _ _ h) x hx rfl

theorem pyInt_intToDec (t : Int) : pyInt 10 (intToDec t) = some t := by
  unfold intToDec
  split
  · rename_i hneg
    have hN := Numeral.natToDec (-t).toNat
    rw [pyInt_minus_dig _ hN.isDig, hN.parseDigits]
    exact congrArg some
      ((congrArg Neg.neg (Int.toNat_of_nonneg (Int.neg_nonneg_of_nonpos (Int.le_of_lt hneg)))).trans (Int.neg_neg t))
  · rename_i hpos
    rw [natToDec, pyInt_natToBase 10 (by decide) (by decide)]
    exact congrArg some (Int.toNat_of_nonneg (Int.not_lt.mp hpos))

/-- An identity as git writes it ends with `>`. -/
def WFPerson (p : Bytes) : Prop := p.getLast? = some 62

instance (p : Bytes) : Decidable (WFPerson p) := by unfold WFPerson; infer_instance

theorem parseTimeEntry_ok (q a z : Bytes) (t tz : Int) (neg : Bool) (ha : pyInt 10 a = some t)
    (hz : parseTimezone z = .ok (tz, neg)) (h62 : (62 : UInt8) ∉ a ++ 32 :: z) (h32 : (32 : UInt8) ∉ z) :
    parseTimeEntry (q ++ 62 :: 32 :: (a ++ 32 :: z)) = .ok ⟨some (q ++ [62]), some t, some tz, some neg⟩ := by
  have htake : (q ++ 62 :: 32 :: (a ++ 32 :: z)).take (q.length + 1) = q ++ [62] :=
    (List.append_cons q 62 _).symm ▸ List.take_left' (List.length_append ..)
  have hdrop : (q ++ 62 :: 32 :: (a ++ 32 :: z)).drop (q.length + 2) = a ++ 32 :: z :=
    (List.append_assoc q [62, 32] _) ▸ List.drop_left' (List.length_append ..)
  simp only [parseTimeEntry, rindexGtSp_person q _ h62, htake, hdrop, rsplitSpace_last _ _ h32, ha, hz]

theorem timeEntry_roundtrip (p : Bytes) (hp : WFPerson p) (t tz : Int) (neg : Bool) (hz : WFTz tz neg) :
    ∃ v, formatTimeEntry p t tz neg = .ok v ∧ parseTimeEntry v = .ok ⟨some p, some t, some tz, some neg⟩ := by
  obtain ⟨s, hh, mm, hs, hf, hpz⟩ := timezone_roundtrip_wf tz neg hz
  obtain ⟨q, rfl⟩ := List.getLast?_eq_some_iff.mp hp
  have hsig : (32 : UInt8) ≠ s ∧ (62 : UInt8) ≠ s := by rcases hs with rfl | rfl <;> decide
  have no32 := not_mem_signed (x := 32) (by decide) hsig.1 (hhmm_isDig hh mm)
  have no62 : (62 : UInt8) ∉ intToDec t ++ 32 :: s :: (fmt02 (hh : Int) ++ fmt02 (mm : Int)) := fun h =>
    (List.mem_append.mp h).elim (intToDec_not_mem (by decide) (by decide) t) fun h =>
      (List.mem_cons.mp h).elim (by decide) (not_mem_signed (by decide) hsig.2 (hhmm_isDig hh mm))
  refine ⟨q ++ 62 :: 32 :: (intToDec t ++ 32 :: s :: (fmt02 (hh : Int) ++ fmt02 (mm : Int))), ?_,
    parseTimeEntry_ok q _ _ t tz neg (pyInt_intToDec t) hpz no62 no32⟩
  simp only [formatTimeEntry, hf, List.append_assoc, List.cons_append, List.nil_append]

/-! ### folding header lists -/

theorem foldFields_append {α : Type} (f : α → Bytes × Bytes → Except Err α) : ∀ (xs ys : Headers) (a : α),
    foldFields f a (xs ++ ys) = match foldFields f a xs with
      | .ok a' => foldFields f a' ys
      | .error e => .error e
  | [], _, _ => rfl
  | x :: xs, ys, a => by
    simp only [List.cons_append, foldFields]
    cases f a x with
    | error e => rfl
    | ok a' => exact foldFields_append f xs ys a'

theorem collect_cons {σ : Type} (f : σ → Except Err Headers) (s : σ) (ss : List σ) (a b : Headers)
    (h1 : f s = .ok a) (h2 : collect f ss = .ok b) : collect f (s :: ss) = .ok (a ++ b) := by
  simp [collect, h1, h2]

theorem collect_foldFields {σ α : Type} (emit : σ → Except Err Headers) (f : α → Bytes × Bytes → Except Err α)
    (eff : σ → α → α)
    (h : ∀ s, ∃ hs, emit s = .ok hs ∧ WFHeaders hs ∧ ∀ a, foldFields f a hs = .ok (eff s a)) :
    ∀ slots : List σ, ∃ hs, collect emit slots = .ok hs ∧ WFHeaders hs ∧
      ∀ a, foldFields f a hs = .ok (slots.foldl (fun a s => eff s a) a)
  | [] => ⟨[], rfl, nofun, fun _ => rfl⟩
  | s :: ss => by
    obtain ⟨h1, e1, w1, f1⟩ := h s
    obtain ⟨h2, e2, w2, f2⟩ := collect_foldFields emit f eff h ss
    refine ⟨h1 ++ h2, collect_cons emit s ss h1 h2 e1 e2, (WFHeaders_append _ _).mpr ⟨w1, w2⟩, fun a => ?_⟩
    rw [foldFields_append, f1]
    exact f2 _

theorem WFKey_consts : WFKey OGen.hdrObject ∧ WFKey OGen.hdrType ∧ WFKey OGen.hdrTag ∧ WFKey OGen.hdrTagger ∧
    WFKey OGen.hdrTree ∧ WFKey OGen.hdrParent ∧ WFKey OGen.hdrAuthor ∧ WFKey OGen.hdrCommitter ∧
    WFKey OGen.hdrEncoding ∧ WFKey OGen.hdrMergetag ∧ WFKey OGen.hdrGpgsig := by decide +kernel

/-! ### tags -/

/-- The body splits back into message and signature where the serialiser joined them. -/
def WFBody (m : Bytes) (sig : Option Bytes) : Prop :=
  match sig with
  | none => findSub OGen.pgpMarker m = none ∧ findSub OGen.sshMarker m = none
  | some s => ((findSub OGen.pgpMarker (m ++ s)).orElse fun _ => findSub OGen.sshMarker (m ++ s)) = some m.length

instance (m : Bytes) (sig : Option Bytes) : Decidable (WFBody m sig) := by
  unfold WFBody; cases sig <;> infer_instance

/-- A tag in git's grammar, field by field. -/
def WFTag (t : Tag) : Prop :=
  (∃ s, t.objectSha = some s) ∧
  (∃ ty, t.objectType = some ty ∧ (typeNum? ty).isSome = true) ∧
  (∃ n, t.name = some n) ∧
  (match t.tagger with
   | none => t.tagTime = none ∧ t.tagTz = none ∧ t.tagNeg = some false
   | some p => WFPerson p ∧ ∃ tm tz ng, t.tagTime = some tm ∧ t.tagTz = some tz ∧ t.tagNeg = some ng ∧ WFTz tz ng) ∧
  (∃ m, t.message = some m ∧ WFBody m t.signature)

theorem tagSetBody_wf (t : Tag) (m : Bytes) (sig : Option Bytes) (h : WFBody m sig) :
    tagSetBody t (some (m ++ sig.getD [])) = { t with message := some m, signature := sig } := by
  unfold WFBody at h
  cases sig with
  | none =>
    simp only [Option.getD_none, List.append_nil, tagSetBody, h.1, h.2, Option.orElse]
  | some s =>
    simp only [Option.getD_some, tagSetBody, h]
    simp

theorem resetTag_eq (prev : Tag) :
    resetTag prev = { prev with tagger := none, tagTime := none, tagTz := none, tagNeg := some false } := by
  simp [resetTag, OGen.tagResets]

theorem tagSlots_eq : tagSlots = [.object, .type, .tag, .tagger] := by decide +kernel

theorem tagField_object (t : Tag) (v : Bytes) :
    tagField t (OGen.hdrObject, v) = .ok { t with objectSha := some v } := rfl

theorem tagField_type (t : Tag) (v : Bytes) (h : (typeNum? v).isSome) :
    tagField t (OGen.hdrType, v) = .ok { t with objectType := some v } := by
  obtain ⟨n, hn⟩ := Option.isSome_iff_exists.mp h
  unfold tagField; rw [hn]; rfl

theorem tagField_tag (t : Tag) (v : Bytes) : tagField t (OGen.hdrTag, v) = .ok { t with name := some v } := rfl

theorem tagField_tagger (t : Tag) (v : Bytes) (ti : TimeInfo) (h : parseTimeEntry v = .ok ti) :
    tagField t (OGen.hdrTagger, v)
      = .ok { t with tagger := ti.person, tagTime := ti.time, tagTz := ti.tz, tagNeg := ti.neg } := by
  unfold tagField; rw [h]; rfl

/-- What reading back the headers that slot `s` of `t` emitted does to the tag being filled: the `eff` of
`collect_foldFields` for tags. -/
def tagAbsorb (t : Tag) : TSlot → Tag → Tag
  | .object, a => { a with objectSha := t.objectSha }
  | .type, a => { a with objectType := t.objectType }
  | .tag, a => { a with name := t.name }
  | .tagger, a => match t.tagger with
    | none => a
    | some _ => { a with tagger := t.tagger, tagTime := t.tagTime, tagTz := t.tagTz, tagNeg := t.tagNeg }

theorem tagSlot_absorb (t : Tag) (h : WFTag t) (s : TSlot) :
    ∃ hs, tagSlot t s = .ok hs ∧ WFHeaders hs ∧ ∀ a, foldFields tagField a hs = .ok (tagAbsorb t s a) := by
  obtain ⟨wo, wt, wg, wr, _⟩ := WFKey_consts
  obtain ⟨⟨sha, hs⟩, ⟨ty, hty, htn⟩, ⟨n, hn⟩, htg, _⟩ := h
  cases s with
  | object =>
    exact ⟨[(_, sha)], by rw [tagSlot, hs], WFHeaders_single wo _,
      fun a => by rw [tagAbsorb, hs, foldFields, tagField_object]; rfl⟩
  | type =>
    exact ⟨[(_, ty)], by rw [tagSlot, hty], WFHeaders_single wt _,
      fun a => by rw [tagAbsorb, hty, foldFields, tagField_type a ty htn]; rfl⟩
  | tag =>
    exact ⟨[(_, n)], by rw [tagSlot, hn], WFHeaders_single wg _,
      fun a => by rw [tagAbsorb, hn, foldFields, tagField_tag]; rfl⟩
  | tagger =>
    cases hp : t.tagger with
    | none => exact ⟨[], by rw [tagSlot, hp], nofun, fun a => by rw [tagAbsorb, hp]; rfl⟩
    | some p =>
      rw [hp] at htg
      obtain ⟨hwp, tm, tz, ng, h1, h2, h3, hz⟩ := htg
      obtain ⟨v, hv1, hv2⟩ := timeEntry_roundtrip p hwp tm tz ng hz
      have hpne : p.isEmpty = false := by cases p with
        | nil => exact absurd hwp (by decide)
        | cons a b => rfl
      exact ⟨[(_, v)], by simp only [tagSlot, hp, hpne, h1, h2, h3, hv1]; rfl, WFHeaders_single wr _,
        fun a => by rw [tagAbsorb, hp, foldFields, tagField_tagger a v _ hv2, h1, h2, h3]; rfl⟩

/-! ### commits -/

/-- The header names `_parse_commit` interprets itself; any other name is an extra header. -/
def reservedKeys : List Bytes :=
  [OGen.hdrTree, OGen.hdrParent, OGen.hdrAuthor, OGen.hdrCommitter, OGen.hdrEncoding, OGen.hdrMergetag, OGen.hdrGpgsig]

/-- An author or committer entry `Commit._serialize` accepts (all four attributes set) and git's grammar admits. -/
def WFTime (ti : TimeInfo) : Prop :=
  ∃ p tm tz ng, ti = ⟨some p, some tm, some tz, some ng⟩ ∧ WFPerson p ∧ WFTz tz ng

/-- An optional header that is written when present: absent, or a non-empty value. -/
def WFOpt (o : Option Bytes) : Prop :=
  match o with
  | none => True
  | some v => v ≠ []

instance (o : Option Bytes) : Decidable (WFOpt o) := by unfold WFOpt; cases o <;> infer_instance

/-- A commit in git's grammar, field by field. -/
def WFCommit (c : Commit) : Prop :=
  (∃ t, c.tree = some t) ∧ WFTime c.author ∧ WFTime c.committer ∧ WFOpt c.encoding ∧
  (∀ raw ∈ c.mergetag, raw.getLast? = some 10 ∧ ∃ tg, deserializeTag Tag.empty raw = .ok tg) ∧
  (∀ kv ∈ c.extra, WFKey kv.1 ∧ kv.1 ∉ reservedKeys) ∧ WFOpt c.gpgsig ∧ (∃ m, c.message = some m)

/-- A mergetag text with its last line completed: what the parser stores (`Tag.from_string(value + b"\n")`)
after the serialiser removed a final LF if there was one. -/
def completeLF (raw : Bytes) : Bytes := stripLastLF raw ++ [10]

theorem completeLF_of_last (raw : Bytes) (h : raw.getLast? = some 10) : completeLF raw = raw := by
  obtain ⟨q, hq⟩ := List.getLast?_eq_some_iff.mp h
  subst hq
  rw [completeLF, stripLastLF_snoc]

theorem completeLF_of_not_last (raw : Bytes) (h : raw.getLast? ≠ some 10) : completeLF raw = raw ++ [10] := by
  simp [completeLF, stripLastLF, h]

theorem mergetagValue_eq (raw : Bytes) : mergetagValue raw = stripLastLF raw := by
  have : OGen.mergetagStripConditional = true := rfl
  simp [mergetagValue, this]

/-- `WFCommit` generalised (`G`): mergetag texts need not end in LF, it suffices that the completed
text parses as a tag. -/
def WFCommitG (c : Commit) : Prop :=
  (∃ t, c.tree = some t) ∧ WFTime c.author ∧ WFTime c.committer ∧ WFOpt c.encoding ∧
  (∀ raw ∈ c.mergetag, ∃ tg, deserializeTag Tag.empty (completeLF raw) = .ok tg) ∧
  (∀ kv ∈ c.extra, WFKey kv.1 ∧ kv.1 ∉ reservedKeys) ∧ WFOpt c.gpgsig ∧ (∃ m, c.message = some m)

theorem WFCommitG_of_WFCommit (c : Commit) (h : WFCommit c) : WFCommitG c := by
  obtain ⟨h1, h2, h3, h4, h5, h6, h7, h8⟩ := h
  refine ⟨h1, h2, h3, h4, fun raw hr => ?_, h6, h7, h8⟩
  obtain ⟨hl, tg, htg⟩ := h5 raw hr
  exact ⟨tg, by rw [completeLF_of_last raw hl]; exact htg⟩

theorem commitSlots_eq :
    commitSlots = [.tree, .parent, .author, .committer, .encoding, .mergetag, .extra, .gpgsig] := by decide +kernel

theorem commitField_tree (c : Commit) (v : Bytes) :
    commitField c (OGen.hdrTree, v) = .ok { c with tree := some v } := rfl

theorem commitField_parent (c : Commit) (v : Bytes) :
    commitField c (OGen.hdrParent, v) = .ok { c with parents := c.parents ++ [v] } := rfl

theorem commitField_author (c : Commit) (v : Bytes) (ti : TimeInfo) (h : parseTimeEntry v = .ok ti) :
    commitField c (OGen.hdrAuthor, v) = .ok { c with author := ti } := by
  unfold commitField; rw [h]; rfl

theorem commitField_committer (c : Commit) (v : Bytes) (ti : TimeInfo) (h : parseTimeEntry v = .ok ti) :
    commitField c (OGen.hdrCommitter, v) = .ok { c with committer := ti } := by
  unfold commitField; rw [h]; rfl

theorem commitField_encoding (c : Commit) (v : Bytes) :
    commitField c (OGen.hdrEncoding, v) = .ok { c with encoding := some v } := rfl

theorem commitField_mergetag (c : Commit) (v : Bytes) (tg : Tag) (h : deserializeTag Tag.empty (v ++ [10]) = .ok tg) :
    commitField c (OGen.hdrMergetag, v) = .ok { c with mergetag := c.mergetag ++ [v ++ [10]] } := by
  unfold commitField; rw [h]; rfl

theorem commitField_gpgsig (c : Commit) (v : Bytes) :
    commitField c (OGen.hdrGpgsig, v) = .ok { c with gpgsig := some v } := rfl

theorem commitField_extra (c : Commit) (kv : Bytes × Bytes) (h : kv.1 ∉ reservedKeys) :
    commitField c kv = .ok { c with extra := c.extra ++ [kv] } := by
  simp only [reservedKeys, List.mem_cons, List.not_mem_nil, or_false, not_or] at h
  obtain ⟨k1, k2, k3, k4, k5, k6, k7⟩ := h
  simp only [commitField, k1, k2, k3, k4, k5, k6, k7, if_false]

theorem timeHeader_roundtrip (k : Bytes) (ti : TimeInfo) (h : WFTime ti) :
    ∃ v, timeHeader k ti = .ok [(k, v)] ∧ parseTimeEntry v = .ok ti := by
  obtain ⟨p, tm, tz, ng, rfl, hp, hz⟩ := h
  obtain ⟨v, h1, h2⟩ := timeEntry_roundtrip p hp tm tz ng hz
  exact ⟨v, by simp only [timeHeader, h1], h2⟩

theorem optHeader_roundtrip {k : Bytes} (hk : WFKey k) {o : Option Bytes} (ho : WFOpt o)
    {set : Commit → Bytes → Commit} (hf : ∀ a v, commitField a (k, v) = .ok (set a v)) :
    WFHeaders (optHeader k o) ∧ ∀ a, foldFields commitField a (optHeader k o) = .ok (o.elim a (set a)) := by
  cases o with
  | none => exact ⟨nofun, fun _ => rfl⟩
  | some v =>
    have : optHeader k (some v) = [(k, v)] := by cases v with
      | nil => exact absurd rfl ho
      | cons a b => rfl
    rw [this]
    exact ⟨WFHeaders_single hk v, fun a => by rw [foldFields, hf]; rfl⟩

theorem fold_parents : ∀ (ps : List Bytes) (c : Commit),
    foldFields commitField c (ps.map fun p => (OGen.hdrParent, p)) = .ok { c with parents := c.parents ++ ps }
  | [], c => by rw [List.append_nil]; rfl
  | p :: ps, c => by
    simp only [List.map_cons, foldFields, commitField_parent, fold_parents ps, List.append_assoc, List.singleton_append]

theorem fold_mergetag : ∀ (raws : List Bytes) (c : Commit),
    (∀ raw ∈ raws, ∃ tg, deserializeTag Tag.empty (completeLF raw) = .ok tg) →
    foldFields commitField c (raws.map fun raw => (OGen.hdrMergetag, mergetagValue raw))
      = .ok { c with mergetag := c.mergetag ++ raws.map completeLF }
  | [], c, _ => by rw [List.map_nil, List.map_nil, List.append_nil]; rfl
  | raw :: raws, c, h => by
    obtain ⟨tg, htg⟩ := h raw List.mem_cons_self
    have hd : mergetagValue raw ++ [10] = completeLF raw := by rw [mergetagValue_eq]; rfl
    rw [← hd] at htg
    simp only [List.map_cons, foldFields, commitField_mergetag _ _ tg htg, hd,
      fold_mergetag raws _ fun r hr => h r (List.mem_cons_of_mem _ hr), List.append_assoc, List.singleton_append]

theorem fold_extra : ∀ (ex : Headers) (c : Commit), (∀ kv ∈ ex, kv.1 ∉ reservedKeys) →
    foldFields commitField c ex = .ok { c with extra := c.extra ++ ex }
  | [], c, _ => by rw [List.append_nil]; rfl
  | kv :: ex, c, h => by
    simp only [foldFields, commitField_extra c kv (h kv List.mem_cons_self),
      fold_extra ex _ fun x hx => h x (List.mem_cons_of_mem _ hx), List.append_assoc, List.singleton_append]

/-- `tagAbsorb` for commits. -/
def commitAbsorb (c : Commit) : CSlot → Commit → Commit
  | .tree, a => { a with tree := c.tree }
  | .parent, a => { a with parents := a.parents ++ c.parents }
  | .author, a => { a with author := c.author }
  | .committer, a => { a with committer := c.committer }
  | .encoding, a => c.encoding.elim a fun v => { a with encoding := some v }
  | .mergetag, a => { a with mergetag := a.mergetag ++ c.mergetag.map completeLF }
  | .extra, a => { a with extra := a.extra ++ c.extra }
  | .gpgsig, a => c.gpgsig.elim a fun v => { a with gpgsig := some v }

theorem commitSlot_absorb (c : Commit) (h : WFCommitG c) (s : CSlot) :
    ∃ hs, commitSlot c s = .ok hs ∧ WFHeaders hs ∧
      ∀ a, foldFields commitField a hs = .ok (commitAbsorb c s a) := by
  obtain ⟨_, _, _, _, wtree, wparent, wauthor, wcommitter, wenc, wmt, wsig⟩ := WFKey_consts
  obtain ⟨⟨t, ht⟩, ha, hc, henc, hmt, hex, hsig, _⟩ := h
  cases s with
  | tree =>
    exact ⟨[(_, t)], by rw [commitSlot, ht], WFHeaders_single wtree _,
      fun a => by rw [commitAbsorb, ht, foldFields, commitField_tree]; rfl⟩
  | parent => exact ⟨_, rfl, WFHeaders_map _ wparent _ _, fold_parents c.parents⟩
  | author =>
    obtain ⟨v, e1, e2⟩ := timeHeader_roundtrip OGen.hdrAuthor c.author ha
    exact ⟨_, e1, WFHeaders_single wauthor v, fun a => by rw [foldFields, commitField_author a v _ e2]; rfl⟩
  | committer =>
    obtain ⟨v, e1, e2⟩ := timeHeader_roundtrip OGen.hdrCommitter c.committer hc
    exact ⟨_, e1, WFHeaders_single wcommitter v, fun a => by rw [foldFields, commitField_committer a v _ e2]; rfl⟩
  | encoding => exact ⟨_, rfl, optHeader_roundtrip wenc henc commitField_encoding⟩
  | mergetag => exact ⟨_, rfl, WFHeaders_map _ wmt _ _, fun a => fold_mergetag c.mergetag a hmt⟩
  | extra => exact ⟨_, rfl, fun kv hkv => (hex kv hkv).1, fun a => fold_extra c.extra a fun kv hkv => (hex kv hkv).2⟩
  | gpgsig => exact ⟨_, rfl, optHeader_roundtrip wsig hsig commitField_gpgsig⟩

end Dulwich.Objects
