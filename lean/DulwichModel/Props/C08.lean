/-
  C08 — Ref updates are atomic compare-and-swap; concurrent commits are never lost.

  Property theorems with the scenarios and statements they speak of, non-vacuity examples and negation
  witnesses; the model is Model/RefsFS.lean (every operation of `DiskRefsContainer` as a program of system calls, any number of
  actors, interleaving semantics), helper lemmas are in Lemmas/RefsFS.lean, the ordering flags and the
  call/compare skeletons of the modelled methods come from Gen/RefsFS.lean (regenerated from /repo on every run).
-/
import DulwichModel.Lemmas.RefsFS

namespace Dulwich.Props.C08
open Dulwich Dulwich.RefsFS

/-! ## 0. The model was written against this code

The methods the model transcribes have the call/compare skeletons stated here, and the generated
ordering flags have the values of the repaired source: any reordering, dropped re-read, changed comparison,
changed argument of the swap — or the revert of one of the fixes — breaks one of these. -/

theorem skeleton_readers :
    Gen.RefsFS.skel_follow = [
      "call:read_ref", "cmp:depth > 5", "raise:SymrefLoop(name, depth)",
      "return:(refnames, ObjectID(contents) if contents else None)"] ∧
    Gen.RefsFS.skel_readRef = [
      "call:read_loose_ref", "call:get_packed_refs", "return:contents"] ∧
    Gen.RefsFS.skel_getPackedRefs = [
      "cmp:self._packed_refs is not None", "cmp:self._packed_refs_key != self._current_packed_refs_key()",
      "call:_invalidate_packed_refs_cache", "cmp:self._packed_refs is None", "call:GitFile", "return:{}",
      "cmp:b' peeled' in first_line", "return:self._packed_refs"] ∧
    Gen.RefsFS.skel_allKeys = [
      "call:exists", "call:get_packed_refs", "return:allkeys"] :=
  ⟨rfl, rfl, rfl, rfl⟩

theorem skeleton_setIfEquals :
    Gen.RefsFS.skel_setIfEquals = [
      "call:follow", "call:_check_packed_conflict", "call:get_packed_refs", "call:GitFile",
      "cmp:old_ref is not None", "call:read_loose_ref", "cmp:orig_ref is None", "call:get_packed_refs",
      "cmp:orig_ref != old_ref", "call:abort", "return:False", "call:abort", "raise:", "call:read_loose_ref",
      "cmp:current_ref is None", "cmp:current_ref is not None", "cmp:current_ref == new_ref", "call:abort",
      "return:True", "call:_remove_empty_directories", "call:write", "call:abort", "raise:", "return:True"] ∧
    Gen.RefsFS.skel_checkPackedConflict = [
      "call:get_packed_refs", "cmp:packed_refs.get(probe_ref, None) is not None",
      "raise:NotADirectoryError(filename)", "raise:IsADirectoryError(filename)"] :=
  ⟨rfl, rfl⟩

theorem skeleton_addIfNew :
    Gen.RefsFS.skel_addIfNew = [
      "call:follow", "cmp:contents is not None", "return:False", "call:_check_packed_conflict", "call:GitFile",
      "call:_remove_empty_directories", "call:exists", "cmp:realname in self.get_packed_refs()",
      "call:get_packed_refs", "call:abort", "return:False", "call:write", "call:abort", "raise:", "return:True"] ∧
    Gen.RefsFS.addIfNewChecksName = false :=
  ⟨rfl, rfl⟩

theorem skeleton_removeIfEquals :
    Gen.RefsFS.skel_removeIfEquals = [
      "call:GitFile", "cmp:old_ref is not None", "call:read_loose_ref", "cmp:orig_ref is None",
      "call:get_packed_refs", "cmp:orig_ref is None", "cmp:orig_ref != old_ref", "return:False",
      "call:lexists", "call:_remove_packed_ref", "call:isdir", "call:islink", "call:_remove_empty_directories",
      "call:remove", "call:abort", "cmp:parent == b'refs'", "return:True"] ∧
    Gen.RefsFS.rmLooseBeforePacked = false ∧
    Gen.RefsFS.skel_removePackedRef = [
      "cmp:name not in self.get_packed_refs()", "call:get_packed_refs", "return:", "call:GitFile",
      "call:_invalidate_packed_refs_cache", "call:copy", "call:get_packed_refs", "call:copy",
      "cmp:self._peeled_refs is not None", "cmp:name not in packed_refs", "call:abort", "return:",
      "cmp:peeled_refs is not None", "call:pop", "call:write_packed_refs", "call:close", "call:abort",
      "call:_invalidate_packed_refs_cache"] :=
  ⟨rfl, rfl, rfl⟩

theorem skeleton_packRefs :
    Gen.RefsFS.skel_addPackedRefs = [
      "return:", "call:GitFile", "call:copy", "call:get_packed_refs", "cmp:ref == HEADREF",
      "raise:ValueError('cannot pack HEAD')", "cmp:ref in packed_refs", "cmp:packed_refs[ref] != target",
      "call:pop", "cmp:target is not None", "call:pop", "call:write_packed_refs", "cmp:target is not None",
      "call:_prune_loose_ref", "call:remove", "call:_invalidate_packed_refs_cache"] ∧
    Gen.RefsFS.skel_packRefs = [
      "call:allkeys", "cmp:ref == HEADREF", "call:read_ref",
      "call:add_packed_refs(refs_to_pack, prune_only_if_unchanged=True)"] ∧
    Gen.RefsFS.skel_pruneLooseRef = [
      "call:GitFile", "return:", "call:read_loose_ref", "cmp:self.read_loose_ref(name) == expected",
      "call:remove", "call:abort"] ∧
    Gen.RefsFS.packRemovesLooseBeforeReplace = false ∧
    Gen.RefsFS.packPrunesUnderRefLock = true :=
  ⟨rfl, rfl, rfl, rfl, rfl⟩

theorem skeleton_setSymbolicRef :
    Gen.RefsFS.skel_setSymbolicRef = [
      "call:_check_packed_conflict", "call:GitFile", "call:_remove_empty_directories", "call:write",
      "call:follow", "call:abort", "raise:", "call:close"] :=
  rfl

theorem skeleton_lockFile :
    Gen.RefsFS.skel_gitFileClose = [
      "return:", "call:close", "cmp:getattr(os, 'replace', None) is not None", "cmp:sys.platform != 'win32'",
      "call:abort"] ∧
    Gen.RefsFS.skel_gitFileAbort = [
      "return:", "call:close", "call:remove"] :=
  ⟨rfl, rfl⟩

theorem skeleton_commit :
    Gen.RefsFS.skel_worktreeCommit = [
      "assign:old_head = self._repo.refs[ref]", "getitem:self._repo.refs[ref]",
      "call:set_if_equals(ref, old_head, c.id)", "call:add_if_new(ref, c.id)"] ∧
    Gen.RefsFS.worktreeCommitHeadReads = 1 ∧
    Gen.RefsFS.skel_memoryDoCommit = [
      "assign:old_head = self.refs[ref]", "getitem:self.refs[ref]", "call:set_if_equals(ref, old_head, c.id)",
      "call:add_if_new(ref, c.id)"] ∧
    Gen.RefsFS.memoryCommitHeadReads = 1 ∧
    Gen.RefsFS.skel_dictSetIfEquals = [
      "cmp:old_ref is not None", "cmp:self._refs.get(name, ZERO_SHA) != old_ref", "return:False", "return:True"] ∧
    Gen.RefsFS.skel_dictAddIfNew = [
      "cmp:name in self._refs", "return:False", "return:True"] :=
  ⟨rfl, rfl, rfl, rfl, rfl, rfl⟩

/-! ## 1. Conditional updates over loose refs are linearizable

Setting: any number of actors, actor `a` performs `ops[a]`, one of {read_ref, set_if_equals (conditional,
create-only `ZERO_SHA`, or unconditional = `__setitem__`), add_if_new, remove_if_equals (conditional or
unconditional = `__delitem__`)} on refs that hold object ids (no symbolic refs, no packed-refs file: the LOOSE
fragment), under EVERY schedule (`sched` is an arbitrary list of actor numbers; one entry = one system call).

Linearization points (computed by the ghost `Phase` in Lemmas/RefsFS.lean): the `os.replace` of the lock file
for a successful set/create, the `os.remove` of the loose file for a delete, the release of the lock for an
operation that fails its comparison (or finds nothing to do), the failed `O_EXCL` open for a `FileLocked`
loser, the `open()` for a reader and for an `add_if_new` that finds the ref there — each is one step of the
operation itself, hence inside its interval. -/

/-- **cas_linearizable_loose.**  For every schedule:
(1) the run of the instrumented system is the run of the model (`runSched`);
(2) the sequence of linearization events is a legal sequential history of the map specification
    (`specRun` replays it from the initial map: every event returns what `specVal` says and changes the ref as
    `specVal` says; losers change nothing) and ends in exactly the ref map on disk;
(3) an operation that has returned `o` has a linearization event with outcome `o`;
(4) an operation that has no linearization event yet has not returned;
(5) no operation is linearized twice. -/
theorem cas_linearizable_loose (env : Env) (vr : Variant) (loose0 : Ref → Option Val) (ops : List Op)
    (hsha : ∀ r, IsSha (loose0 r)) (hops : ∀ op, op ∈ ops → LooseOp op) (sched : List Actor) :
    let s := irun env vr ops (IState.init env vr (FS.init loose0 none) ops) sched
    s.cfg = runSched env vr (Config.init env vr (FS.init loose0 none) (ops.map fun op => [op])) sched ∧
    (∃ m, specRun loose0 s.log = some m ∧ ∀ r, m r = s.cfg.fs.loose r) ∧
    (∀ a op o, ops[a]? = some op → s.cfg.outs a = [o] →
      ∃ e, e ∈ s.log ∧ e.actor = a ∧ e.op = op ∧ e.out = o) ∧
    (∀ a op, ops[a]? = some op → (∀ e, e ∈ s.log → e.actor ≠ a) → s.cfg.outs a = []) ∧
    (∀ a, evCount a s.log ≤ 1) := by
  intro s
  have h0 := inv_init env vr loose0 ops hsha hops
  obtain ⟨hcfg, hinv, huniq⟩ := irun_inv env vr loose0 ops _ sched h0 fun _ => Nat.zero_le 1
  refine ⟨hcfg, hinv.spec, ?_, ?_, huniq⟩
  · intro a op o hop houts
    rcases hinv.returned hop with h | ⟨e, he, ha, ho, h⟩
    · rw [h] at houts
      cases houts
    · rw [h] at houts
      exact ⟨e, he, ha, ho, (List.cons.inj houts).1⟩
  · intro a op hop hno
    rcases hinv.returned hop with h | ⟨e, he, ha, -⟩
    · exact h
    · exact absurd ha (hno e he)

/-- What legality of the sequential history means for a conditional update: **it succeeds only if the ref held
the expected value at the instant of its linearization (its write step)**, and then has its effect (clauses 1–3:
`set_if_equals`, `add_if_new`, `remove_if_equals`); a `set_if_equals` that fails found another value and changes
nothing (4); a read returns the value of its ref (5).  (`some none` is `ZERO_SHA`: "must not exist".) -/
theorem conditional_success_only_if_expected (m m' : Ref → Option Val) (e : LinEv) (h : specStep m e = some m') :
    (∀ n o v, e.op = .cas n (some o) v → e.out = .bool true → m n = o ∧ m' n = some v) ∧
    (∀ n v, e.op = .add n v → e.out = .bool true → m n = none ∧ m' n = some v) ∧
    (∀ n o, e.op = .rm n (some o) → e.out = .bool true → m n = o ∧ m' n = none) ∧
    (∀ n o v, e.op = .cas n (some o) v → e.out = .bool false → m n ≠ o ∧ m' = m) ∧
    (∀ r x, e.op = .read r → e.out = .val x → x = m r) := by
  obtain ⟨a, op, out⟩ := e
  have key : out.isExc = false →
      (specVal op (m op.target)).2 = out ∧ m' = upd m op.target (specVal op (m op.target)).1 := by
    intro hex
    simp only [specStep, hex, Bool.false_eq_true, if_false] at h
    split at h
    · next h2 => exact ⟨h2, (Option.some.inj h).symm⟩
    · cases h
  refine ⟨?_, ?_, ?_, ?_, ?_⟩
  · rintro n o v rfl rfl
    obtain ⟨h1, rfl⟩ := key rfl
    by_cases hx : m n = o <;> simp_all [specVal, Op.target]
  · rintro n v rfl rfl
    obtain ⟨h1, rfl⟩ := key rfl
    cases hx : m n <;> simp_all [specVal, Op.target]
  · rintro n o rfl rfl
    obtain ⟨h1, rfl⟩ := key rfl
    by_cases hx : m n = o <;> simp_all [specVal, Op.target]
  · rintro n o v rfl rfl
    obtain ⟨h1, rfl⟩ := key rfl
    by_cases hx : m n = o
    · simp [specVal, Op.target, hx] at h1
    · refine ⟨hx, funext fun r => ?_⟩
      by_cases hr : r = n <;> simp [specVal, Op.target, upd, hx, hr]
  · rintro r x rfl rfl
    exact (Outcome.val.inj (key rfl).1).symm

/-- **reader_never_torn** (loose fragment): what a reader returns is the value the ref map held at the
reader's linearization point — the initial value or the value written by the last linearized write before it,
never a mixture and never a value that was already deleted or overwritten at that point.  (Stated on the
specification replay alone: in any legal history, `x` is the value of `r` in the map replayed up to the read event, by
the `read` clause above.  `cas_linearizable_loose` (2)/(3) gives such a history for a run of the loose fragment; the
two are not composed into one theorem.) -/
theorem reader_never_torn (m0 : Ref → Option Val) (pre : List LinEv) (e : LinEv) (post : List LinEv)
    (m : Ref → Option Val) (r : Ref) (x : Option Val)
    (hrun : specRun m0 (pre ++ e :: post) = some m) (hop : e.op = .read r) (hout : e.out = .val x) :
    ∃ mid, specRun m0 pre = some mid ∧ x = mid r := by
  rw [specRun_append] at hrun
  cases hpre : specRun m0 pre with
  | none => simp [hpre] at hrun
  | some mid =>
    refine ⟨mid, rfl, ?_⟩
    simp only [hpre, specRun] at hrun
    cases hs : specStep mid e with
    | none => simp [hs] at hrun
    | some m' => exact (conditional_success_only_if_expected mid m' e hs).2.2.2.2 r x hop hout

/-- non-vacuity: two conditional updates with the same expected value, a create and a reader, on a concrete
schedule — the hypotheses are satisfiable, exactly one update wins, the loser re-reads under the lock and gets `False`, and the
final value is the winner's. -/
example :
    let env : Env := { heads := [1, 2], order := [0, 1, 2] }
    let loose0 : Ref → Option Val := fun r => if r = 1 then some (.sha 1) else none
    let ops : List Op := [.cas 1 (some (some (.sha 1))) (.sha 5), .cas 1 (some (some (.sha 1))) (.sha 6),
                          .add 2 (.sha 7), .read 1]
    let s := irun env Variant.coded ops (IState.init env Variant.coded (FS.init loose0 none) ops)
      [0, 1, 0, 1, 0, 1, 0, 0, 0, 0, 0, 0, 0, 1, 1, 1, 1, 1, 1, 2, 2, 2, 2, 2, 2, 2, 2, 2, 3, 3, 3]
    (∀ r, IsSha (loose0 r)) ∧ (∀ op, op ∈ ops → LooseOp op) ∧
    s.cfg.outs 0 = [.bool true] ∧ s.cfg.outs 1 = [.bool false] ∧ s.cfg.outs 2 = [.bool true] ∧
    s.cfg.outs 3 = [.val (some (.sha 5))] ∧ s.cfg.fs.loose 1 = some (.sha 5) ∧ s.log.length = 4 := by
  refine ⟨?_, ?_, by decide +kernel⟩
  · intro r
    by_cases h : r = 1 <;> simp [h, IsSha]
  · intro op hop
    simp only [List.mem_cons, List.mem_nil_iff, or_false] at hop
    rcases hop with rfl | rfl | rfl | rfl <;> simp [LooseOp]

/-! ## 2. The code as it is now: `Variant.coded`

`Variant.coded` is assembled from the flags the translator regenerates from the source on every run.  The source
now has every repaired order (fixes bb5afda, 7e0c6ae, 3fe26f6, 59021a9): the theorems and examples of this section are
stated for `Variant.coded`, so reverting one of the fixes flips a flag and breaks them.

Of the `…Statement`s defined here, the three about a reader are proved for `Variant.coded` under every schedule.
`FailedRemoveHasNoEffectStatement`, `UpdateSurvivesPackStatement` and `AddIfNewStatement` are not: section 4 refutes
them for the earlier orders, and here an `example` shows `Variant.coded` doing the right thing on those schedules. -/

theorem coded_variant_is_repaired : Variant.coded = Variant.repaired := by
  decide

/-- order of steps before fix bb5afda (loose files unlinked BEFORE the new packed-refs is renamed in;
`remove_if_equals` unlinks the loose file BEFORE dropping the packed entry; two reads in `WorkTree.commit`;
`add_if_new` re-checks `name`); `packRecheck` keeps its default `false`, here and in `Variant.bb5afda` -/
def Variant.old : Variant :=
  { rmLooseFirst := true, packRemovesLooseFirst := true, addChecksName := true, commitReads := 2 }

/-- order of steps after bb5afda and before 7e0c6ae / 3fe26f6 / 59021a9 -/
def Variant.bb5afda : Variant :=
  { rmLooseFirst := false, packRemovesLooseFirst := false, addChecksName := true, commitReads := 2 }

def env0 : Env := { heads := [1, 2], order := [2, 1, 0] }

/-- refs/heads/x = ref 1, HEAD = ref 0 → x -/
def fsLoose (v : Sha) : FS := FS.init (fun r => if r = 0 then some (.sym 1) else if r = 1 then some (.sha v) else none) none
/-- x loose `l`, packed `p` (an update after packing) -/
def fsBoth (l p : Sha) : FS :=
  FS.init (fun r => if r = 0 then some (.sym 1) else if r = 1 then some (.sha l) else none) (some [(1, p)])

def finalOuts (vr : Variant) (fs : FS) (progs : List (List Op)) (sched : List Actor) (a : Actor) : List Outcome :=
  (runSched env0 vr (Config.init env0 vr fs progs) sched).outs a

def finalVal (vr : Variant) (fs : FS) (progs : List (List Op)) (sched : List Actor) (r : Ref) : Option Val :=
  absVal (runSched env0 vr (Config.init env0 vr fs progs) sched).fs r

/-- "While refs are being packed a reader of a ref that exists (and that nobody writes or deletes) gets its
value": for every schedule the reader has not finished or returns the value. -/
def ReaderDuringPackStatement (vr : Variant) : Prop :=
  ∀ sched : List Actor,
    finalOuts vr (fsLoose 1) [[.pack], [.read 1]] sched 1 = [] ∨
    finalOuts vr (fsLoose 1) [[.pack], [.read 1]] sched 1 = [.val (some (.sha 1))]

/-- the same for a ref that was updated after it had been packed: the reader must see the current value 2. -/
def ReaderDuringPackOlderStatement (vr : Variant) : Prop :=
  ∀ sched : List Actor,
    finalOuts vr (fsBoth 2 1) [[.pack], [.read 1]] sched 1 = [] ∨
    finalOuts vr (fsBoth 2 1) [[.pack], [.read 1]] sched 1 = [.val (some (.sha 2))]

/-- **as coded, every schedule**: a reader concurrent with `pack_refs` sees the value of the ref — for the
never-packed ref and for the ref that was updated after it had been packed.  (Exhaustive evaluation of the model:
`allOuts` follows every interleaving of the two programs until the reader has returned; 28 is fuel, more than
the steps the two programs have together.) -/
theorem reader_during_pack_refs_ok :
    ReaderDuringPackStatement Variant.coded ∧ ReaderDuringPackOlderStatement Variant.coded :=
  ⟨allOuts_sound _ _ (fun o => o = [] ∨ o = [.val (some (.sha 1))]) 28 _ _ _ (by decide +kernel),
    allOuts_sound _ _ (fun o => o = [] ∨ o = [.val (some (.sha 2))]) 28 _ _ _ (by decide +kernel)⟩

/-- the same for the schedules of at most 28 steps: an instance of the theorem above, the bound is not used -/
theorem reader_during_pack_refs_ok_bounded (sched : List Actor) (hlen : sched.length ≤ 28) :
    (finalOuts Variant.coded (fsLoose 1) [[.pack], [.read 1]] sched 1 = [] ∨
     finalOuts Variant.coded (fsLoose 1) [[.pack], [.read 1]] sched 1 = [.val (some (.sha 1))]) ∧
    (finalOuts Variant.coded (fsBoth 2 1) [[.pack], [.read 1]] sched 1 = [] ∨
     finalOuts Variant.coded (fsBoth 2 1) [[.pack], [.read 1]] sched 1 = [.val (some (.sha 2))]) :=
  ⟨reader_during_pack_refs_ok.1 sched, reader_during_pack_refs_ok.2 sched⟩

/-- "A reader concurrent with the deletion of a ref sees its value or sees it gone" — never an older value. -/
def ReaderDuringRemoveStatement (vr : Variant) : Prop :=
  ∀ sched : List Actor,
    let o := finalOuts vr (fsBoth 2 1) [[.rm 1 (some (some (.sha 2)))], [.read 1]] sched 1
    o = [] ∨ o = [.val (some (.sha 2))] ∨ o = [.val none]

/-- **as coded, every schedule**: a reader concurrent with the deletion of a loose+packed ref sees the current
value 2 or sees the ref gone, never the older packed value 1. -/
theorem reader_during_remove_ok : ReaderDuringRemoveStatement Variant.coded :=
  allOuts_sound _ _ (fun o => o = [] ∨ o = [.val (some (.sha 2))] ∨ o = [.val none]) 28 _ _ _
    (by decide +kernel)

theorem reader_during_remove_ok_bounded (sched : List Actor) (hlen : sched.length ≤ 28) :
    let o := finalOuts Variant.coded (fsBoth 2 1) [[.rm 1 (some (some (.sha 2)))], [.read 1]] sched 1
    o = [] ∨ o = [.val (some (.sha 2))] ∨ o = [.val none] :=
  reader_during_remove_ok sched

/-- "An operation that raises has had no effect." -/
def FailedRemoveHasNoEffectStatement (vr : Variant) : Prop :=
  ∀ sched : List Actor,
    let fs := FS.init (fun r => if r = 1 then some (.sha 2) else none) (some [(1, 1), (2, 3)])
    finalOuts vr fs [[.rm 1 (some (some (.sha 2)))], [.rm 2 none]] sched 0 = [.exc .locked] →
    finalVal vr fs [[.rm 1 (some (some (.sha 2)))], [.rm 2 none]] sched 1 = some (.sha 2)

/-- as coded: on the schedule of `remove_if_equals_half_deleted_counterexample` (section 4: packed-refs.lock busy in
the middle of the delete), the delete fails before anything has changed, and the rewrite of packed-refs by the other
actor carries the untouched third ref along -/
example :
    let fs := FS.init (fun r => if r = 1 then some (.sha 2) else none) (some [(1, 1), (2, 3), (3, 4)])
    let progs : List (List Op) := [[.rm 1 (some (some (.sha 2)))], [.rm 2 none]]
    let sched := [1, 1, 1, 1, 1, 0, 0, 0, 0, 0, 0, 0, 0, 1, 1, 1, 1]
    finalOuts Variant.coded fs progs sched 0 = [.exc .locked] ∧ finalVal Variant.coded fs progs sched 1 = some (.sha 2) ∧
    finalVal Variant.coded fs progs sched 2 = none ∧ finalVal Variant.coded fs progs sched 3 = some (.sha 4) := by
  decide +kernel

/-- "A conditional update that returned True is not lost: with no other writer, its value is the final value." -/
def UpdateSurvivesPackStatement (vr : Variant) : Prop :=
  ∀ sched : List Actor,
    finalOuts vr (fsLoose 1) [[.cas 1 (some (some (.sha 1))) (.sha 5)], [.pack]] sched 0 = [.bool true] →
    finalOuts vr (fsLoose 1) [[.cas 1 (some (some (.sha 1))) (.sha 5)], [.pack]] sched 1 = [.unit] →
    finalVal vr (fsLoose 1) [[.cas 1 (some (some (.sha 1))) (.sha 5)], [.pack]] sched 1 = some (.sha 5)

/-- as coded (59021a9: loose file pruned under the ref's own lock, only if unchanged): on the schedules of
`pack_refs_overwrites_update_counterexample` (update between the rename and the unlink) and
`pack_refs_overwrites_update_old_counterexample` (update between the read and the unlink) of section 4, each with more
steps for `pack_refs` at the end, the loose 5 stays and overrides the packed 1 -/
example :
    finalVal Variant.coded (fsLoose 1) [[.cas 1 (some (some (.sha 1))) (.sha 5)], [.pack]]
      [1, 1, 1, 1, 1, 1, 1, 1, 1, 0, 0, 0, 0, 0, 0, 0, 0, 0, 0, 1, 1, 1, 1, 1] 1 = some (.sha 5) ∧
    finalVal Variant.coded (fsLoose 1) [[.cas 1 (some (some (.sha 1))) (.sha 5)], [.pack]]
      [1, 1, 1, 1, 1, 0, 0, 0, 0, 0, 0, 0, 0, 0, 1, 1, 1, 1, 1, 1, 1, 1, 1, 1] 1 = some (.sha 5) := by
  decide +kernel

/-- "add_if_new returns True only if the ref did not exist." -/
def AddIfNewStatement (vr : Variant) : Prop :=
  ∀ sched : List Actor,
    let fs := FS.init (fun r => if r = 0 then some (.sym 1) else none) none
    let progs : List (List Op) := [[.add 0 (.sha 5)], [.cas 1 none (.sha 6), .pack]]
    finalOuts vr fs progs sched 0 = [.bool true] → finalOuts vr fs progs sched 1 ≠ [.bool true, .unit] ∨
      finalVal vr fs progs sched 1 = some (.sha 6)

/-- as coded (3fe26f6: the resolved name is re-checked): on the schedule of `add_if_new_symref_packed_counterexample`
(section 4; actor 1 is given three more steps), add_if_new returns False -/
example :
    let fs := FS.init (fun r => if r = 0 then some (.sym 1) else none) none
    finalOuts Variant.coded fs [[.add 0 (.sha 5)], [.cas 1 none (.sha 6), .pack]]
      ([0, 0, 0, 0] ++ List.replicate 24 1 ++ List.replicate 8 0) 0 = [.bool false] := by
  decide +kernel

/-! ## 3. What is still false for the code as it is now (negation witnesses on `Variant.coded`) -/

/-- "A ref whose deletion returned True stays deleted when nobody creates it again." -/
def DeleteSurvivesPackStatement (vr : Variant) : Prop :=
  ∀ sched : List Actor,
    finalOuts vr (fsLoose 1) [[.rm 1 (some (some (.sha 1)))], [.pack]] sched 0 = [.bool true] →
    finalOuts vr (fsLoose 1) [[.rm 1 (some (some (.sha 1)))], [.pack]] sched 1 = [.unit] →
    finalVal vr (fsLoose 1) [[.rm 1 (some (some (.sha 1)))], [.pack]] sched 1 = none

/-- **A deleted ref comes back.**  `pack_refs` read the value 1 (without the ref lock), the ref is deleted,
`pack_refs` writes the stale value into packed-refs; finding the loose file gone (or the ref lock busy) it merely
skips the pruning.  It needs the delete and the packing to exclude each other (git: both hold packed-refs.lock
for their whole critical section). -/
theorem pack_refs_resurrects_deleted_ref_counterexample : ¬ DeleteSurvivesPackStatement Variant.coded :=
  fun h => absurd (h (List.replicate 5 1 ++ List.replicate 9 0 ++ List.replicate 8 1)) (by decide +kernel)

/-- "An update through HEAD, a re-pointing of HEAD and a reader behave as if executed in some order": if the
reader (started after the re-pointing finished) still saw the old value, the update was not yet done, so it came
after the re-pointing and must have gone to the new target. -/
def SymrefUpdateStatement (vr : Variant) : Prop :=
  ∀ sched : List Actor,
    let fs := FS.init (fun r => if r = 0 then some (.sym 1) else if r = 1 then some (.sha 1) else
      if r = 2 then some (.sha 3) else none) none
    let progs : List (List Op) := [[.cas 0 (some (some (.sha 1))) (.sha 5)], [.symref 0 2], [.read 1]]
    -- the witness's schedule runs the re-pointing to completion before the reader starts; no hypothesis asks for it
    finalOuts vr fs progs sched 0 = [.bool true] → finalOuts vr fs progs sched 2 = [.val (some (.sha 1))] →
    finalVal vr fs progs sched 1 = some (.sha 1)

/-- the symref is followed outside any lock: the update lands on the old target after HEAD was re-pointed -/
theorem symref_retarget_counterexample : ¬ SymrefUpdateStatement Variant.coded :=
  fun h => absurd (h (List.replicate 9 0 ++ List.replicate 9 1 ++ [2, 2, 2, 2, 0, 0, 0])) (by decide +kernel)

/-- "A create that returned True is not lost when the only other actor deletes the ref BEFORE it" — here: the
other actor is `add_packed_refs({x: None})`, which has dropped the packed entry before the create starts. -/
def CreateSurvivesUnpackStatement (vr : Variant) : Prop :=
  ∀ sched : List Actor,
    let fs := FS.init (fun r => if r = 0 then some (.sym 1) else none) (some [(1, 1)])
    let progs : List (List Op) := [[.add 1 (.sha 6)], [.unpack 1]]
    finalOuts vr fs progs sched 0 = [.bool true] → finalVal vr fs progs sched 1 = some (.sha 6)

/-- `add_packed_refs({x: None})` drops the packed entry and unlinks the loose file in two steps, without the
ref lock: the create that succeeds in between is destroyed -/
theorem add_packed_refs_none_loses_create_counterexample : ¬ CreateSurvivesUnpackStatement Variant.coded :=
  fun h => absurd (h ([1, 1, 1, 1, 1] ++ List.replicate 11 0 ++ [1, 1, 1])) (by decide +kernel)

/-! ## 4. Regression witnesses: the orders before the fixes (literal variants; the same schedules are in
corpus/C08 and must HOLD on the real code now) -/

/-- before bb5afda: between `os.remove(loose)` and the rename of the new packed-refs the reader finds the ref
MISSING -/
theorem reader_during_pack_refs_sees_missing_counterexample : ¬ ReaderDuringPackStatement Variant.old :=
  fun h => absurd (h (List.replicate 8 0 ++ List.replicate 3 1)) (by decide +kernel)

/-- before bb5afda: in the same window the reader sees the OLDER packed value 1 -/
theorem reader_during_pack_refs_sees_older_counterexample :
    ¬ ReaderDuringPackOlderStatement Variant.old :=
  fun h => absurd (h (List.replicate 8 0 ++ List.replicate 3 1)) (by decide +kernel)

/-- before bb5afda: `remove_if_equals` on a loose+packed ref removes the loose file first: the reader sees the
older packed value 1 come back -/
theorem remove_if_equals_resurrects_packed_counterexample : ¬ ReaderDuringRemoveStatement Variant.old :=
  fun h => absurd (h (List.replicate 5 0 ++ List.replicate 3 1)) (by decide +kernel)

/-- before bb5afda: `_remove_packed_ref` raises FileLocked (packed-refs.lock busy) after the loose file is gone:
the failed delete has changed the ref to its older packed value -/
theorem remove_if_equals_half_deleted_counterexample : ¬ FailedRemoveHasNoEffectStatement Variant.old :=
  fun h => absurd (h (List.replicate 5 1 ++ List.replicate 8 0 ++ List.replicate 4 1)) (by decide +kernel)

/-- before 59021a9 (after bb5afda): the loose file is unlinked unconditionally after the rename of packed-refs,
without the ref's own lock — the update 1 → 5 lands between the rename and the unlink, returns True, and the ref
ends at the stale packed value 1 -/
theorem pack_refs_overwrites_update_counterexample : ¬ UpdateSurvivesPackStatement Variant.bb5afda :=
  fun h => absurd (h (List.replicate 9 1 ++ List.replicate 10 0 ++ [1, 1])) (by decide +kernel)

/-- before bb5afda too (the update lands between the read and the unlink) -/
theorem pack_refs_overwrites_update_old_counterexample : ¬ UpdateSurvivesPackStatement Variant.old :=
  fun h => absurd (h (List.replicate 5 1 ++ List.replicate 9 0 ++ List.replicate 5 1)) (by decide +kernel)

/-- before 3fe26f6: `add_if_new(HEAD)` re-checks packed-refs for `HEAD` instead of the resolved name: the branch
was created (6) and packed in between, add_if_new overwrites it with 5 and reports True -/
theorem add_if_new_symref_packed_counterexample : ¬ AddIfNewStatement Variant.bb5afda :=
  fun h => absurd (h ([0, 0, 0, 0] ++ List.replicate 21 1 ++ List.replicate 8 0)) (by decide +kernel)

/-! ## 5. Concurrent commits -/

open Proto

def CommitNotLostStatement (reads : Nat) : Prop :=
  ∀ (init : Option Sha) (cids : List Sha) (sched : List Nat),
    ChainOK init (prun reads (PState.init init cids) sched).log (prun reads (PState.init init cids) sched).reg

/-- **commit_not_lost** (single-read protocol: `MemoryRepo.do_commit`, and `WorkTree.commit` since fix 7e0c6ae
— over an atomic compare-and-swap register, `Proto` of Model/RefsFS.lean; that the disk operations behave like one is
what `cas_linearizable_loose` says for the loose fragment, but no theorem connects `commitOp` with `Proto.pstep`: on
disk a commit is covered by the two scenarios at the end of this section only).
Any number of actors committing to one branch, every schedule: the successful commits form a first-parent
chain from the final head down to the initial head (so every commit reported successful is in the final branch
history), and every actor that returned a commit id is in that chain. -/
theorem commit_not_lost (init : Option Sha) (cids : List Sha) (sched : List Nat) :
    let s := prun 1 (PState.init init cids) sched
    ChainOK init s.log s.reg ∧
    ∀ (a : Nat) (st : PActor), s.actors[a]? = some st → ∀ p, st.pc = .done true p → (st.cid, p) ∈ s.log := by
  have hinit : PInv init (PState.init init cids) := ⟨rfl, fun st hst => by
    obtain ⟨c, -, rfl⟩ := List.mem_map.mp hst
    exact ⟨by simp, by simp, by simp⟩⟩
  obtain ⟨hchain, hact⟩ := pinv_prun sched hinit
  exact ⟨hchain, fun a st hst => (hact st (List.mem_of_getElem? hst)).2.2⟩

/-- non-vacuity: three actors, an interleaving in which the second and third lose -/
example :
    let s := prun 1 (PState.init (some 1) [100, 101, 102]) [0, 1, 2, 1, 0, 2]
    s.reg = some 101 ∧ s.log = [(101, some 1)] ∧
    s.actors.map (·.pc) = [.done false (some 1), .done true (some 1), .done false (some 1)] := by
  decide +kernel

/-- **commit_not_lost for the protocols the source has NOW**: the number of head reads of `WorkTree.commit` and
of `MemoryRepo.do_commit` is regenerated from the source (both 1 since fix 7e0c6ae); for those protocols, every
schedule, any number of actors: the successful commits form a first-parent chain from the final head.
Re-introducing the second read flips the generated constant and breaks this theorem. -/
theorem commit_not_lost_as_coded (init : Option Sha) (cids : List Sha) (sched : List Nat) :
    ChainOK init (prun Gen.RefsFS.worktreeCommitHeadReads (PState.init init cids) sched).log
      (prun Gen.RefsFS.worktreeCommitHeadReads (PState.init init cids) sched).reg ∧
    ChainOK init (prun Gen.RefsFS.memoryCommitHeadReads (PState.init init cids) sched).log
      (prun Gen.RefsFS.memoryCommitHeadReads (PState.init init cids) sched).reg :=
  -- both generated constants unfold to 1
  ⟨(commit_not_lost init cids sched).1, (commit_not_lost init cids sched).1⟩

/-- **lost_commit_counterexample** (F9, the protocol of `WorkTree.commit` before fix 7e0c6ae: parents from the first
read, swap conditioned on a second read).  Actor 1 commits between actor 0's two reads; actor 0's swap succeeds on
actor 1's commit while its own parent is the old head: commit 101 is reported successful and is not in the
history of the final head 100 (whose parent is 1). -/
theorem lost_commit_counterexample : ¬ CommitNotLostStatement 2 :=
  fun h => absurd (h (some 1) [100, 101] [0, 1, 1, 1, 0, 0]) (by decide +kernel)

/-- the same on the full file-system model with the two-read order of `WorkTree.commit` before fix 7e0c6ae: both commits report success with parent 1, the branch ends at 100, 101 is lost. -/
theorem lost_commit_disk_counterexample :
    let progs : List (List Op) := [[.commit 0 100], [.commit 0 101]]
    let sched := [0, 0, 0] ++ List.replicate 17 1 ++ List.replicate 16 0
    finalOuts Variant.bb5afda (fsLoose 1) progs sched 0 = [.committed 100 (some 1)] ∧
    finalOuts Variant.bb5afda (fsLoose 1) progs sched 1 = [.committed 101 (some 1)] ∧
    finalVal Variant.bb5afda (fsLoose 1) progs sched 1 = some (.sha 100) := by
  decide +kernel

/-- as coded now (single read) the same schedule makes actor 0 the loser (CommitError), nothing is lost -/
example :
    let progs : List (List Op) := [[.commit 0 100], [.commit 0 101]]
    let sched := [0, 0, 0] ++ List.replicate 17 1 ++ List.replicate 16 0
    finalOuts Variant.coded (fsLoose 1) progs sched 0 = [.exc .commit] ∧
    finalOuts Variant.coded (fsLoose 1) progs sched 1 = [.committed 101 (some 1)] ∧
    finalVal Variant.coded (fsLoose 1) progs sched 1 = some (.sha 101) := by
  decide +kernel

end Dulwich.Props.C08
