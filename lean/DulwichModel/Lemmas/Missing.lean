/-
  Lemmas for C05, in this order: reachability in the object graph, "receiver ∪ sent" (`union_restrict_complete`) and the
  executable closure; the pieces of `MissingObjectFinder.__init__` (`_split_commits_and_tags` and the chain of
  tags it follows, `Peel`; `_collect_ancestors`; `get_tree_objects`); one step of the walk (`step_cases`) and the
  inversions of `init`, `mof`, `mofRemoteHas`; soundness of the walk (`FInv`, no hypothesis) and that it yields nothing of
  `get_remote_has()`; completeness (`CInv`, `InitSpec`); association-list stores.  Core Lean only.

  The three loops with a seen-set (`closureAux`, `_collect_ancestors`, the finder's walk) are instances of
  Lemmas/Worklist.lean: each says which edges it follows (`edge`, `parentCut`, `selE`) and ends with `Least`, the least
  set closed under them; `Reach` is such a set too (`reach_least`).

  "What the function returns is reachable from its arguments" is stated as: it lies in every edge-closed `P` that holds
  the arguments (`EdgeClosed s P → … → ∀ x ∈ r, P x`: `SplitSpec.reach`, the `*_sound` lemmas here and in
  Lemmas/Shallow.lean).  `Reach` is put in for `P` at the end; until then the form passes through inductions and cuts
  as it is.

  The structure flags of Gen/ObjGraph.lean are evaluated by the proofs, mostly by definitional
  unfolding (`expand_eq`, `step_cases`: `mofCommitTreeLeaf`, `mofTagTargetLeaf`, `mofTaggedLeaf`,
  `mofEntryLeafIsNotDir`, `mofTreeSkipsGitlinks`; `cftr_sound`: `cftrSkipsGitlinks`): with another value
  regenerated from the source these proofs fail, which is how a change of the walk's structure shows.
-/
import DulwichModel.Model.Missing
import DulwichModel.Lemmas.Worklist
import DulwichModel.Lemmas.Assoc

namespace Dulwich.Missing
open Dulwich Dulwich.Graph Dulwich.Worklist

def edge (s : Store) (y x : Id) : Prop := ∃ o, s y = some o ∧ x ∈ children o

abbrev EdgeClosed (s : Store) (P : Id → Prop) : Prop := Worklist.Closed (edge s) P

theorem reach_least (s : Store) (r : List Id) : Least (edge s) (· ∈ r) (Reach s r) :=
  ⟨fun _ => .root, fun _ _ hy ⟨_, hs, hx⟩ => .step hy hs hx, fun P h0 hP x hx => by
    induction hx with
    | root hm => exact h0 _ hm
    | step _ hs hc ih => exact hP _ _ ih ⟨_, hs, hc⟩⟩

/-- "Receiver ∪ sent" holds the closure of `wants` with the sender's objects, whatever chose `sent`, as long as it covers
what the receiver lacks (`hc`). -/
theorem union_restrict_complete {s r : Store} {wants sent : List Id} (hS : ClosedFor s wants)
    (hA : ∀ x o o', r x = some o → s x = some o' → o = o')
    (hc : ∀ x, Reach s wants x → x ∈ sent ∨ r x = s x) :
    (∀ x, Reach s wants x → union r (restrict s sent) x = s x ∧ (s x).isSome = true) ∧
    ClosedFor (union r (restrict s sent)) wants := by
  have key : ∀ x, Reach s wants x → union r (restrict s sent) x = s x ∧ (s x).isSome = true := by
    intro x hx
    have hsome := hS x hx
    obtain ⟨o', hsx⟩ := Option.isSome_iff_exists.1 hsome
    refine ⟨?_, hsome⟩
    rcases hc x hx with h1 | h1
    · -- sent: what the receiver may hold under this name is the sender's object
      simp only [union, restrict, if_pos h1]
      cases hr : r x with
      | none => rfl
      | some o => rw [hsx, hA x o o' hr hsx]; rfl
    · rw [union, h1, hsx]; rfl
  refine ⟨key, ?_⟩
  have sub : ∀ x, Reach (union r (restrict s sent)) wants x → Reach s wants x := by
    intro x hx
    induction hx with
    | root hm => exact .root hm
    | step _ hs hc ih => exact .step ih ((key _ ih).1 ▸ hs) hc
  intro x hx
  have := key x (sub x hx)
  rw [this.1]; exact this.2

theorem closureAux_inv {s : Store} {R : Id → Prop} {fuel : Nat} {todo seen l : List Id}
    (inv : Inv (edge s) R (· ∈ seen) (· ∈ todo)) (h : closureAux s fuel todo seen = some l) :
    Least (edge s) R (· ∈ l) := by
  fun_induction closureAux s fuel todo seen with
  | case1 => cases h; exact inv.done fun _ => List.not_mem_nil
  | case2 => cases h
  | case3 fuel x todo seen hx ih =>
    exact ih (inv.drop (fun _ => List.mem_cons_of_mem x) fun y hy => (List.mem_cons.1 hy).imp_left fun (e : y = x) => e ▸ hx) h
  | case4 fuel x todo seen _ hs ih =>
    exact ih (inv.visit (.head _) (hS := fun _ => List.mem_cons) (old := fun _ => List.mem_cons.1)
      (kids := fun y ⟨o, ho, _⟩ => nomatch hs.symm.trans ho) (push := fun y hy => .inl (List.mem_cons_of_mem x hy))) h
  | case5 fuel x todo seen _ o hs ih =>
    exact ih (inv.visit (.head _) (hS := fun _ => List.mem_cons)
      (old := fun y hy => (List.mem_cons.1 hy).imp_right (List.mem_append_right _))
      (kids := fun y ⟨o', ho', hy⟩ => .inr (List.mem_append_left _ (Option.some.inj (hs.symm.trans ho') ▸ hy)))
      (push := fun y hy => (List.mem_append.1 hy).symm.imp (List.mem_cons_of_mem x) fun h => ⟨o, hs, h⟩)) h

/-- `Peel s e x`: `x` is `e`, or is reached from `e` by going from a tag to its target any number of times: the objects
`_split_commits_and_tags` looks at for `e`, and those the walk loads one after the other when `e` is a queued tag. -/
inductive Peel (s : Store) : Id → Id → Prop
  | refl {e : Id} : Peel s e e
  | tag {e y x : Id} : s e = some (.tag y) → Peel s y x → Peel s e x

theorem Peel.eq_of_not_tag {s : Store} {e x : Id} (h : Peel s e x) (hn : ∀ y, s e ≠ some (.tag y)) : x = e := by
  cases h with
  | refl => rfl
  | tag hs _ => exact absurd hs (hn _)

/-- `x` is in one of the three lists (commits, tags, others) that `_split_commits_and_tags` returns. -/
def InSplit (r : List Id × List Id × List Id) (x : Id) : Prop := x ∈ r.1 ∨ x ∈ r.2.1 ∨ x ∈ r.2.2

/-- What `split s ign fuel lst = .ok r` guarantees. -/
structure SplitSpec (s : Store) (ign : Bool) (lst : List Id) (r : List Id × List Id × List Id) :
    Prop where
  reach : ∀ P, EdgeClosed s P → (∀ e ∈ lst, (s e).isSome = true → P e) → ∀ x, InSplit r x → P x
  self : ign = false → ∀ e ∈ lst, InSplit r e
  commits : ign = false → ∀ x, InSplit r x → ∀ c, Peel s x c → ∀ t ps, s c = some (.commit t ps) → c ∈ r.1

theorem not_inSplit_nil {x : Id} : ¬ InSplit ([], [], []) x := by
  rintro (h | h | h) <;> cases h

theorem splitOne_spec {s : Store} {ign : Bool} {fuel : Nat} {e : Id} {r : List Id × List Id × List Id}
    (h : splitOne s ign fuel e = .ok r) : SplitSpec s ign [e] r := by
  fun_induction splitOne s ign fuel e generalizing r with
  | case2 fuel e _ hi =>
    cases h
    exact ⟨fun _ _ _ x h => (not_inSplit_nil h).elim, fun h => (nomatch h ▸ hi), fun h => (nomatch h ▸ hi)⟩
  | case4 fuel e t ps hs =>
    cases h
    have one : ∀ x, InSplit ([e], [], []) x → x = e := fun x hx =>
      hx.elim List.mem_singleton.1 fun h => h.elim nofun nofun
    exact ⟨fun P _ he x hx => one x hx ▸ he e (.head _) (Option.isSome_of_eq_some hs),
      fun _ => List.forall_mem_singleton.2 (.inl (.head _)),
      fun _ x hx c hc _ _ _ => by
        cases one x hx
        exact List.mem_singleton.2 (hc.eq_of_not_tag fun y hy => nomatch hs.symm.trans hy)⟩
  | case5 fuel e t hs r' hr' ih =>
    cases h
    have ih := ih hr'
    have mem : ∀ x, InSplit (r'.1, e :: r'.2.1, r'.2.2) x → x = e ∨ InSplit r' x := fun x hx =>
      hx.elim (fun h => .inr (.inl h)) fun h => h.elim
        (fun h => (List.mem_cons.1 h).imp_right fun h => .inr (.inl h)) fun h => .inr (.inr (.inr h))
    refine ⟨fun P hP he x hx => ?_, fun _ => List.forall_mem_singleton.2 (.inr (.inl (.head _))),
      fun hi x hx c hc t' ps' hc' => ?_⟩
    · have hPe := he e (.head _) (Option.isSome_of_eq_some hs)
      exact (mem x hx).elim (· ▸ hPe) (ih.reach P hP
        (fun t' ht' _ => List.mem_singleton.1 ht' ▸ hP e t hPe ⟨_, hs, .head _⟩) x)
    · rcases mem x hx with rfl | hx
      · cases hc with
        | refl => cases hs.symm.trans hc'
        | tag hs' hc => cases hs.symm.trans hs'; exact ih.commits hi t (ih.self hi t (.head _)) c hc t' ps' hc'
      · exact ih.commits hi x hx c hc t' ps' hc'
  | case7 fuel e o hnc hnt hs =>
    cases h
    have one : ∀ x, InSplit ([], [], [e]) x → x = e := fun x hx =>
      hx.elim nofun fun h => h.elim nofun List.mem_singleton.1
    exact ⟨fun P _ he x hx => one x hx ▸ he e (.head _) (Option.isSome_of_eq_some hs),
      fun _ => List.forall_mem_singleton.2 (.inr (.inr (.head _))),
      fun _ x hx c hc t ps hc' => by
        cases one x hx
        cases hc.eq_of_not_tag fun y hy => hnt y (Option.some.inj (hs ▸ hy))
        exact absurd (Option.some.inj (hs ▸ hc')) (hnc t ps)⟩
  | _ => cases h

theorem inSplit_append {a b : List Id × List Id × List Id} {x : Id} :
    InSplit (a.1 ++ b.1, a.2.1 ++ b.2.1, a.2.2 ++ b.2.2) x ↔ InSplit a x ∨ InSplit b x := by
  simp only [InSplit, List.mem_append]
  grind

theorem split_spec {s : Store} {ign : Bool} {fuel : Nat} {lst : List Id} {r : List Id × List Id × List Id}
    (h : split s ign fuel lst = .ok r) : SplitSpec s ign lst r := by
  fun_induction split s ign fuel lst generalizing r with
  | case1 =>
    cases h
    exact ⟨fun _ _ _ x h => (not_inSplit_nil h).elim, fun _ => nofun, fun _ x h => (not_inSplit_nil h).elim⟩
  | case4 e rest a ha b hb ih =>
    cases h
    have ha := splitOne_spec ha
    have hb := ih hb
    exact {
      reach := fun P hP he x hx => (inSplit_append.1 hx).elim
        (ha.reach P hP (fun e' he' => he e' (List.mem_singleton.1 he' ▸ .head _)) x)
        (hb.reach P hP (fun e' he' => he e' (List.mem_cons_of_mem e he')) x)
      self := fun hi e' he' => inSplit_append.2 <| (List.mem_cons.1 he').imp
        (fun h => ha.self hi e' (List.mem_singleton.2 h)) (hb.self hi e')
      commits := fun hi x hx c hc t ps hs => List.mem_append.2 <| (inSplit_append.1 hx).imp
        (fun h => ha.commits hi x h c hc t ps hs) (fun h => hb.commits hi x h c hc t ps hs) }
  | _ => cases h

/-- The edges `_collect_ancestors` follows. -/
def parentCut (s : Store) (common shallow : List Id) (c p : Id) : Prop :=
  c ∉ common ∧ c ∉ shallow ∧ ∃ t ps, s c = some (.commit t ps) ∧ p ∈ ps

/-- What `_collect_ancestors` returns as `(commits, bases) = r`, from the roots `R`: a commit collected is outside `common`,
and is a commit of the store unless it is a shallow boundary, whose object is not loaded. -/
structure AncSpec (s : Store) (common shallow : List Id) (R : Id → Prop) (r : List Id × List Id) : Prop where
  least : Least (parentCut s common shallow) R (fun x => x ∈ r.1 ∨ x ∈ r.2)
  commits : ∀ c ∈ r.1, c ∉ common ∧ (c ∈ shallow ∨ ∃ t ps, s c = some (.commit t ps))
  bases : ∀ b ∈ r.2, b ∈ common

theorem collectAncestors_inv {s : Store} {common shallow : List Id} {R : Id → Prop} {fuel : Nat}
    {q cs bs : List Id} {r : List Id × List Id}
    (inv : Inv (parentCut s common shallow) R (fun x => x ∈ cs ∨ x ∈ bs) (· ∈ q))
    (hcs : ∀ c ∈ cs, c ∉ common ∧ (c ∈ shallow ∨ ∃ t ps, s c = some (.commit t ps)))
    (hbs : ∀ b ∈ bs, b ∈ common) (h : collectAncestors s common shallow fuel q cs bs = .ok r) :
    AncSpec s common shallow R r := by
  have tl : ∀ {e x : Id} {q : List Id}, x ∈ e :: q → x = e ∨ x ∈ q := List.mem_cons.1
  fun_induction collectAncestors s common shallow fuel q cs bs with
  | case1 => cases h; exact ⟨inv.done fun _ => List.not_mem_nil, hcs, hbs⟩
  | case3 fuel e q cs bs hc ih =>
    exact ih (inv.visit (.head _) (hS := fun _ => by rw [List.mem_cons]; exact or_left_comm) (old := fun _ => tl)
      (kids := fun _ hy => (hy.1 hc).elim) (push := fun _ hy => .inl (.tail _ hy))) hcs (List.forall_mem_cons.2 ⟨hc, hbs⟩) h
  | case4 fuel e q cs bs _ he ih =>
    exact ih (inv.drop (fun _ => .tail _) fun x hx => (tl hx).imp_left fun (h : x = e) => .inl (h ▸ he)) hcs hbs h
  | case5 fuel e q cs bs hc _ hsh ih =>
    exact ih (inv.visit (.head _) (hS := fun _ => by rw [List.mem_cons, or_assoc]) (old := fun _ => tl)
      (kids := fun _ hy => (hy.2.1 hsh).elim) (push := fun _ hy => .inl (.tail _ hy)))
      (List.forall_mem_cons.2 ⟨⟨hc, .inl hsh⟩, hcs⟩) hbs h
  | case7 fuel e q cs bs hc _ hsh t ps hs ih =>
    exact ih (inv.visit (.head _) (hS := fun _ => by rw [List.mem_cons, or_assoc])
      (old := fun x hx => (tl hx).imp_right (List.mem_append_left ps))
      (kids := fun y ⟨_, _, t', ps', hs', hy⟩ => by cases hs.symm.trans hs'; exact .inr (List.mem_append_right q hy))
      (push := fun y hy => (List.mem_append.1 hy).imp (.tail _) fun h => ⟨hc, hsh, t, ps, hs, h⟩))
      (List.forall_mem_cons.2 ⟨⟨hc, .inr ⟨t, ps, hs⟩⟩, hcs⟩) hbs h
  | _ => cases h

theorem collectAncestors_spec {s : Store} {common shallow : List Id} {fuel : Nat} {q : List Id}
    {r : List Id × List Id} (h : collectAncestors s common shallow fuel q [] [] = .ok r) :
    AncSpec s common shallow (· ∈ q) r :=
  collectAncestors_inv (.init (fun _ h => h.elim List.not_mem_nil List.not_mem_nil) fun _ => .rfl) nofun nofun h

theorem collectAncestors_sound {s : Store} {P : Id → Prop} (hP : EdgeClosed s P) {common shallow : List Id}
    {fuel : Nat} {q : List Id} {r : List Id × List Id} (h : collectAncestors s common shallow fuel q [] [] = .ok r)
    (hq : ∀ x ∈ q, P x) : ∀ x ∈ r.1, P x := fun x hx =>
  (collectAncestors_spec h).least.least P hq (fun y x hy ⟨_, _, t, _, hs, hx⟩ => hP y x hy ⟨_, hs, .tail t hx⟩) x (.inl hx)

theorem mem_treeKids {es : List (Kind × Id)} {e : Kind × Id} (he : e ∈ es) (hk : e.1 ≠ Kind.gitlink) :
    e.2 ∈ treeKids es :=
  List.mem_map_of_mem (List.mem_filter.2 ⟨he, decide_eq_true hk⟩)

theorem cftr_sound {s : Store} {P : Id → Prop} (hP : EdgeClosed s P) {fuel : Nat}
    {st : List (List (Kind × Id))} {k r : List Id} (h : cftr s fuel st k = .ok r)
    (hst : ∀ e ∈ st.flatten, e.1 ≠ Kind.gitlink → P e.2) (hk : ∀ x ∈ k, P x) : ∀ x ∈ r, P x := by
  fun_induction cftr s fuel st k with
  | case1 => cases h; exact hk
  | case3 fuel st k ih => exact ih h hst hk
  | case4 fuel e es st k _ ih => exact ih h (List.forall_mem_cons (l := (es :: st).flatten).1 hst).2 hk
  | case6 fuel e es st k hcond _ es' hs ih =>
    -- the stack's entries, flattened, are `e` followed by those of `es :: st`
    have ⟨he, hrest⟩ := List.forall_mem_cons (l := (es :: st).flatten).1 hst
    have hPe : P e.2 := he fun hgl => hcond (by simp [Gen.cftrSkipsGitlinks, hgl])
    exact ih h (List.forall_mem_append.2
      ⟨fun e' he' hg' => hP e.2 e'.2 hPe ⟨_, hs, mem_treeKids he' hg'⟩, hrest⟩) (List.forall_mem_cons.2 ⟨hPe, hk⟩)
  | case8 fuel e es st k hcond _ ih =>
    have ⟨he, hrest⟩ := List.forall_mem_cons (l := (es :: st).flatten).1 hst
    exact ih h hrest (List.forall_mem_cons.2 ⟨he fun hgl => hcond (by simp [Gen.cftrSkipsGitlinks, hgl]), hk⟩)
  | _ => cases h

theorem treeObjects_sound {s : Store} {P : Id → Prop} (hP : EdgeClosed s P) {fuel : Nat} {t : Id}
    {r : List Id} (h : treeObjects s fuel t = .ok r) (ht : P t) : ∀ x ∈ r, P x := by
  unfold treeObjects at h
  split at h
  · cases h
  · rename_i es hs
    refine cftr_sound hP h (List.forall_mem_append.2
      ⟨fun e he hg => hP t e.2 ht ⟨_, hs, mem_treeKids he hg⟩, List.forall_mem_nil _⟩) fun x hx => ?_
    split at hx
    · exact List.mem_singleton.1 hx ▸ ht
    · cases hx
  · cases h

theorem remoteHas_spec {s : Store} {P : Id → Prop} (hP : EdgeClosed s P) {fuel : Nat} {l r : List Id}
    (h : remoteHas s fuel l = .ok r) : (∀ x ∈ l, x ∈ r) ∧ ((∀ x ∈ l, P x) → ∀ x ∈ r, P x) := by
  fun_induction remoteHas s fuel l generalizing r with
  | case1 => cases h; exact ⟨List.forall_mem_nil _, fun _ => List.forall_mem_nil _⟩
  | case5 c rest t ps hs k hk r' hr' ih =>
    cases h
    refine ⟨List.forall_mem_cons.2 ⟨.head _, fun x hx =>
      .tail _ (List.mem_append_right k ((ih hr').1 x hx))⟩, fun hl => ?_⟩
    have ⟨hc, hl⟩ := List.forall_mem_cons.1 hl
    exact List.forall_mem_cons.2 ⟨hc, List.forall_mem_append.2
      ⟨treeObjects_sound hP hk (hP c t hc ⟨_, hs, .head _⟩), (ih hr').2 hl⟩⟩
  | _ => cases h

/-- The queue entries that loading `o` produces: `expand` with the flags read from the source
evaluated. -/
def kidsOf : Obj → List (Id × Bool)
  | .commit t _ => [(t, false)]
  | .tree es => es.filterMap fun e => if e.1 == Kind.gitlink then none else some (e.2, e.1 != Kind.dir)
  | .tag t => [(t, false)]
  | .blob => []

theorem expand_eq (s : Store) (x : Id) :
    expand s x = match s x with
      | none => .error .key
      | some o => .ok (kidsOf o) := by
  unfold expand
  cases s x with
  | none => rfl
  | some o => cases o <;> rfl

/-- The edges the walk follows from a loaded object: the names it queues (a commit's parents are not among them: the
commits to send were fixed by `_collect_ancestors`). -/
def walkKids (o : Obj) : List Id := (kidsOf o).map (·.1)

theorem walkKids_tree (es : List (Kind × Id)) : walkKids (.tree es) = treeKids es := by
  rw [walkKids, kidsOf, treeKids, List.map_filterMap, ← List.filterMap_eq_map', List.filterMap_filter]
  exact congrArg (List.filterMap · es) (funext fun e => by cases e.1 <;> rfl)

theorem walkKids_sub {o : Obj} {c : Id} (h : c ∈ walkKids o) : c ∈ children o := by
  cases o with
  | commit t ps => exact List.mem_singleton.1 h ▸ .head _
  | tree es => rwa [walkKids_tree] at h
  | _ => exact h

theorem mem_children {o : Obj} {c : Id} (h : c ∈ children o) :
    c ∈ walkKids o ∨ ∃ t ps, o = .commit t ps ∧ c ∈ ps := by
  cases o with
  | commit t ps => exact (List.mem_cons.1 h).imp List.mem_singleton.2 fun h => ⟨t, ps, rfl, h⟩
  | tree es => exact .inl (walkKids_tree es ▸ h)
  | _ => exact .inl h

theorem eq_blob_of_isBlobOrAbsent {o : Option Obj} (h : isBlobOrAbsent o = true) :
    ∀ o', o = some o' → o' = .blob := by
  rcases o with _ | (_|_|_|_) <;> simp_all [isBlobOrAbsent]

theorem kidsOf_typed {s : Store} {x : Id} {o : Obj} (hwt : WellTyped s) (hs : s x = some o) :
    ∀ e ∈ kidsOf o, (e.2 = true → ∀ o', s e.1 = some o' → o' = .blob) ∧
      (e.2 = false → o = .tag e.1 ∨ isTreeOrAbsent (s e.1) = true) := by
  have hw := hwt x o hs
  intro e he
  cases o with
  | commit t ps => cases List.mem_singleton.1 he; exact ⟨nofun, fun _ => .inr hw⟩
  | tree es =>
    obtain ⟨a, ha, h⟩ := List.mem_filterMap.1 he
    split at h
    · cases h
    · rename_i hg
      cases h
      refine ⟨fun hl => eq_blob_of_isBlobOrAbsent ((hw a ha).2 ?_),
        fun hl => .inr ((hw a ha).1 (by simpa using hl))⟩
      cases hk : a.1 <;> simp [hk] at hg hl ⊢
  | tag t => cases List.mem_singleton.1 he; exact ⟨nofun, fun _ => .inl rfl⟩
  | blob => cases he

theorem mem_addTodo {done : List Id} {entries todo : List (Id × Bool)} {e : Id × Bool} :
    e ∈ addTodo done entries todo ↔ (e ∈ entries ∧ e.1 ∉ done) ∨ e ∈ todo := by
  simp [addTodo]

theorem mem_eraseIdx_or {α : Type} {l : List α} {i : Nat} {a b : α} (hget : l[i]? = some a)
    (hb : b ∈ l) : b = a ∨ b ∈ l.eraseIdx i := by
  obtain ⟨j, hj⟩ := List.mem_iff_getElem?.1 hb
  by_cases h : j = i
  · exact .inl (Option.some.inj ((h ▸ hj).symm.trans hget))
  · exact .inr (List.mem_eraseIdx_iff_getElem?.2 ⟨j, h, hj⟩)

/-- The queue `todo` after `(x, leaf)` has been popped off `st.todo` and `x` loaded. -/
structure Visit (s : Store) (tagged : List (Id × Id)) (st : St) (todo : List (Id × Bool)) (x : Id)
    (leaf : Bool) : Prop where
  mem : (x, leaf) ∈ st.todo
  fresh : x ∉ st.done
  sub : ∀ e ∈ todo, e ∈ st.todo ∨ (leaf = false ∧ ∃ o, s x = some o ∧ e ∈ kidsOf o) ∨
    (tagged.lookup x = some e.1 ∧ e.2 = true)
  old : ∀ e ∈ st.todo, e = (x, leaf) ∨ e ∈ todo
  kid : leaf = false → ∀ o, s x = some o → ∀ e ∈ kidsOf o, e.1 ∉ st.done → e ∈ todo
  tag : ∀ t, tagged.lookup x = some t → t ∉ st.done → (t, true) ∈ todo

theorem step_cases {s : Store} {tagged : List (Id × Id)} {i : Nat} {st st' : St} :
    step s tagged i st = .ok st' →
    (∃ todo, st' = { st with todo := todo } ∧ (∀ e ∈ todo, e ∈ st.todo) ∧
      ∀ e ∈ st.todo, e.1 ∈ st.done ∨ e ∈ todo) ∨
    ∃ x leaf todo, st' = { todo := todo, done := x :: st.done, sent := x :: st.sent } ∧
      Visit s tagged st todo x leaf := by
  fun_cases step s tagged i st with
  | case1 => rintro ⟨⟩; exact .inl ⟨_, rfl, fun _ h => h, fun _ h => .inr h⟩
  | case2 x leaf hget todo hxd =>
    rintro ⟨⟩
    exact .inl ⟨_, rfl, fun _ => List.mem_of_mem_eraseIdx,
      fun e he => (mem_eraseIdx_or hget he).imp_left fun h => by rw [h]; exact hxd⟩
  | case3 => nofun
  | case4 x leaf hget todo hxd kids hkids tg =>
    rintro ⟨⟩
    have hk : ∀ e, e ∈ kids ↔ leaf = false ∧ ∃ o, s x = some o ∧ e ∈ kidsOf o := by
      cases leaf with
      | true => cases hkids; simp
      | false =>
        simp only [Bool.false_eq_true, if_false, expand_eq] at hkids
        split at hkids
        · cases hkids
        · rename_i o hs; cases hkids; simp [hs]
    have ht : ∀ e, e ∈ tg ↔ tagged.lookup x = some e.1 ∧ e.2 = true := by
      intro e
      unfold tg
      cases tagged.lookup x with
      | none => simp
      | some t =>
        refine ⟨fun h => ?_, fun ⟨h1, h2⟩ => ?_⟩
        · cases List.mem_singleton.1 h; exact ⟨rfl, rfl⟩
        · obtain ⟨a, b⟩ := e; cases h1; cases h2; exact .head _
    refine .inr ⟨x, leaf, _, rfl, List.mem_of_getElem? hget, hxd, ?_, ?_, ?_, ?_⟩
    · intro e he
      rcases mem_addTodo.1 he with ⟨he, _⟩ | he
      · exact .inr (.inr ((ht e).1 he))
      · rcases mem_addTodo.1 he with ⟨he, _⟩ | he
        · exact .inr (.inl ((hk e).1 he))
        · exact .inl (List.mem_of_mem_eraseIdx he)
    · exact fun e he => (mem_eraseIdx_or hget he).imp_right fun h =>
        mem_addTodo.2 (.inr (mem_addTodo.2 (.inr h)))
    · exact fun hl o hs e he hd => mem_addTodo.2 (.inr (mem_addTodo.2 (.inl ⟨(hk e).2 ⟨hl, o, hs, he⟩, hd⟩)))
    · exact fun t hl hd => mem_addTodo.2 (.inl ⟨(ht (t, true)).2 ⟨hl, rfl⟩, hd⟩)

theorem run_inv {s : Store} {tagged : List (Id × Id)} {pick : Nat → List (Id × Bool) → Nat}
    {I : St → Prop} (hstep : ∀ {i st st'}, I st → step s tagged i st = .ok st' → I st') {fuel : Nat}
    {st st' : St} (inv : I st) (h : run s tagged pick fuel st = .ok st') : I st' ∧ st'.todo = [] := by
  fun_induction run s tagged pick fuel st with
  | case1 st hnil | case3 fuel st hnil => cases h; exact ⟨inv, hnil⟩
  | case5 fuel st _ _ _ st1 h1 ih => exact ih (hstep inv h1) h
  | _ => cases h

theorem init_ok {s : Store} {fuel : Nat} {haves wants shallow : List Id} {st0 : St} :
    init s fuel haves wants shallow = .ok st0 →
    ∃ hh w anc mc rh, split s true fuel haves = .ok hh ∧ split s false fuel wants = .ok w ∧
      collectAncestors s [] shallow fuel hh.1 [] [] = .ok anc ∧
      collectAncestors s anc.1 shallow fuel w.1 [] [] = .ok mc ∧ remoteHas s fuel mc.2 = .ok rh ∧
      st0.sent = [] ∧ st0.done = hh.2.1 ++ rh ∧
      ∀ e, e ∈ st0.todo ↔ e.2 = false ∧
        (e.1 ∈ mc.1 ∨ (e.1 ∈ w.2.1 ∧ e.1 ∉ hh.2.1) ∨ (e.1 ∈ w.2.2 ∧ e.1 ∉ hh.2.2)) := by
  fun_cases init s fuel haves wants shallow with
  | case6 hh hsplit w wsplit anc hanc mc hmc rh hrh =>
    rintro ⟨⟩
    refine ⟨hh, w, anc, mc, rh, hsplit, wsplit, hanc, hmc, hrh, rfl, rfl, fun e => ?_⟩
    rw [← List.map_append, ← List.map_append, List.mem_map]
    simp only [List.mem_append, List.mem_filter, decide_eq_true_eq, or_assoc]
    exact ⟨fun ⟨c, hc, h⟩ => h ▸ ⟨rfl, hc⟩, fun ⟨h2, h⟩ => ⟨e.1, h, Prod.ext rfl h2.symm⟩⟩
  | _ => nofun

theorem mof_ok {s : Store} {tagged : List (Id × Id)} {pick : Nat → List (Id × Bool) → Nat} {fuel : Nat}
    {haves wants shallow sent : List Id} : mof s tagged pick fuel haves wants shallow = .ok sent →
    ∃ st0 st, init s fuel haves wants shallow = .ok st0 ∧ run s tagged pick fuel st0 = .ok st ∧
      st.sent = sent := by
  fun_cases mof s tagged pick fuel haves wants shallow with
  | case3 st0 h0 st hrun => exact fun h => ⟨st0, st, h0, hrun, Except.ok.inj h⟩
  | _ => nofun

theorem mofRemoteHas_ok {s : Store} {fuel : Nat} {haves wants shallow rh : List Id} :
    mofRemoteHas s fuel haves wants shallow = .ok rh →
    ∃ st0, init s fuel haves wants shallow = .ok st0 ∧ st0.done = rh := by
  fun_cases mofRemoteHas s fuel haves wants shallow with
  | case1 => nofun
  | case2 st0 h0 => exact fun h => ⟨st0, h0, Except.ok.inj h⟩

/-- Invariant for soundness; `run_sound` says which `Q`. -/
structure FInv (Q : Id → Bool → Prop) (st : St) : Prop where
  todo : ∀ e ∈ st.todo, Q e.1 e.2
  sent : ∀ x ∈ st.sent, ∃ lf, Q x lf

theorem step_finv {s : Store} {tagged : List (Id × Id)} {Q : Id → Bool → Prop}
    (hkid : ∀ x o c lf, Q x false → s x = some o → c ∈ walkKids o → Q c lf)
    (htag : ∀ x lf t, Q x lf → tagged.lookup x = some t → Q t true) {i : Nat} {st st' : St}
    (inv : FInv Q st) (h : step s tagged i st = .ok st') : FInv Q st' := by
  rcases step_cases h with ⟨todo, rfl, sub, _⟩ | ⟨x, leaf, todo, rfl, k⟩
  · exact ⟨fun e he => inv.todo e (sub e he), inv.sent⟩
  · have hx : Q x leaf := inv.todo _ k.mem
    refine ⟨fun e he => ?_, List.forall_mem_cons.2 ⟨⟨leaf, hx⟩, inv.sent⟩⟩
    rcases k.sub e he with he | ⟨rfl, o, hs, he⟩ | ⟨ht, hl⟩
    · exact inv.todo e he
    · exact hkid x o e.1 e.2 hx hs (List.mem_map_of_mem he)
    · exact hl ▸ htag x leaf e.1 hx ht

/-- Soundness of the walk, with `Q x leaf` := `x` is reachable from the wants, or the entry is a leaf
entry for an auto-followed tag (such an entry is never loaded). -/
theorem run_sound {s : Store} {tagged : List (Id × Id)} {pick : Nat → List (Id × Bool) → Nat}
    {fuel : Nat} {haves wants shallow : List Id} {st0 st : St}
    (h0 : init s fuel haves wants shallow = .ok st0) (hrun : run s tagged pick fuel st0 = .ok st) :
    ∀ x ∈ st.sent, Reach s wants x ∨ x ∈ tagged.map (·.2) := by
  obtain ⟨hh, w, anc, mc, rh, _, hw, _, hmc, _, hsent, _, htodo⟩ := init_ok h0
  have up := (split_spec hw).reach _ (reach_least s wants).closed fun e he _ => .root he
  have hmc : ∀ x ∈ mc.1, Reach s wants x :=
    collectAncestors_sound (reach_least s wants).closed hmc fun x hx => up x (.inl hx)
  have inv0 : FInv (fun x lf => Reach s wants x ∨ (lf = true ∧ x ∈ tagged.map (·.2))) st0 :=
    ⟨fun e he => .inl (((htodo e).1 he).2.elim (hmc e.1) fun h =>
        h.elim (fun h => up e.1 (.inr (.inl h.1))) fun h => up e.1 (.inr (.inr h.1))),
      hsent ▸ nofun⟩
  intro x hx
  obtain ⟨lf, hq⟩ := (run_inv (step_finv
    (fun x o c lf hq hs hc => .inl (.step (hq.resolve_right fun h => nomatch h.1) hs (walkKids_sub hc)))
    (fun x lf t _ ht => .inr ⟨rfl, List.mem_map_of_mem (f := (·.2)) (Assoc.mem_of_lookup ht)⟩))
    inv0 hrun).1.sent x hx
  exact hq.imp_right (·.2)

theorem run_fresh {s : Store} {tagged : List (Id × Id)} {pick : Nat → List (Id × Bool) → Nat} {fuel : Nat}
    {st0 st : St} (h0 : st0.sent = []) (hrun : run s tagged pick fuel st0 = .ok st) :
    ∀ x ∈ st.sent, x ∉ st0.done := by
  refine (run_inv (I := fun st => (∀ x ∈ st0.done, x ∈ st.done) ∧ ∀ x ∈ st.sent, x ∉ st0.done)
    (fun inv h => ?_) ⟨fun _ h => h, h0 ▸ nofun⟩ hrun).1.2
  rcases step_cases h with ⟨todo, rfl, _⟩ | ⟨x, leaf, todo, rfl, k⟩
  · exact inv
  · exact ⟨fun y hy => .tail _ (inv.1 y hy),
      List.forall_mem_cons.2 ⟨fun hx => k.fresh (inv.1 x hx), inv.2⟩⟩

theorem mof_disjoint_remoteHas {s : Store} {tagged : List (Id × Id)} {pick : Nat → List (Id × Bool) → Nat} {fuel : Nat}
    {haves wants shallow sent rh : List Id} (h : mof s tagged pick fuel haves wants shallow = .ok sent)
    (hrh : mofRemoteHas s fuel haves wants shallow = .ok rh) : ∀ x ∈ sent, x ∉ rh := by
  obtain ⟨st0, st, h0, hrun, rfl⟩ := mof_ok h
  obtain ⟨st0', h0', rfl⟩ := mofRemoteHas_ok hrh
  cases h0.symm.trans h0'
  obtain ⟨_, _, _, _, _, _, _, _, _, _, hsent, _⟩ := init_ok h0
  exact run_fresh hsent hrun

/-- `x` may be loaded: a commit at the end of the tag chain from `x` (`x` itself, if it is one) was classified by `__init__`:
missing, or in `sha_done`. -/
def Loadable (s : Store) (M D0 : List Id) (x : Id) : Prop :=
  ∀ c, Peel s x c → ∀ t ps, s c = some (.commit t ps) → c ∈ M ∨ c ∈ D0

/-- The edges the finder's walk follows: from an object to its `walkKids`, and from a name to the tag `get_tagged()` has
for it; never into `D0`, the initial `sha_done` (`add_todo` drops an entry whose name is done). -/
def selE (s : Store) (tagged : List (Id × Id)) (D0 : List Id) (y c : Id) : Prop :=
  ((∃ o, s y = some o ∧ c ∈ walkKids o) ∨ tagged.lookup y = some c) ∧ c ∉ D0

/-- The pending set of the walk seen as a `Worklist` loop: queued and not yet done (a queued entry that is done is
dropped when popped). -/
def Pending (st : St) (x : Id) : Prop := x ∉ st.done ∧ ∃ lf, (x, lf) ∈ st.todo

/-- Completeness invariant: `M` = missing commits, `D0` = initial `sha_done`, `R` = the initial queue outside `D0`.
The walk marks an object done without loading it when it pops a leaf entry; `leaf` says that such an entry hides no edge
(it is absent, a blob, or an auto-followed tag whose target is done) and `nonleaf` that the commits that do get loaded,
at once or after the tags above them, are the ones `__init__` accounted for. -/
structure CInv (s : Store) (tagged : List (Id × Id)) (M D0 : List Id) (R : Id → Prop) (st : St) : Prop where
  done_split : ∀ x ∈ st.done, x ∈ D0 ∨ x ∈ st.sent
  d0 : ∀ x ∈ D0, x ∈ st.done
  wl : Inv (selE s tagged D0) R (· ∈ st.sent) (Pending st)
  commit : ∀ x ∈ st.sent, ∀ t ps, s x = some (.commit t ps) → x ∈ M
  nonleaf : ∀ e ∈ st.todo, e.2 = false → Loadable s M D0 e.1
  leaf : ∀ e ∈ st.todo, e.2 = true → ∀ o, s e.1 = some o →
    (∀ t ps, o ≠ .commit t ps) ∧ ∀ c ∈ walkKids o, c ∈ st.done

theorem step_cinv {s : Store} {tagged : List (Id × Id)} {M D0 : List Id} {R : Id → Prop}
    (hwt : WellTyped s) (htg : TaggedDirect s tagged)
    {i : Nat} {st st' : St} (inv : CInv s tagged M D0 R st) (h : step s tagged i st = .ok st') :
    CInv s tagged M D0 R st' := by
  rcases step_cases h with ⟨todo, rfl, sub, old⟩ | ⟨x, leaf, todo, rfl, k⟩
  · exact { inv with
            wl := inv.wl.drop (fun _ ⟨hd, lf, h⟩ => ⟨hd, lf, sub _ h⟩)
              fun _ ⟨hd, lf, h⟩ => .inr ⟨hd, lf, (old _ h).resolve_left hd⟩
            nonleaf := fun e he => inv.nonleaf e (sub e he)
            leaf := fun e he => inv.leaf e (sub e he) }
  · have cov : ∀ e : Id × Bool, e.1 ∉ D0 → (e.1 ≠ x → e.1 ∉ st.done → e ∈ todo) →
        e.1 ∈ x :: st.sent ∨ Pending ⟨todo, x :: st.done, x :: st.sent⟩ e.1 := fun e hD he =>
      if hx : e.1 = x then .inl (hx ▸ .head _)
      else if hd : e.1 ∈ st.done then .inl (.tail _ ((inv.done_split _ hd).resolve_left hD))
      else .inr ⟨fun h => (List.mem_cons.1 h).elim hx hd, e.2, he hx hd⟩
    have hx : Pending st x := ⟨k.fresh, leaf, k.mem⟩
    refine { done_split := ?_, d0 := fun y hy => .tail _ (inv.d0 y hy),
             wl := inv.wl.visit hx (hS := fun _ => List.mem_cons) (old := ?_) (kids := ?_) (push := ?_),
             commit := ?_, nonleaf := ?_, leaf := ?_ }
    · exact List.forall_mem_cons.2 ⟨.inr (.head _), fun y hy =>
        (inv.done_split y hy).imp_right (List.mem_cons_of_mem _)⟩
    · exact fun y ⟨hd, lf, hy⟩ => if hne : y = x then .inl hne else
        .inr ⟨fun h => (List.mem_cons.1 h).elim hne hd, lf, (k.old _ hy).resolve_left fun e => hne (congrArg Prod.fst e)⟩
    · rintro z ⟨⟨o, hs, hc⟩ | ht, hD⟩
      · cases leaf with
        | false =>
          obtain ⟨e, he, rfl⟩ := List.mem_map.1 hc
          exact cov e hD fun _ => k.kid rfl o hs e he
        | true => exact cov (z, true) hD fun _ hd => absurd ((inv.leaf _ k.mem rfl o hs).2 z hc) hd
      · exact cov (z, true) hD fun _ => k.tag z ht
    · rintro y ⟨hd, lf, hy⟩
      have hD : y ∉ D0 := fun h => hd (.tail _ (inv.d0 y h))
      rcases k.sub _ hy with he | ⟨_, o, hs, he⟩ | ⟨ht, _⟩
      · exact .inl ⟨fun h => hd (.tail _ h), lf, he⟩
      · exact .inr ⟨.inl ⟨o, hs, List.mem_map_of_mem he⟩, hD⟩
      · exact .inr ⟨.inr ht, hD⟩
    · refine List.forall_mem_cons.2 ⟨fun t ps hs => ?_, inv.commit⟩
      cases leaf with
      | false => exact (inv.nonleaf _ k.mem rfl x .refl t ps hs).resolve_right fun h => k.fresh (inv.d0 _ h)
      | true => exact absurd rfl ((inv.leaf _ k.mem rfl _ hs).1 t ps)
    · intro e he hl
      rcases k.sub e he with he | ⟨rfl, o, hs, he⟩ | ⟨_, ht⟩
      · exact inv.nonleaf e he hl
      · rcases (kidsOf_typed hwt hs e he).2 hl with rfl | h1
        · exact fun c hc => inv.nonleaf _ k.mem rfl c (.tag hs hc)
        · intro c hc t ps hs
          cases hc.eq_of_not_tag fun y hy => nomatch hy ▸ h1
          exact nomatch hs ▸ h1
      · cases hl.symm.trans ht
    · intro e he hl o' ho'
      rcases k.sub e he with he | ⟨rfl, o, hs, he⟩ | ⟨ht, _⟩
      · exact (inv.leaf e he hl o' ho').imp_right fun h c hc => List.mem_cons_of_mem _ (h c hc)
      · cases (kidsOf_typed hwt hs e he).1 hl o' ho'
        exact ⟨nofun, nofun⟩
      · -- an auto-followed tag: its target `x` has just been yielded
        cases ho'.symm.trans ((htg x e.1 ht).resolve_right fun h => nomatch ho'.symm.trans h)
        exact ⟨nofun, fun c hc => List.mem_singleton.1 hc ▸ .head _⟩

theorem mem_present {s : Store} {l : List Id} {x : Id} :
    x ∈ present s l ↔ x ∈ l ∧ (s x).isSome = true :=
  List.mem_filter

/-- What `__init__` establishes when there is no shallow cut: `M` are the commits found missing. -/
structure InitSpec (s : Store) (haves wants : List Id) (st0 : St) (M : List Id) : Prop where
  sent : st0.sent = []
  done_reach : ∀ x ∈ st0.done, Reach s (present s haves) x
  queued : ∀ e ∈ st0.todo, e.2 = false ∧ Loadable s M st0.done e.1
  missing : ∀ c ∈ M, (c, false) ∈ st0.todo ∧ ∃ t ps, s c = some (.commit t ps) ∧
    ∀ p ∈ ps, Reach s (present s haves) p ∨ p ∈ M
  wants : ∀ r ∈ wants, Reach s (present s haves) r ∨ ∃ lf, (r, lf) ∈ st0.todo

theorem init_spec {s : Store} {fuel : Nat} {haves wants : List Id} {st0 : St}
    (h : init s fuel haves wants [] = .ok st0) : ∃ M, InitSpec s haves wants st0 M := by
  obtain ⟨hh, w, anc, mc, rh, hhs, hws, hanc, hmc, hrh, hsent, hdone, htodo⟩ := init_ok h
  have hhs := split_spec hhs
  have hws := split_spec hws
  have hR := (reach_least s (present s haves)).closed
  have hhR := hhs.reach _ hR fun e he hp => .root (mem_present.2 ⟨he, hp⟩)
  have hancR : ∀ x ∈ anc.1, Reach s (present s haves) x :=
    collectAncestors_sound hR hanc fun x hx => hhR x (.inl hx)
  obtain ⟨wl, hcs, hbases⟩ := collectAncestors_spec hmc
  have baseOrMissing : ∀ x, x ∈ mc.1 ∨ x ∈ mc.2 → (x ∈ anc.1 ∧ x ∈ mc.2) ∨ x ∈ mc.1 := fun x h =>
    h.symm.imp_left fun h => ⟨hbases x h, h⟩
  obtain ⟨hrhself, hrhR⟩ := remoteHas_spec hR hrh
  -- with no shallow cut, the missing commits are commits whose parents are missing or bases
  have hmissing : ∀ c ∈ mc.1, ∃ t ps, s c = some (.commit t ps) ∧
      ∀ p ∈ ps, (p ∈ anc.1 ∧ p ∈ mc.2) ∨ p ∈ mc.1 := fun c hc =>
    let ⟨hnc, h⟩ := hcs c hc
    let ⟨t, ps, hs⟩ := h.resolve_left nofun
    ⟨t, ps, hs, fun p hp => baseOrMissing p (wl.closed c p (.inl hc) ⟨hnc, nofun, t, ps, hs, hp⟩)⟩
  have hwanted : ∀ x ∈ w.1, (x ∈ anc.1 ∧ x ∈ mc.2) ∨ x ∈ mc.1 := fun x hx => baseOrMissing x (wl.roots x hx)
  have loadable : ∀ y, InSplit w y → Loadable s mc.1 st0.done y := fun y hy c hc t ps hs =>
    (hwanted c (hws.commits rfl y hy c hc t ps hs)).symm.imp_right fun h =>
      hdone ▸ List.mem_append_right _ (hrhself c h.2)
  refine ⟨mc.1, ⟨hsent, ?_, ?_, ?_, ?_⟩⟩
  · rw [hdone]
    exact List.forall_mem_append.2
      ⟨fun x hx => hhR x (.inr (.inl hx)), hrhR fun x hx => hancR x (hbases x hx)⟩
  · intro e he
    obtain ⟨hl, hc | ht | ho⟩ := (htodo e).1 he
    · obtain ⟨t, ps, hs, _⟩ := hmissing e.1 hc
      exact ⟨hl, fun c hp _ _ _ => .inl ((hp.eq_of_not_tag fun y hy => nomatch hs.symm.trans hy) ▸ hc)⟩
    · exact ⟨hl, loadable e.1 (.inr (.inl ht.1))⟩
    · exact ⟨hl, loadable e.1 (.inr (.inr ho.1))⟩
  · intro c hc
    obtain ⟨t, ps, hs, hps⟩ := hmissing c hc
    exact ⟨(htodo (c, false)).2 ⟨rfl, .inl hc⟩, t, ps, hs, fun p hp => (hps p hp).imp_left fun h => hancR p h.1⟩
  · intro r hr
    rcases hws.self rfl r hr with h1 | h1 | h1
    · exact (hwanted r h1).imp (fun h => hancR r h.1) fun h => ⟨false, (htodo _).2 ⟨rfl, .inl h⟩⟩
    · by_cases hht : r ∈ hh.2.1
      · exact .inl (hhR r (.inr (.inl hht)))
      · exact .inr ⟨false, (htodo _).2 ⟨rfl, .inr (.inl ⟨h1, hht⟩)⟩⟩
    · by_cases hho : r ∈ hh.2.2
      · exact .inl (hhR r (.inr (.inr hho)))
      · exact .inr ⟨false, (htodo _).2 ⟨rfl, .inr (.inr ⟨h1, hho⟩)⟩⟩

section Complete
variable {s : Store} {tagged : List (Id × Id)} {pick : Nat → List (Id × Bool) → Nat} {fuel : Nat}
  {haves wants M : List Id} {st0 st : St}

theorem run_cinv (hwt : WellTyped s) (htg : TaggedDirect s tagged) (hi : InitSpec s haves wants st0 M)
    (hrun : run s tagged pick fuel st0 = .ok st) :
    CInv s tagged M st0.done (Pending st0) st ∧ Least (selE s tagged st0.done) (Pending st0) (· ∈ st.sent) := by
  have inv0 : CInv s tagged M st0.done (Pending st0) st0 :=
    { done_split := fun x hx => .inl hx
      d0 := fun x hx => hx
      wl := .init (hi.sent ▸ fun _ => List.not_mem_nil) fun _ => .rfl
      commit := hi.sent ▸ nofun
      nonleaf := fun e he _ => (hi.queued e he).2
      leaf := fun e he hl => nomatch (hi.queued e he).1.symm.trans hl }
  obtain ⟨inv, hnil⟩ := run_inv (step_cinv hwt htg) inv0 hrun
  exact ⟨inv, inv.wl.done fun x ⟨_, lf, h⟩ => nomatch hnil ▸ h⟩

theorem run_complete (hwt : WellTyped s) (htg : TaggedDirect s tagged) (hi : InitSpec s haves wants st0 M)
    (hrun : run s tagged pick fuel st0 = .ok st) :
    ∀ x, Reach s wants x → x ∈ st.sent ∨ Reach s (present s haves) x := by
  obtain ⟨inv, fin⟩ := run_cinv hwt htg hi hrun
  have queued : ∀ e ∈ st0.todo, e.1 ∈ st.sent ∨ Reach s (present s haves) e.1 := fun e he =>
    if hd : e.1 ∈ st0.done then .inr (hi.done_reach _ hd) else .inl (fin.roots _ ⟨hd, e.2, he⟩)
  -- "yielded or held by the receiver" contains the wants and is closed under the edges of the graph
  refine (reach_least s wants).least (fun x => x ∈ st.sent ∨ Reach s (present s haves) x)
    (fun r hr => ?_) fun y c hy ⟨o, hs, hc⟩ => ?_
  · exact (hi.wants r hr).elim .inr fun ⟨lf, h⟩ => queued _ h
  · rcases hy with hys | hy
    · rcases mem_children hc with hk | ⟨t, ps, rfl, hp⟩
      · exact if hd : c ∈ st0.done then .inr (hi.done_reach c hd)
          else .inl (fin.closed y c hys ⟨.inl ⟨o, hs, hk⟩, hd⟩)
      · -- a parent of a yielded commit: the commit was missing, so the parent is common or missing
        obtain ⟨_, t', ps', hs', hm⟩ := hi.missing y (inv.commit y hys t ps hs)
        cases hs.symm.trans hs'
        exact (hm c hp).elim .inr fun h => queued _ (hi.missing c h).1
    · exact .inr (.step hy hs hc)

end Complete

theorem wellTyped_ofList (l : List (Id × Obj)) (h : wellTypedB l = true) : WellTyped (ofList l) := by
  intro x o hs
  have ho := List.all_eq_true.1 h _ (Assoc.mem_of_lookup hs)
  cases o with
  | commit t ps => exact ho
  | tree es =>
    intro e he
    have := List.all_eq_true.1 ho e he
    simp only [Bool.and_eq_true] at this
    exact ⟨fun hk => by simpa [hk] using this.1, fun hk => by simpa [hk] using this.2⟩
  | _ => trivial

end Dulwich.Missing
