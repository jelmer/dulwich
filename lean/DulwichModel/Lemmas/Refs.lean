/-
  The ref containers (C16).  First the vocabulary of the statements of Props/C16.lean (`DirsClosed` and the ref-name
  rules are defined there); `Disk.Stored` as such (`Disk.Inv` is one) and, further down, `Disk.SameRefs`
  serve the proofs only.  Then the lemmas, bottom up: association-list maps, ref values,
  `follow`, `ancestors`; what each piece of the files backend does to `Disk.readRef` (the writers' tail:
  `Disk.write_ok`), then the writers when `_check_packed_conflict` fires (`Disk.*_packedConflict`);
  every operation keeps any `Disk.Stored`, hence `Disk.WF`; Dict; Reftable; `Disk.Inv U` gives `Disk.StepOk` along a run.
-/
import DulwichModel.Model.Refs
import DulwichModel.Lemmas.RefFormat

namespace Dulwich.Refs
open Dulwich Dulwich.RefFormat Dulwich.Gen.Refs

/-! ### vocabulary -/

/-- no stored value is empty: an empty loose file reads as a missing one (`readRefOf`), so without this the loose map
alone does not say what `read_ref` finds -/
def Disk.WF (d : Disk) : Prop :=
  (∀ k v, d.files.get k = some v → v ≠ []) ∧ (∀ k v, d.packed.get k = some v → v ≠ [])

/-- what lets the writers' common tail write `r`: `_check_packed_conflict`, `makedirs` + lock and the rename all pass
(`Disk.write_ok`); one state, one name — for a universe of names see `NonColliding` -/
def Disk.NoCollision (d : Disk) (r : Name) : Prop :=
  (∀ p ∈ ancestors r, d.files.get p = none ∧ d.packed.get p = none) ∧
  (∀ k ∈ d.files.keys, r ∉ ancestors k) ∧ (∀ k ∈ d.packed.keys, r ∉ ancestors k)

instance (d : Disk) (r : Name) : Decidable (d.NoCollision r) := by unfold Disk.NoCollision; infer_instance

/-- the state after `makedirs` + lock on the way to `r` -/
abbrev Disk.locked (d : Disk) (r : Name) : Disk := { d with dirs := Disk.addDirs d.dirs (ancestors r) }

/-- `Disk.WF` for the one map of the dict backend -/
def DictWF (m : Map) : Prop := ∀ k v, m.get k = some v → v ≠ []

/-- the mutating operations of the `RefsContainer` contract (plus packing and re-opening) -/
inductive MOp where
  | setIfEquals (n : Name) (old : Option Val) (new : Val)
  | addIfNew (n : Name) (v : Val)
  | removeIfEquals (n : Name) (old : Option Val)
  | setSymbolicRef (n t : Name)
  | packRefs (all : Bool)
  | reopen

/-- what an operation returns: an exception, `True`/`False`, or nothing -/
abbrev Out := Res (Option Bool)

def Disk.step (d : Disk) : MOp → Out × Disk
  | .setIfEquals n o v => ((d.setIfEquals n o v).1.map some, (d.setIfEquals n o v).2)
  | .addIfNew n v => ((d.addIfNew n v).1.map some, (d.addIfNew n v).2)
  | .removeIfEquals n o => ((d.removeIfEquals n o).1.map some, (d.removeIfEquals n o).2)
  | .setSymbolicRef n t => ((d.setSymbolicRef n t).1.map fun _ => none, (d.setSymbolicRef n t).2)
  | .packRefs all => ((d.packRefs all).1.map fun _ => none, (d.packRefs all).2)
  | .reopen => (.ok none, d)          -- the model keeps no cache: a new container object sees the same state

def Spec.step (m : RefMap) : MOp → Out × RefMap
  | .setIfEquals n o v => (.ok (some (Spec.setIfEquals m n o v).1), (Spec.setIfEquals m n o v).2)
  | .addIfNew n v => ((Spec.addIfNew m n v).1.map some, (Spec.addIfNew m n v).2)
  | .removeIfEquals n o => (.ok (some (Spec.removeIfEquals m n o).1), (Spec.removeIfEquals m n o).2)
  | .setSymbolicRef n t => (.ok none, Spec.setSymbolicRef m n t)
  | .packRefs _ => (.ok none, m)
  | .reopen => (.ok none, m)

def Disk.run : Disk → List MOp → List Out × Disk
  | d, [] => ([], d)
  | d, op :: ops => ((d.step op).1 :: ((d.step op).2.run ops).1, ((d.step op).2.run ops).2)

def Spec.run : RefMap → List MOp → List Out × RefMap
  | m, [] => ([], m)
  | m, op :: ops => ((Spec.step m op).1 :: (Spec.run (Spec.step m op).2 ops).1, (Spec.run (Spec.step m op).2 ops).2)

/-- "non-colliding names", on the concrete state an operation starts from — the hypotheses of the
per-operation refinement theorems: names and values the code accepts, and no stored ref (loose or
packed) on the way to, or below, the ref the operation writes (a delete: no loose file on the way to it). -/
def Disk.StepOk (d : Disk) : MOp → Prop
  | .setIfEquals n _ v => checkRefname n = true ∧ validRefValue v = true ∧
      checkRefname (realname d.readRef n) = true ∧ d.NoCollision (realname d.readRef n)
  | .addIfNew n v => validRefValue v = true ∧
      (match follow d.readRef n with
        | .ok (names, _) => checkRefname ((names.getLast?).getD n) = true ∧ d.NoCollision ((names.getLast?).getD n)
        | .error _ => True)
  | .removeIfEquals n _ => checkRefname n = true ∧ (∀ p ∈ ancestors n, d.files.get p = none)
  | .setSymbolicRef n t => checkRefname n = true ∧ checkRefname t = true ∧ d.NoCollision n
  | .packRefs _ => True
  | .reopen => True

instance (d : Disk) (op : MOp) : Decidable (d.StepOk op) := by
  cases op <;> unfold Disk.StepOk
  · infer_instance
  · refine @instDecidableAnd _ _ _ ?_
    split <;> infer_instance
  · infer_instance
  · infer_instance
  · infer_instance
  · infer_instance

def Disk.AllOk : Disk → List MOp → Prop
  | _, [] => True
  | d, op :: ops => d.StepOk op ∧ (d.step op).2.AllOk ops

def Disk.decAllOk : ∀ (ops : List MOp) (d : Disk), Decidable (d.AllOk ops)
  | [], _ => isTrue trivial
  | op :: ops, d =>
    have := Disk.decAllOk ops (d.step op).2
    (inferInstance : Decidable (d.StepOk op ∧ (d.step op).2.AllOk ops))

instance (d : Disk) (ops : List MOp) : Decidable (d.AllOk ops) := Disk.decAllOk ops d

/-- the directories `git init` creates below the git dir -/
def baseDirs : List Bytes := [b!"refs", b!"refs/heads", b!"refs/tags"]

/-- no name of `U` is a directory on the way to another: then every state that stores only names of `U` has
`Disk.NoCollision` for every name of `U` (`Disk.Inv.noCollision`) -/
def NonColliding (U : List Name) : Prop := ∀ a ∈ U, ∀ b ∈ U, a ∉ ancestors b

def MOp.names : MOp → List Name
  | .setIfEquals n _ _ => [n]
  | .addIfNew n _ => [n]
  | .removeIfEquals n _ => [n]
  | .setSymbolicRef n t => [n, t]
  | .packRefs _ => []
  | .reopen => []

/-- values written by `set_if_equals`/`add_if_new` are hex shas (symbolic refs are made by `set_symbolic_ref`) -/
def MOp.ValuesOk : MOp → Prop
  | .setIfEquals _ _ v => validHexSha v = true
  | .addIfNew _ v => validHexSha v = true
  | _ => True

instance (op : MOp) : Decidable op.ValuesOk := by
  cases op <;> unfold MOp.ValuesOk <;> infer_instance

/-- what a state over the universe `U` may store (`Disk.Inv`): a hex sha, or a symref to a name of `U` -/
def ValOk (U : List Name) (v : Val) : Prop := validHexSha v = true ∨ ∃ t ∈ U, v = symref ++ t

/-- `n₀ -> n₁ -> … -> n_k`: every name a symref to the next, the last one holding the direct value `v`; what
`follow_depth_matches_git` (Props/C16.lean) speaks of -/
def IsChain (read : Name → Option Val) : List Name → Val → Prop
  | [], _ => False
  | [n], v => read n = some v ∧ v ≠ [] ∧ symref.isPrefixOf v = false
  | n :: n' :: rest, v => read n = some (symref ++ n') ∧ IsChain read (n' :: rest) v

/-- every stored entry, loose or packed, satisfies `F`: `Disk.Inv` is one by definition, `Disk.WF` (a fixed conjunction)
is equivalent to one (`Disk.WF_iff_stored`) -/
structure Disk.Stored (F : Name → Val → Prop) (d : Disk) : Prop where
  files : ∀ k v, d.files.get k = some v → F k v
  packed : ∀ k v, d.packed.get k = some v → F k v

/-- An instance of `Disk.Stored`: `hi.setIfEquals`, `hi.removeIfEquals`, … on `hi : d.Inv U` are the `Disk.Stored.*`
lemmas. -/
abbrev Disk.Inv (U : List Name) (d : Disk) : Prop := d.Stored fun k v => k ∈ U ∧ ValOk U v

/-! ### association-list maps -/

theorem Map.get_del (m : Map) (k n : Bytes) : (m.del k).get n = if n = k then none else m.get n := by
  induction m with
  | nil => simp [Map.del, Map.get]
  | cons e r ih =>
    simp only [Map.del, Map.get]
    split
    · rw [ih]; grind
    · simp only [Map.get, ih]; grind

theorem Map.get_set (m : Map) (k v n : Bytes) : (m.set k v).get n = if n = k then some v else m.get n := by
  simp only [Map.set, Map.get, Map.get_del, eq_comm (a := k)]
  split <;> rfl

theorem Map.get_set_eq_update (m : Map) (k v : Bytes) : (m.set k v).get = RefMap.update m.get k (some v) :=
  funext (Map.get_set m k v)

theorem Map.get_del_eq_update (m : Map) (k : Bytes) : (m.del k).get = RefMap.update m.get k none :=
  funext (Map.get_del m k)

theorem Map.mem_of_get {m : Map} {k v : Bytes} (h : m.get k = some v) : (k, v) ∈ m := by
  induction m with
  | nil => cases h
  | cons e r ih =>
    unfold Map.get at h
    split at h
    · rename_i hk; cases h; cases hk; exact List.mem_cons_self
    · exact List.mem_cons_of_mem _ (ih h)

theorem Map.get_of_mem_keys {m : Map} {k : Bytes} (h : k ∈ m.keys) : ∃ v, m.get k = some v := by
  induction m with
  | nil => cases h
  | cons e r ih =>
    unfold Map.get
    split
    · exact ⟨_, rfl⟩
    · rename_i hk
      exact ih ((List.mem_cons.mp h).resolve_left (Ne.symm hk))

theorem Map.forall_set {m : Map} {F : Bytes → Bytes → Prop} (h : ∀ k v, m.get k = some v → F k v) {k v : Bytes}
    (hv : F k v) : ∀ n c, (m.set k v).get n = some c → F n c := by
  intro n c hn
  rw [Map.get_set] at hn
  split at hn
  · cases hn; subst n; exact hv
  · exact h n c hn

theorem Map.forall_del {m : Map} {F : Bytes → Bytes → Prop} (h : ∀ k v, m.get k = some v → F k v) (k : Bytes) :
    ∀ n c, (m.del k).get n = some c → F n c := by
  intro n c hn
  rw [Map.get_del] at hn
  split at hn
  · cases hn
  · exact h n c hn

/-! ### values -/

theorem validRefValue_ne_nil {v : Bytes} (h : validRefValue v = true) : v ≠ [] := by
  rintro rfl
  revert h; decide

theorem validRefValue_of_hex {v : Bytes} (h : validHexSha v = true) : validRefValue v = true := by
  simp [validRefValue, h]

theorem hex_not_symref {v : Val} (h : validHexSha v = true) : symref.isPrefixOf v = false := by
  unfold validHexSha at h
  simp only [Bool.and_eq_true, List.all_eq_true] at h
  cases v with
  | nil => exact absurd h.1 (by decide)
  | cons b r =>
    have hb := h.2 b (by simp)
    -- 114 = `r`, the first byte of `SYMREF`, is no hex digit
    have : b ≠ 114 := by rintro rfl; revert hb; decide
    simp [symref, List.isPrefixOf, this.symm]

theorem readRefOf_some {c : Bytes} (h : c ≠ []) (p : Option Val) : readRefOf (some c) p = some c := by
  cases c with
  | nil => exact absurd rfl h
  | cons b r => rfl

theorem readRefOf_none (p : Option Val) : readRefOf none p = p := rfl

theorem symref_append_ne_nil (t : Bytes) : symref ++ t ≠ [] := by simp [symref]

theorem RefMap.update_self {m : RefMap} {k : Name} {v : Option Val} (h : m k = v) : m.update k v = m := by
  funext n
  unfold RefMap.update
  split
  · subst n; exact h.symm
  · rfl

/-! ### follow -/

/-- The last name a successful `follow` reports has every property `P` that the start has and a symref hands on to its
target (`hP`). -/
theorem followAux_last (read : Name → Option Val) (P : Name → Prop)
    (hP : ∀ n c, P n → read n = some c → symref.isPrefixOf c = true → P (c.drop symref.length)) :
    ∀ (fuel : Nat) (n : Name) (acc names : List Name) (c : Option Val), P n →
    followAux read fuel n acc = .ok (names, c) →
    ∃ r, P r ∧ names.getLast? = some r ∧ c = readRefOf (read r) none := by
  intro fuel
  induction fuel using Nat.strongRecOn with
  | ind fuel ih =>
    intro n acc names c hn h
    have stop : ∀ v, readRefOf (read n) none = v → (Except.ok (acc ++ [n], v) : Res _) = .ok (names, c) →
        ∃ r, P r ∧ names.getLast? = some r ∧ c = readRefOf (read r) none := by
      rintro v rfl h; cases h; exact ⟨n, hn, List.getLast?_concat, rfl⟩
    rw [followAux] at h
    cases hr : read n with
    | none => rw [hr] at h; exact stop _ (by rw [hr]; rfl) h
    | some v =>
      rw [hr] at h
      cases v with
      | nil => exact stop _ (by rw [hr]; rfl) h
      | cons b w =>
        cases fuel with
        | zero => cases h
        | succ f =>
          dsimp only [List.isEmpty_cons] at h
          cases hs : symref.isPrefixOf (b :: w) <;> rw [hs] at h
          · exact stop _ (by rw [hr]; rfl) h
          · exact ih f (Nat.lt_succ_self _) _ _ _ _ (hP n _ hn hr hs) h

theorem follow_direct (read : Name → Option Val) (n : Name)
    (h : ∀ c, read n = some c → ¬ symref.isPrefixOf c = true) :
    follow read n = .ok ([n], readRefOf (read n) none) := by
  unfold follow followAux
  cases hr : read n with
  | none => rfl
  | some c =>
    have hc := h c hr
    by_cases he : c.isEmpty <;> simp [he, hc, readRefOf, symrefMaxDepth]

theorem realname_direct (read : Name → Option Val) (n : Name)
    (h : ∀ c, read n = some c → ¬ symref.isPrefixOf c = true) : realname read n = n := by
  simp [realname, follow_direct read n h]

theorem realname_of_follow {read : Name → Option Val} {n : Name} {names : List Name} {c : Option Val}
    (h : follow read n = .ok (names, c)) : realname read n = (names.getLast?).getD n := by
  unfold realname
  rw [h]

theorem followAux_chain (read : Name → Option Val) (v : Val) : ∀ (rest : List Name) (fuel : Nat) (n : Name)
    (acc : List Name), IsChain read (n :: rest) v →
    followAux read fuel n acc =
      if rest.length < fuel then .ok (acc ++ n :: rest, some v) else .error .symrefLoop := by
  intro rest
  induction rest with
  | nil =>
    intro fuel n acc ⟨hr, hne, hns⟩
    rw [followAux, hr]
    cases v with
    | nil => exact absurd rfl hne
    | cons b w => cases fuel with
      | zero => rfl
      | succ f => dsimp only [List.isEmpty_cons]; rw [hns]; rfl
  | cons n' rest ih =>
    intro fuel n acc ⟨hr, hrest⟩
    rw [followAux, hr]
    cases fuel with
    | zero => rfl
    | succ f =>
      have := ih f n' (acc ++ [n]) hrest
      simp only [List.append_assoc, List.singleton_append] at this
      simp only [List.isPrefixOf_iff_prefix, List.prefix_append, List.drop_left, this, List.length_cons,
        Nat.add_lt_add_iff_right]
      rfl

/-! ### paths -/

theorem mem_ancestors_iff (n p : Bytes) : p ∈ ancestors n ↔ p ≠ [] ∧ (p ++ [47]) <+: n := by
  induction n generalizing p with
  | nil => simp [ancestors]
  | cons b rest ih =>
    have h47 : rest.head? = some 47 ↔ [47] <+: rest := by cases rest <;> simp [eq_comm]
    have hm : p ∈ ancestors (b :: rest) ↔ ([47] <+: rest ∧ p = [b]) ∨ ∃ q ∈ ancestors rest, b :: q = p := by
      simp only [ancestors]; split <;> rename_i h <;> simp [← h47, h]
    rw [hm]
    constructor
    · rintro (⟨h, rfl⟩ | ⟨q, hq, rfl⟩)
      · exact ⟨List.cons_ne_nil _ _, List.cons_prefix_cons.mpr ⟨rfl, h⟩⟩
      · exact ⟨List.cons_ne_nil _ _, List.cons_prefix_cons.mpr ⟨rfl, ((ih q).mp hq).2⟩⟩
    · rintro ⟨hp, h⟩
      cases p with
      | nil => exact absurd rfl hp
      | cons c q =>
        obtain ⟨rfl, h'⟩ := List.cons_prefix_cons.mp h
        cases q with
        | nil => exact Or.inl ⟨h', rfl⟩
        | cons e q => exact Or.inr ⟨_, (ih _).mpr ⟨List.cons_ne_nil _ _, h'⟩, rfl⟩

theorem not_mem_ancestors_self (n : Bytes) : n ∉ ancestors n :=
  fun h => absurd ((mem_ancestors_iff n n).mp h).2.length_le (by simp)

theorem mem_addDirs (x : Bytes) (ps dirs : List Bytes) : x ∈ Disk.addDirs dirs ps ↔ x ∈ dirs ∨ x ∈ ps := by
  induction ps generalizing dirs with
  | nil => simp [Disk.addDirs]
  | cons p ps ih =>
    rw [Disk.addDirs, ih, List.mem_cons]
    split
    · exact ⟨fun h => h.imp_right Or.inr, fun h => h.elim Or.inl fun h => h.elim (· ▸ Or.inl ‹_›) Or.inr⟩
    · rw [List.mem_append, List.mem_singleton, or_assoc]

/-! ### the Disk model -/

theorem Disk.WF_of_forall {d : Disk} (hf : ∀ e ∈ d.files, e.2 ≠ []) (hp : ∀ e ∈ d.packed, e.2 ≠ []) : d.WF :=
  ⟨fun _ _ h => hf _ (Map.mem_of_get h), fun _ _ h => hp _ (Map.mem_of_get h)⟩

theorem Disk.readRef_dirs (d : Disk) (dirs : List Bytes) : ({ d with dirs := dirs } : Disk).readRef = d.readRef := rfl

def Disk.SameRefs (d d' : Disk) : Prop := d'.files = d.files ∧ d'.packed = d.packed

theorem Disk.SameRefs.readRef {d d' : Disk} (h : d.SameRefs d') : d'.readRef = d.readRef := by
  funext n
  simp only [Disk.readRef, Disk.readLoose, h.1, h.2]

theorem Disk.readRef_eq_origRef (d : Disk) (hwf : d.WF) (n : Name) : d.readRef n = d.origRef n := by
  unfold Disk.readRef Disk.origRef
  cases h : d.readLoose n with
  | none => rfl
  | some c =>
    unfold Disk.readLoose at h
    split at h
    · exact readRefOf_some (hwf.1 n c h) _
    · cases h

/-- a name `follow` found no value for is neither a loose file nor packed -/
theorem Disk.WF.absent {d : Disk} (hwf : d.WF) {r : Name} (hr : checkRefname r = true)
    (h : readRefOf (d.readRef r) none = none) : d.files.get r = none ∧ d.packed.get r = none := by
  simp only [Disk.readRef, Disk.readLoose, hr, if_true] at h
  cases hf : d.files.get r with
  | some c => rw [hf, readRefOf_some (hwf.1 r c hf), readRefOf_some (hwf.1 r c hf)] at h; cases h
  | none =>
    cases hp : d.packed.get r with
    | some c => rw [hf, hp, readRefOf_none, readRefOf_some (hwf.2 r c hp)] at h; cases h
    | none => exact ⟨rfl, rfl⟩

theorem Disk.locked_origRef {d : Disk} (hwf : d.WF) (r n : Name) : (d.locked r).origRef n = d.readRef n :=
  (Disk.readRef_eq_origRef d hwf n).symm

theorem Disk.lockMkdirs_ok (d : Disk) (r : Name) (h : ∀ p ∈ ancestors r, d.files.get p = none) :
    d.lockMkdirs r = .ok (d.locked r) := by
  have : (ancestors r).any d.isFile = false :=
    List.any_eq_false.mpr fun p hp => by simp [Disk.isFile, h p hp]
  simp [Disk.lockMkdirs, this]

theorem Disk.packedConflict_false (d : Disk) (r : Name) (h : d.NoCollision r) : d.packedConflict r = false := by
  unfold Disk.packedConflict
  rw [Bool.or_eq_false_iff, List.any_eq_false, List.any_eq_false]
  exact ⟨fun p hp => by simp [(h.1 p hp).2], fun k hk => by simp [h.2.2 k hk]⟩

theorem Disk.not_mem_pruneEmpty (d : Disk) (r : Name) (h : ∀ k ∈ d.files.keys, r ∉ ancestors k) :
    r ∉ (d.pruneEmpty r).dirs := by
  intro hm
  have h2 := (List.mem_filter.mp hm).2
  rw [List.all_eq_true.mpr fun f hf => by simp [h f hf]] at h2
  simp at h2

theorem Disk.readRef_commit (d : Disk) (r : Name) (v : Val) (hr : checkRefname r = true) (hv : v ≠ []) :
    ({ d with files := d.files.set r v } : Disk).readRef = RefMap.update d.readRef r (some v) := by
  funext n
  simp only [RefMap.update, Disk.readRef, Disk.readLoose, Map.get_set]
  by_cases hn : n = r
  · subst hn; simp only [hr, if_true]; exact readRefOf_some hv _
  · simp only [hn, if_false]

theorem Disk.write_ok (d : Disk) {r : Name} (hclear : d.NoCollision r) (hr : checkRefname r = true) {v : Val}
    (hv : v ≠ []) :
    d.packedConflict r = false ∧ d.lockMkdirs r = .ok (d.locked r) ∧
    ∃ d2, ((d.locked r).pruneEmpty r).commitFile r v = .ok d2 ∧
      d2.readRef = RefMap.update d.readRef r (some v) := by
  have hnd := Disk.not_mem_pruneEmpty (d.locked r) r hclear.2.1
  exact ⟨d.packedConflict_false r hclear, d.lockMkdirs_ok r fun p hp => (hclear.1 p hp).1, _,
    by simp only [Disk.commitFile, hnd, if_false],
    Disk.readRef_commit ((d.locked r).pruneEmpty r) r v hr hv⟩

theorem Disk.pruneEmpty_sameRefs (d : Disk) (r : Name) : d.SameRefs (d.pruneEmpty r) := ⟨rfl, rfl⟩

theorem Disk.cleanupParents_sameRefs (fuel : Nat) (d : Disk) (n : Bytes) :
    d.SameRefs (Disk.cleanupParents fuel d n) := by
  induction fuel generalizing d n with
  | zero => exact ⟨rfl, rfl⟩
  | succ fuel ih =>
    unfold Disk.cleanupParents
    cases parent? n with
    | none => exact ⟨rfl, rfl⟩
    | some p =>
      dsimp only
      split
      · exact ⟨rfl, rfl⟩
      · split
        · exact ih { d with dirs := d.dirs.filter (· != p) } p
        · exact ⟨rfl, rfl⟩

theorem Disk.cleanupParents_readRef (fuel : Nat) (d : Disk) (n : Bytes) :
    (Disk.cleanupParents fuel d n).readRef = d.readRef :=
  (Disk.cleanupParents_sameRefs fuel d n).readRef

theorem Disk.readRef_remove (d : Disk) (name : Name) :
    (({ d with files := d.files.del name } : Disk).removePacked name).readRef = RefMap.update d.readRef name none := by
  funext n
  unfold RefMap.update Disk.removePacked
  by_cases hn : n = name
  · subst hn; split <;> simp_all [Disk.readRef, Disk.readLoose, Map.get_del, readRefOf]
  · split <;> simp only [Disk.readRef, Disk.readLoose, Map.get_del, hn, if_false]

/-- packing `ref ↦ sha`, the value `read_ref` gives for it, changes no `read_ref`: the loose file goes only
if it reads as `sha`, and one that stays reads as empty or not at all -/
theorem Disk.readRef_packOne (d : Disk) (ref : Name) (sha : Val) (h : d.readRef ref = some sha) :
    ({ d with files := d.filesAfterPrune ref sha, peeled := d.peeledAfter ref sha,
              packed := d.packed.set ref sha } : Disk).readRef = d.readRef := by
  funext n
  simp only [Disk.readRef, Map.get_set]
  split
  · subst n
    rw [← Disk.readRef, h]
    have hl : ∀ (fs : Map), ({ d with files := fs, peeled := d.peeledAfter ref sha, packed := d.packed.set ref sha } :
        Disk).readLoose ref = if checkRefname ref then fs.get ref else none := fun _ => rfl
    unfold Disk.readRef at h
    unfold Disk.filesAfterPrune
    split
    · simp [hl, Map.get_del, readRefOf]
    · rename_i hne
      rw [hl, ← Disk.readLoose]
      cases hlo : d.readLoose ref with
      | none => rfl
      | some c =>
        cases c with
        | nil => rfl
        | cons b r => rw [hlo] at h hne; cases h; simp at hne
  · have : (d.filesAfterPrune ref sha).get n = d.files.get n := by
      unfold Disk.filesAfterPrune
      split
      · rw [Map.get_del, if_neg ‹_›]
      · rfl
    simp only [Disk.readLoose, this]

theorem Disk.readRef_addPacked (l : List (Name × Val)) (d : Disk) (h : ∀ p ∈ l, d.readRef p.1 = some p.2) :
    (Disk.addPacked d l).readRef = d.readRef := by
  induction l generalizing d with
  | nil => rfl
  | cons e rest ih =>
    have hstep := Disk.readRef_packOne d e.1 e.2 (h e List.mem_cons_self)
    rw [Disk.addPacked, ih _ fun p hp => by rw [hstep]; exact h p (List.mem_cons_of_mem _ hp)]
    exact hstep

theorem Disk.packSelect_direct (d : Disk) (all : Bool) (keys : List Name) :
    ∀ p ∈ Disk.packSelect d all keys, d.readRef p.1 = some p.2 := by
  induction keys with
  | nil => intro p hp; cases hp
  | cons k rest ih =>
    intro p hp
    unfold Disk.packSelect at hp
    by_cases hkh : k = headRef
    · exact ih p (by rwa [if_pos hkh] at hp)
    rw [if_neg hkh] at hp
    cases hsel : all || localTagPrefix.isPrefixOf k <;> rw [hsel] at hp
    · exact ih p hp
    cases hc : d.readRef k <;> rw [hc] at hp
    · exact ih p hp
    rename_i c
    dsimp only at hp
    cases hcc : c.isEmpty || symref.isPrefixOf c <;> rw [hcc] at hp
    · rcases List.mem_cons.mp hp with rfl | hp
      · exact hc
      · exact ih p hp
    · exact ih p hp

/-- when `_check_packed_conflict` fires for the name a writer lands on, the writer stops there: `OSError`, no ref changes -/
theorem Disk.setIfEquals_packedConflict (d : Disk) {n : Name} (old : Option Val) {new : Val}
    (hn : checkRefname n = true) (hv : validRefValue new = true) (hpc : d.packedConflict (realname d.readRef n) = true) :
    (d.setIfEquals n old new).1 = .error .os ∧ (d.setIfEquals n old new).2.readRef = d.readRef := by
  simp [Disk.setIfEquals, hn, hv, hpc]

theorem Disk.setSymbolicRef_packedConflict (d : Disk) {r t : Name} (hr : checkRefname r = true)
    (ht : checkRefname t = true) (hpc : d.packedConflict r = true) :
    (d.setSymbolicRef r t).1 = .error .os ∧ (d.setSymbolicRef r t).2.readRef = d.readRef := by
  simp [Disk.setSymbolicRef, hr, ht, hpc]

/-- … and `add_if_new` does not create it (nor a name `_check_refname` rejects: that raises as well) -/
theorem Disk.addIfNew_packedConflict (d : Disk) {n r : Name} (v : Val) {names : List Name}
    (hf : follow d.readRef n = .ok (names, none)) (hl : names.getLast? = some r) (hpc : d.packedConflict r = true) :
    (d.addIfNew n v).1 ≠ .ok true ∧ (d.addIfNew n v).2.readRef = d.readRef := by
  unfold Disk.addIfNew
  cases validRefValue v <;> cases hr : checkRefname r <;> simp [hf, hl, hr, hpc]

/-! ### every operation preserves `Disk.Stored` -/

namespace Disk.Stored
variable {F : Name → Val → Prop} {d d' : Disk} {r : Name} {v : Val}

theorem sameRefs (hs : d.Stored F) (h : d.SameRefs d') : d'.Stored F :=
  ⟨fun k v hk => hs.files k v (h.1 ▸ hk), fun k v hk => hs.packed k v (h.2 ▸ hk)⟩

theorem lockMkdirs (hs : d.Stored F) (h : d.lockMkdirs r = .ok d') : d'.Stored F := by
  unfold Disk.lockMkdirs at h
  split at h
  · cases h
  · cases h; exact ⟨hs.files, hs.packed⟩

theorem commitFile (hs : d.Stored F) (h : d.commitFile r v = .ok d') (hF : F r v) : d'.Stored F := by
  unfold Disk.commitFile at h
  split at h
  · cases h
  · cases h
    exact ⟨Map.forall_set hs.files hF, hs.packed⟩

/-- The three writers keep `Stored F` when the entry they write has `F`: whichever way they leave the tail they share
(`makedirs` + lock, prune, rename), only its last step stores anything, and only a value that passed `_check_ref_value`
gets there. -/
theorem setIfEquals (hs : d.Stored F) (n : Name) (old : Option Val)
    (hF : validRefValue v = true → F (realname d.readRef n) v) : (d.setIfEquals n old v).2.Stored F := by
  unfold Disk.setIfEquals
  dsimp only
  generalize realname d.readRef n = r at hF
  cases checkRefname n; · exact hs
  cases hv : validRefValue v; · exact hs
  cases d.packedConflict r
  · cases h1 : d.lockMkdirs r with
    | error e => exact hs
    | ok d1 =>
      have hs1 := hs.lockMkdirs h1
      have hs2 := hs1.sameRefs (Disk.pruneEmpty_sameRefs d1 r)
      dsimp only
      cases casOk (d1.origRef r) old; · exact hs1
      cases d1.origRef r == some v
      · cases h2 : (d1.pruneEmpty r).commitFile r v with
        | error e => exact hs2
        | ok d2 => exact hs2.commitFile h2 (hF hv)
      · exact hs1
  · exact hs

theorem addIfNew (hs : d.Stored F) (n : Name) (hF : validRefValue v = true → F (realname d.readRef n) v) :
    (d.addIfNew n v).2.Stored F := by
  unfold Disk.addIfNew
  cases hv : validRefValue v; · exact hs
  cases hf : follow d.readRef n with
  | error e => exact hs
  | ok res =>
    obtain ⟨names, contents⟩ := res
    rw [realname_of_follow hf] at hF
    dsimp only
    generalize names.getLast?.getD n = r at hF ⊢
    cases contents.isSome
    · cases checkRefname r; · exact hs
      cases d.packedConflict r
      · cases h1 : d.lockMkdirs r with
        | error e => exact hs
        | ok d1 =>
          have hs2 := (hs.lockMkdirs h1).sameRefs (Disk.pruneEmpty_sameRefs d1 r)
          dsimp only
          cases (d1.pruneEmpty r).pathExists r || (d1.packed.get r).isSome
          · cases h2 : (d1.pruneEmpty r).commitFile r v with
            | error e => exact hs2
            | ok d2 => exact hs2.commitFile h2 (hF hv)
          · exact hs2
      · exact hs
    · exact hs

theorem setSymbolicRef (hs : d.Stored F) (n t : Name) (hF : F n (symref ++ t)) : (d.setSymbolicRef n t).2.Stored F := by
  unfold Disk.setSymbolicRef
  cases checkRefname n; · exact hs
  cases checkRefname t; · exact hs
  cases d.packedConflict n
  · cases h1 : d.lockMkdirs n with
    | error e => exact hs
    | ok d1 =>
      have hs2 := (hs.lockMkdirs h1).sameRefs (Disk.pruneEmpty_sameRefs d1 n)
      dsimp only
      cases h2 : (d1.pruneEmpty n).commitFile n (symref ++ t) with
      | error e => exact hs2
      | ok d2 => exact hs2.commitFile h2 hF
  · exact hs

theorem removeIfEquals (hs : d.Stored F) (n : Name) (old : Option Val) : (d.removeIfEquals n old).2.Stored F := by
  unfold Disk.removeIfEquals
  cases checkRefname n; · exact hs
  cases h1 : d.lockMkdirs n with
  | error e => exact hs
  | ok d1 =>
    have hs1 := hs.lockMkdirs h1
    dsimp only
    cases casOk (d1.origRef n) old; · exact hs1
    have hs2 : (({ d1 with files := d1.files.del n } : Disk).removePacked n).Stored F := by
      unfold Disk.removePacked
      cases (d1.packed.get n).isSome
      · exact ⟨Map.forall_del hs1.files n, hs1.packed⟩
      · exact ⟨Map.forall_del hs1.files n, Map.forall_del hs1.packed n⟩
    refine sameRefs ?_ (Disk.cleanupParents_sameRefs _ _ _)
    split
    · exact hs2.sameRefs (Disk.pruneEmpty_sameRefs _ n)
    · exact hs2

theorem addPacked (hs : d.Stored F) (l : List (Name × Val)) (hl : ∀ p ∈ l, F p.1 p.2) :
    (Disk.addPacked d l).Stored F := by
  induction l generalizing d with
  | nil => exact hs
  | cons e rest ih =>
    refine ih ⟨?_, Map.forall_set hs.packed (hl e List.mem_cons_self)⟩
      fun p hp => hl p (List.mem_cons_of_mem _ hp)
    unfold Disk.filesAfterPrune
    split
    · exact Map.forall_del hs.files _
    · exact hs.files

theorem readRef (hs : d.Stored F) {n : Name} {c : Val} (h : d.readRef n = some c) : F n c := by
  unfold Disk.readRef readRefOf at h
  cases hl : d.readLoose n with
  | none => rw [hl] at h; exact hs.packed n c h
  | some l =>
    have hf : d.files.get n = some l := by
      unfold Disk.readLoose at hl
      split at hl
      · exact hl
      · cases hl
    rw [hl] at h
    dsimp only at h
    split at h
    · exact hs.packed n c h
    · cases h; exact hs.files n _ hf

theorem packRefs (hs : d.Stored F) (all : Bool) : (d.packRefs all).2.Stored F :=
  hs.addPacked _ fun p hp => hs.readRef (Disk.packSelect_direct d all _ p hp)

end Disk.Stored

theorem Disk.WF_iff_stored (d : Disk) : d.WF ↔ d.Stored fun _ v => v ≠ [] :=
  ⟨fun h => ⟨h.1, h.2⟩, fun h => ⟨h.files, h.packed⟩⟩

theorem Disk.WF.step {d : Disk} (hs : d.WF) (op : MOp) : (d.step op).2.WF := by
  rw [Disk.WF_iff_stored] at hs ⊢
  cases op with
  | setIfEquals n o v => exact hs.setIfEquals n o validRefValue_ne_nil
  | addIfNew n v => exact hs.addIfNew n validRefValue_ne_nil
  | removeIfEquals n o => exact hs.removeIfEquals n o
  | setSymbolicRef n t => exact hs.setSymbolicRef n t (symref_append_ne_nil t)
  | packRefs all => exact hs.packRefs all
  | reopen => exact hs

/-! ### Dict -/

theorem dict_readRef_eq_get (m : Map) (hwf : DictWF m) : Dict.readRef m = m.get := by
  funext n
  unfold Dict.readRef
  cases h : m.get n with
  | none => rfl
  | some c => exact readRefOf_some (hwf n c h) _

theorem dict_readRef_set (m : Map) (k : Bytes) {v : Bytes} (hv : v ≠ []) :
    Dict.readRef (m.set k v) = RefMap.update (Dict.readRef m) k (some v) := by
  funext n
  simp only [Dict.readRef, RefMap.update, Map.get_set]
  split
  · exact readRefOf_some hv _
  · rfl

theorem dict_readRef_del {m : Map} (hwf : DictWF m) (k : Bytes) : Dict.readRef (m.del k) = RefMap.update m.get k none :=
  (dict_readRef_eq_get _ (Map.forall_del hwf k)).trans (Map.get_del_eq_update m k)

/-! ### Reftable -/

/-- `_matches_old_ref` is the spec's compare, except on a ref that holds the all-zero id (which `ZERO_SHA` as
old value then does not match) -/
theorem reftable_matchesOld_eq_casOk (cur old : Option Val) (hz : cur ≠ some zeroSha) :
    Reftable.matchesOld cur old = casOk cur old := by
  cases old with
  | none => rfl
  | some o =>
    unfold Reftable.matchesOld casOk
    dsimp only
    split
    · subst o
      cases cur with
      | none => exact (beq_self_eq_true zeroSha).symm
      | some c => exact (beq_eq_false_iff_ne.mpr fun h => hz (congrArg some h)).symm
    · rename_i ho
      cases cur with
      | none => exact (beq_eq_false_iff_ne.mpr (Ne.symm ho)).symm
      | some c => exact Option.some_beq_some

/-! ### the invariant over a universe of non-colliding names -/

theorem ValOk.ne_nil {U : List Name} {v : Val} (h : ValOk U v) : v ≠ [] := by
  rcases h with h | ⟨t, _, rfl⟩
  · exact validRefValue_ne_nil (validRefValue_of_hex h)
  · exact symref_append_ne_nil t

theorem ValOk.target {U : List Name} {v : Val} (h : ValOk U v) (hs : symref.isPrefixOf v = true) :
    v.drop symref.length ∈ U := by
  rcases h with h | ⟨t, ht, rfl⟩
  · rw [hex_not_symref h] at hs; cases hs
  · simpa using ht

namespace Disk.Inv
variable {U : List Name} {d : Disk}

theorem wf (hi : d.Inv U) : d.WF :=
  ⟨fun k v h => (hi.files k v h).2.ne_nil, fun k v h => (hi.packed k v h).2.ne_nil⟩

theorem realname_in (hi : d.Inv U) {n : Name} (hn : n ∈ U) : realname d.readRef n ∈ U := by
  unfold realname follow
  split
  · rename_i names _ hf
    obtain ⟨r, hr, hl, _⟩ := followAux_last d.readRef (· ∈ U) (fun _ _ _ hc hs => (hi.readRef hc).2.target hs)
      _ _ _ _ _ hn hf
    rw [hl]; exact hr
  · exact hn

theorem noCollision (hi : d.Inv U) (hnc : NonColliding U) {n : Name} (hn : n ∈ U) : d.NoCollision n :=
  ⟨fun p hp => ⟨Option.eq_none_iff_forall_ne_some.mpr fun v hg => hnc p (hi.files p v hg).1 n hn hp,
      Option.eq_none_iff_forall_ne_some.mpr fun v hg => hnc p (hi.packed p v hg).1 n hn hp⟩,
    fun k hk => let ⟨v, hv⟩ := Map.get_of_mem_keys hk; hnc n hn k (hi.files k v hv).1,
    fun k hk => let ⟨v, hv⟩ := Map.get_of_mem_keys hk; hnc n hn k (hi.packed k v hv).1⟩

theorem stepOk (hi : d.Inv U) (hU : ∀ n ∈ U, checkRefname n = true)
    (hnc : NonColliding U) (op : MOp) (hv : op.ValuesOk) (hn : ∀ n ∈ op.names, n ∈ U) : d.StepOk op := by
  cases op with
  | setIfEquals n o v =>
    have hnU := hn n List.mem_cons_self
    have hr := hi.realname_in hnU
    exact ⟨hU n hnU, validRefValue_of_hex hv, hU _ hr, hi.noCollision hnc hr⟩
  | addIfNew n v =>
    have hr := hi.realname_in (hn n List.mem_cons_self)
    refine ⟨validRefValue_of_hex hv, ?_⟩
    split
    · rename_i hf; rw [realname_of_follow hf] at hr; exact ⟨hU _ hr, hi.noCollision hnc hr⟩
    · trivial
  | removeIfEquals n o =>
    have hnU := hn n List.mem_cons_self
    exact ⟨hU n hnU, fun p hp => ((hi.noCollision hnc hnU).1 p hp).1⟩
  | setSymbolicRef n t =>
    have hnU := hn n List.mem_cons_self
    exact ⟨hU n hnU, hU t (hn t (by simp [MOp.names])), hi.noCollision hnc hnU⟩
  | packRefs all => trivial
  | reopen => trivial

theorem step (hi : d.Inv U) (op : MOp) (hv : op.ValuesOk) (hn : ∀ n ∈ op.names, n ∈ U) : (d.step op).2.Inv U := by
  cases op with
  | setIfEquals n o v =>
    exact hi.setIfEquals n o fun _ => ⟨hi.realname_in (hn n List.mem_cons_self), Or.inl hv⟩
  | addIfNew n v =>
    exact hi.addIfNew n fun _ => ⟨hi.realname_in (hn n List.mem_cons_self), Or.inl hv⟩
  | removeIfEquals n o => exact hi.removeIfEquals n o
  | setSymbolicRef n t =>
    exact hi.setSymbolicRef n t ⟨hn n List.mem_cons_self, Or.inr ⟨t, hn t (by simp [MOp.names]), rfl⟩⟩
  | packRefs all => exact hi.packRefs all
  | reopen => exact hi

theorem allOk (hi : d.Inv U) (hU : ∀ n ∈ U, checkRefname n = true) (hnc : NonColliding U) (ops : List MOp)
    (hops : ∀ op ∈ ops, (∀ n ∈ op.names, n ∈ U) ∧ op.ValuesOk) : d.AllOk ops := by
  induction ops generalizing d with
  | nil => trivial
  | cons op ops ih =>
    obtain ⟨hn, hv⟩ := hops op List.mem_cons_self
    exact ⟨hi.stepOk hU hnc op hv hn, ih (hi.step op hv hn) fun o ho => hops o (List.mem_cons_of_mem _ ho)⟩

end Disk.Inv

end Dulwich.Refs

