/-
  Lemmas for Props/C15.lean: for each pair of a Rust function and its Python fallback, that the two models agree.
  The pairs share only the byte order; `_merge_entries`, which calls `sorted_tree_items`, rests on that section.

  Where a proof needs the value of a generated constant it says so with `have e : Gen.c = … := rfl` (or a
  comment where the value enters by unfolding, `rfl` or `show`): if the translator reads another value from the
  sources, the proof breaks at that line.
-/
import DulwichModel.Model.RsPy
import DulwichModel.Model.RsPyPack
import DulwichModel.Model.RsPyDiff
import DulwichModel.Lemmas.BigEndian
import DulwichModel.Lemmas.InsertSort
import DulwichModel.Lemmas.LexCmp

namespace Dulwich.RsPy
open Dulwich

/-! ## octal tokens -/

def isOct (c : UInt8) : Bool := decide (48 ≤ c.toNat) && decide (c.toNat ≤ 55)

def octFrom : Bytes → Nat → Nat
  | [], acc => acc
  | c :: cs, acc => octFrom cs (acc * 8 + (c.toNat - 48))

theorem isOct_iff {c : UInt8} : isOct c = true ↔ 48 ≤ c.toNat ∧ c.toNat ≤ 55 := by
  simp only [isOct, Bool.and_eq_true, decide_eq_true_eq]

theorem digit_eq (c : UInt8) : digit? 8 c = if isOct c then some (c.toNat - 48) else none := by
  rw [digit?]
  exact ite_congr (propext (by rw [isOct_iff]; omega)) (fun _ => rfl) (fun _ => rfl)

theorem le_octFrom : ∀ (cs : Bytes) (acc : Nat), acc ≤ octFrom cs acc
  | [], _ => Nat.le_refl _
  | c :: cs, acc => Nat.le_trans (by omega) (le_octFrom cs (acc * 8 + (c.toNat - 48)))

theorem rsDigits_eq (bits : Nat) : ∀ (cs : Bytes) (acc : Nat), acc < 2 ^ bits →
    rsDigits 8 bits cs acc =
      if cs.all isOct = true ∧ octFrom cs acc < 2 ^ bits then some (octFrom cs acc) else none
  | [], acc, h => (if_pos ⟨rfl, h⟩).symm
  | c :: cs, acc, h => by
    rw [rsDigits, digit_eq, List.all_cons, octFrom]
    by_cases hc : isOct c = true
    · simp only [hc, if_true, Bool.true_and]
      by_cases h1 : acc * 8 + (c.toNat - 48) < 2 ^ bits
      · rw [if_neg (Nat.not_le.2 (Nat.lt_of_le_of_lt (Nat.le_add_right _ _) h1)), if_neg (Nat.not_le.2 h1),
          rsDigits_eq bits cs _ h1]
      · rw [if_neg (fun h : _ ∧ _ => h1 (Nat.lt_of_le_of_lt (le_octFrom cs _) h.2))]
        split
        · rfl
        · rw [if_pos (Nat.le_of_not_lt h1)]
    · simp [hc]

theorem pyScan_of_oct : ∀ (cs : Bytes) (acc : Nat), cs.all isOct = true →
    pyScan 8 cs false acc = some (octFrom cs acc, [])
  | [], _, _ => rfl
  | c :: cs, acc, h => by
    rw [List.all_cons, Bool.and_eq_true] at h
    have := isOct_iff.1 h.1
    rw [pyScan, if_neg (by omega), digit_eq, if_pos h.1]
    exact pyScan_of_oct cs _ h.2

/-! ### tokens `+?[0-7]+`: their digits and value as `rsFromStrRadix` reads them (it skips one leading `+`) -/

def canonDigits (tok : Bytes) : Option Bytes :=
  match tok with
  | [] => none
  | c :: r => if c.toNat = 43 then (if r.isEmpty then none else some r) else some (c :: r)

def canonValue (tok : Bytes) : Nat :=
  match canonDigits tok with
  | none => 0
  | some ds => octFrom ds 0

/-! ## mode tokens -/

/-- `rsModeOf` as a function of the token alone (`rsModeOf_tok`). -/
def rsModeTok (tok : Bytes) : Option Nat :=
  if tok.head? = some 43 then none else rsFromStrRadix 8 32 tok

theorem rsModeOf_tok (R : Bytes) (k : Nat) : rsModeOf R k = rsModeTok (R.take k) := by
  -- by unfolding: `Gen.rsRejectLead = 43`, `Gen.rsModeRadix = 8`, `Gen.rsModeBits = 32`
  cases k with
  | zero => simp only [rsModeOf, rsModeTok, List.take_zero, rsFromStrRadix, ite_self]; rfl
  | succ k => cases R <;> rfl

theorem pyModeRegex_iff (tok : Bytes) : pyModeRegex tok = true ↔ (tok ≠ [] ∧ tok.all isOct = true) := by
  simp only [pyModeRegex, Bool.and_eq_true, Bool.not_eq_true', List.isEmpty_eq_false_iff]
  -- the pattern's byte test is `isOct`: `Gen.pyModeReLo = 48`, `Gen.pyModeReHi = 55`
  exact Iff.rfl

theorem pyInt_of_regex {tok : Bytes} (h : pyModeRegex tok = true) : pyInt 8 tok = some (Int.ofNat (octFrom tok 0)) := by
  obtain ⟨hne, ho⟩ := (pyModeRegex_iff tok).1 h
  obtain ⟨d, r, rfl⟩ := List.exists_cons_of_ne_nil hne
  rw [List.all_cons, Bool.and_eq_true] at ho
  have hd := isOct_iff.1 ho.1
  -- no space, no sign, no `0o` prefix: the second byte, if any, is a digit too
  have hsp : pyIsSpace d = false := by
    simp only [pyIsSpace, Bool.or_eq_false_iff, Bool.and_eq_false_iff, decide_eq_false_iff_not]; omega
  have hpre : pyPrefix 8 (d :: r) = d :: r := by
    cases r with
    | nil => rfl
    | cons o r2 =>
      have := isOct_iff.1 (Bool.and_eq_true _ _ ▸ List.all_cons ▸ ho.2).1
      simp only [pyPrefix]
      rw [if_neg (by omega)]
  have hsign : pySign (dropSpaces (d :: r)) = (false, d :: r) := by
    simp only [dropSpaces, hsp, Bool.false_eq_true, if_false, pySign]
    rw [if_neg (by omega), if_neg (by omega)]
  simp only [pyInt, hsign, hpre, pyDigits, digit_eq, ho.1, if_true, pyScan_of_oct r _ ho.2]
  simp [dropSpaces, octFrom]

theorem rsModeTok_eq (tok : Bytes) : rsModeTok tok =
    if pyModeRegex tok = true ∧ octFrom tok 0 < 2 ^ 32 then some (octFrom tok 0) else none := by
  simp only [pyModeRegex_iff]
  cases tok with
  | nil => exact (if_neg fun h => h.1.1 rfl).symm
  | cons c r =>
    simp only [rsModeTok, List.head?_cons, Option.some.injEq]
    by_cases hc : c = 43
    · subst hc
      exact (if_pos rfl).trans (if_neg fun h => by simp [isOct] at h).symm
    · have h43 : ¬ c.toNat = 43 := fun h => hc (UInt8.toNat_inj.1 h)
      have : rsFromStrRadix 8 32 (c :: r) = rsDigits 8 32 (c :: r) 0 := by
        cases r with
        | nil =>
          simp only [rsFromStrRadix, h43, false_or]
          split
          · simp [rsDigits, digit?, *]
          · rfl
        | cons c2 r2 => simp only [rsFromStrRadix, h43, if_false]
      rw [if_neg hc, this, rsDigits_eq 32 _ _ (by decide)]
      simp

theorem mode_tok_eq (tok : Bytes) : (rsModeTok tok).map Int.ofNat = pyModeTok tok := by
  rw [rsModeTok_eq, pyModeTok]
  -- `Gen.pyModeBase = 8`; in the two `show`s below `Gen.pyModeMax = 4294967295`
  by_cases hre : pyModeRegex tok = true
  · rw [if_pos hre, show pyInt Gen.pyModeBase tok = _ from pyInt_of_regex hre]
    by_cases hbig : octFrom tok 0 < 2 ^ 32
    · rw [if_pos ⟨hre, hbig⟩]
      exact (if_neg (by show ¬ ((octFrom tok 0 : Nat) : Int) > 4294967295; omega)).symm
    · rw [if_neg fun h => hbig h.2]
      exact (if_pos (by show ((octFrom tok 0 : Nat) : Int) > 4294967295; omega)).symm
  · rw [if_neg hre, if_neg fun h => hre h.1]; rfl

/-- What `pyParseStepG` does with the mode token: the strict check, then the parse. -/
def pyTokG (modeFn : Bytes → Option Int) (strict : Bool) (tok : Bytes) : Option Int :=
  if strict ∧ tok.head? = some 48 then none else modeFn tok

/-- What `rsParseStepG` does with it: the parse, then the strict check. -/
def rsTokG (tokFn : Bytes → Option Nat) (strict : Bool) (tok : Bytes) : Option Int :=
  match tokFn tok with
  | none => none
  | some v => if strict ∧ tok.head? = some 48 then none else some (Int.ofNat v)

theorem tokG_agree (strict : Bool) (tok : Bytes) : rsTokG rsModeTok strict tok = pyTokG pyModeTok strict tok := by
  simp only [rsTokG, pyTokG, ← mode_tok_eq tok]
  cases rsModeTok tok with
  | none => simp
  | some v => simp only [Option.map_some]

theorem rsModeOfOld_zero (R : Bytes) : rsModeOfOld R 0 = none := by
  simp [rsModeOfOld, rsFromStrRadix]

/-! ## parse_tree: the two loops in lock-step -/

theorem findByte_spec (b : UInt8) : ∀ (l : Bytes) (k : Nat), findByte b l = some k → l.drop k = b :: l.drop (k + 1)
  | [], _, h => by simp [findByte] at h
  | c :: cs, k, h => by
    rw [findByte] at h
    split at h
    · cases h; subst c; rfl
    · obtain ⟨k', hk', rfl⟩ := Option.map_eq_some_iff.1 h
      exact findByte_spec b cs k' hk'

theorem hexlify_length : ∀ b : Bytes, (hexlify b).length = 2 * b.length
  | [] => rfl
  | c :: cs => by rw [hexlify, List.length_cons, List.length_cons, hexlify_length cs, List.length_cons]; omega

/-- One iteration of the two `parse_tree` loops, Rust on the remaining text `T.drop count`, Python at `count`. -/
inductive StepSim (T : Bytes) (count : Nat) : RsStep → PyStep → Prop
  | done : StepSim T count .done .done
  | fail (y : Exc) : y ≠ .fuel → StepSim T count (.fail .objectFormat) (.fail y)
  | entry (e : TreeEntry) (used : Nat) : 2 ≤ used → count + used ≤ T.length →
      StepSim T count (.entry e (T.drop (count + used))) (.entry e (count + used))

theorem step_sim (T : Bytes) (n : Nat) (hn : n = 20 ∨ n = 32) (strict : Bool) (count : Nat) (hc : count ≤ T.length) :
    StepSim T count (rsParseStepG rsModeOf n strict (T.drop count)) (pyParseStepG pyModeTok T (some n) strict count) := by
  have e1 : Gen.pyModeTerm = 32 := rfl
  have e2 : Gen.pyNameTerm = 0 := rfl
  have e3 : Gen.pyStrictLead = 48 := rfl
  have e5 : Gen.pyHexLens = [40, 64] := rfl
  have r1 : Gen.rsModeTerm = 32 := rfl
  have r2 : Gen.rsNameTerm = 0 := rfl
  have r3 : Gen.rsStrictLead = 48 := rfl
  -- every slice of `T` from `count` on is a slice of the remaining text `R`
  have hT : T.length = count + (T.drop count).length := by rw [List.length_drop]; omega
  have hdrop : ∀ j, T.drop (count + j) = (T.drop count).drop j := fun j => List.drop_drop.symm
  generalize T.drop count = R at hT hdrop
  have hslice : ∀ a b j l, a = count + j → b = a + l → pySlice T a b = (R.drop j).take l := by
    intro a b j l h1 h2
    rw [pySlice, h2, h1, hdrop, Nat.add_sub_cancel_left]
  have hR : T.drop count = R := hdrop 0
  by_cases hemp : R = []
  · subst hemp
    have hnl : ¬ count < T.length := by simp [hT]
    simp only [pyParseStepG, rsParseStepG, List.isEmpty_nil, if_true, hnl, not_false_eq_true]
    exact .done
  have hne : R.isEmpty = false := by simpa using hemp
  have hlt : count < T.length := by have := List.length_pos_iff.2 hemp; omega
  cases hk : findByte 32 R with
  | none =>
    simp only [pyParseStepG, rsParseStepG, e1, r1, pyIndex, hR, hk, hlt, hne, not_true_eq_false, Bool.false_eq_true, if_false,
      Option.map_none]
    exact .fail _ nofun
  | some k =>
    have hkd := findByte_spec 32 R k hk
    -- Rust tests the text's first byte, not the token's: the same byte, and an empty token is followed by the space
    have hhead : R.head? = some 48 ↔ (R.take k).head? = some 48 := by
      rw [List.head?_take]
      split
      · subst k
        rw [List.drop_zero] at hkd
        rw [hkd]
        simp
      · rfl
    -- Python searches the NUL from the space on, Rust after it: the same position, since the space is no NUL
    simp only [pyParseStepG, rsParseStepG, e1, e2, e3, e5, r1, r2, r3, pyIndex, hR, hk, hlt, hne, not_true_eq_false,
      Option.map_some, Bool.false_eq_true, if_false, Nat.add_comm k count, hslice count (count + k) 0 k rfl rfl,
      List.drop_zero, hdrop, hkd, findByte, show ¬ (32 : UInt8) = 0 by decide, rsModeOf_tok, hhead, List.drop_drop]
    -- Rust parses the mode before the strict check, Python after it
    have hag := tokG_agree strict (R.take k)
    simp only [rsTokG, pyTokG] at hag
    by_cases hs : strict = true ∧ (R.take k).head? = some 48
    · rw [if_pos hs]
      cases rsModeTok (R.take k) <;> simp only [if_pos hs] <;> exact .fail _ nofun
    · rw [if_neg hs] at hag ⊢
      cases hrs : rsModeTok (R.take k) with
      | none => rw [hrs] at hag; rw [← hag]; exact .fail _ nofun
      | some v =>
        rw [hrs] at hag
        simp only [if_neg hs] at hag ⊢
        rw [← hag]
        cases hm : findByte 0 (R.drop (k + 1)) with
        | none => exact .fail _ nofun
        | some m =>
          simp only [Option.map_some]
          have hfit : m + 1 + (count + k) + 1 + n > T.length ↔ (R.drop (k + 1 + (m + 1))).length < n := by
            rw [List.length_drop]; omega
          by_cases hshort : (R.drop (k + 1 + (m + 1))).length < n
          · rw [if_pos (hfit.2 hshort), if_pos hshort]
            exact .fail _ nofun
          · have hhex : 2 * n ∈ [40, 64] := by rcases hn with rfl | rfl <;> simp
            have hname : pySlice T (count + k + 1) (m + 1 + (count + k)) = (R.drop (k + 1)).take m :=
              hslice _ _ _ _ (by omega) (by omega)
            have hsha : pySlice T (m + 1 + (count + k) + 1) (m + 1 + (count + k) + 1 + n)
                = (R.drop (k + 1 + (m + 1))).take n := hslice _ _ _ _ (by omega) rfl
            have hnext : m + 1 + (count + k) + 1 + n = count + (k + 1 + (m + 1) + n) := by omega
            rw [hname, hsha, hexlify_length, List.length_take_of_le (Nat.le_of_not_lt hshort), if_neg (mt hfit.1 hshort),
              if_neg (not_not_intro rfl), if_neg (not_not_intro hhex), if_neg hshort, hnext, ← hdrop (k + 1 + (m + 1) + n)]
            rw [List.length_drop] at hshort
            refine .entry _ (k + 1 + (m + 1) + n) ?_ ?_ <;> omega

theorem cons_obs (e : TreeEntry) (r1 r2 : Except Exc (List TreeEntry)) : obs r1 = obs r2 →
    obs (match r1 with | .ok es => .ok (e :: es) | .error x => .error x) =
      obs (match r2 with | .ok es => .ok (e :: es) | .error x => .error x) := by
  cases r1 <;> cases r2 <;> simp [obs]

theorem cons_ne_fuel (e : TreeEntry) (r : Except Exc (List TreeEntry)) : r ≠ .error .fuel →
    (match r with | .ok es => .ok (e :: es) | .error x => .error x : Except Exc (List TreeEntry)) ≠ .error .fuel := by
  cases r with
  | ok es => exact fun _ => nofun
  | error x => exact id

theorem parse_loops (T : Bytes) (n : Nat) (hn : n = 20 ∨ n = 32) (strict : Bool) :
    ∀ (fuel count : Nat), count ≤ T.length →
      obs (rsParseLoopG rsModeOf n strict fuel (T.drop count)) = obs (pyParseLoopG pyModeTok T (some n) strict fuel count) ∧
      (T.length - count < fuel → rsParseLoopG rsModeOf n strict fuel (T.drop count) ≠ .error .fuel ∧
        pyParseLoopG pyModeTok T (some n) strict fuel count ≠ .error .fuel) := by
  intro fuel
  induction fuel with
  | zero => exact fun _ _ => ⟨rfl, fun h => absurd h (Nat.not_lt_zero _)⟩
  | succ fuel ih =>
    intro count hc
    have hstep := step_sim T n hn strict count hc
    rw [rsParseLoopG, pyParseLoopG]
    generalize rsParseStepG rsModeOf n strict (T.drop count) = a at hstep
    generalize pyParseStepG pyModeTok T (some n) strict count = b at hstep
    cases hstep with
    | done => exact ⟨rfl, fun _ => ⟨nofun, nofun⟩⟩
    | fail y hy => exact ⟨rfl, fun _ => ⟨nofun, fun h => hy (Except.error.inj h)⟩⟩
    | entry e used h2 hle =>
      obtain ⟨hobs, hfuel⟩ := ih (count + used) hle
      refine ⟨cons_obs _ _ _ hobs, fun h => ?_⟩
      obtain ⟨hrs, hpy⟩ := hfuel (by omega)
      exact ⟨cons_ne_fuel _ _ hrs, cons_ne_fuel _ _ hpy⟩

/-! ## byte-string order -/

theorem cmpBytes_self : ∀ a : Bytes, cmpBytes a a = .eq := by
  intro a
  induction a with
  | nil => rfl
  | cons x xs ih => simp [cmpBytes, ih]

theorem cmpBytes_swap : ∀ a b : Bytes, cmpBytes b a = (cmpBytes a b).swap := by
  intro a
  induction a with
  | nil => intro b; cases b <;> rfl
  | cons x xs ih =>
    intro b
    cases b with
    | nil => rfl
    | cons y ys =>
      simp only [cmpBytes]
      by_cases h1 : x.toNat < y.toNat
      · simp [h1, Nat.lt_asymm h1]
      · by_cases h2 : y.toNat < x.toNat
        · simp [h1, h2]
        · simp [h1, h2, ih ys]

theorem bytesLt_gt (a b : Bytes) : bytesLt a b = (cmpBytes b a == .gt) := by
  rw [bytesLt, cmpBytes_swap b a]; cases cmpBytes b a <;> rfl

/-! ## tree order -/

theorem cmp_suffix_eq (xs ys : Bytes) (ma mb : Nat) :
    rsCmpWithSuffix (ma, xs) (mb, ys) = cmpBytes (xs ++ rsSuffix ma) (ys ++ rsSuffix mb) := by
  simp only [rsCmpWithSuffix, ne_eq, ite_not]
  exact LexCmp.take_drop (lt := fun x y => x.toNat < y.toNat) rfl (fun _ _ _ _ => rfl) _ _ (Nat.min_le_left ..)
    (Nat.min_le_right ..)

/-! ## stable sort -/

theorem insertRev_step {α : Type} (lt : α → α → Bool) (x y : α) (ys : List α) :
    insertRev lt x (y :: ys) = if ¬ lt x y = true then x :: y :: ys else y :: insertRev lt x ys :=
  (ite_not ..).symm

theorem insertRev_perm {α : Type} (lt : α → α → Bool) (x : α) (rev : List α) : (insertRev lt x rev).Perm (x :: rev) :=
  InsertSort.ins_perm (ins := insertRev lt) (fun _ => rfl) (insertRev_step lt) x rev

theorem stableSort_perm {α : Type} (lt : α → α → Bool) (l : List α) : (stableSort lt l).Perm l :=
  (List.reverse_perm _).trans
    ((InsertSort.foldl_perm (ins := insertRev lt) (fun _ => rfl) (insertRev_step lt) l []).trans (.of_eq (List.append_nil l)))

theorem insertRev_map {α β : Type} (f : α → β) (lt : α → α → Bool) (lt' : β → β → Bool) (x : α) :
    ∀ rev : List α, (∀ y ∈ rev, lt' (f x) (f y) = lt x y) →
      insertRev lt' (f x) (rev.map f) = (insertRev lt x rev).map f
  | [], _ => rfl
  | y :: ys, h => by
    simp only [List.map_cons, insertRev, h y List.mem_cons_self]
    split
    · rw [List.map_cons, insertRev_map f lt lt' x ys fun z hz => h z (List.mem_cons_of_mem _ hz)]
    · rfl

theorem foldl_insertRev_map {α β : Type} (f : α → β) (lt : α → α → Bool) (lt' : β → β → Bool) :
    ∀ (l rev : List α), (∀ a ∈ l ++ rev, ∀ b ∈ l ++ rev, lt' (f a) (f b) = lt a b) →
      (l.map f).foldl (fun r x => insertRev lt' x r) (rev.map f)
        = (l.foldl (fun r x => insertRev lt x r) rev).map f
  | [], _, _ => rfl
  | x :: xs, rev, h => by
    have p : (xs ++ insertRev lt x rev).Perm (x :: xs ++ rev) :=
      ((insertRev_perm lt x rev).append_left xs).trans List.perm_middle
    rw [List.map_cons, List.foldl_cons, List.foldl_cons,
      insertRev_map f lt lt' x rev fun y hy => h x List.mem_cons_self y (List.mem_append_right _ hy)]
    exact foldl_insertRev_map f lt lt' xs _ fun a ha b hb => h a (p.subset ha) b (p.subset hb)

theorem stableSort_map {α β : Type} (f : α → β) (lt : α → α → Bool) (lt' : β → β → Bool) (l : List α)
    (h : ∀ a ∈ l, ∀ b ∈ l, lt' (f a) (f b) = lt a b) :
    stableSort lt' (l.map f) = (stableSort lt l).map f := by
  rw [stableSort, stableSort, List.map_reverse]
  exact congrArg _ (foldl_insertRev_map f lt lt' l [] (by rwa [List.append_nil]))

theorem stableSort_congr {α : Type} (lt lt' : α → α → Bool) (l : List α)
    (h : ∀ a ∈ l, ∀ b ∈ l, lt' a b = lt a b) : stableSort lt' l = stableSort lt l := by
  simpa using stableSort_map id lt lt' l h

/-! ## sorted_tree_items -/

def modesU32 (es : List TreeEntry) : Prop := ∀ e ∈ es, 0 ≤ e.mode ∧ e.mode < 2 ^ 32

instance (es : List TreeEntry) : Decidable (modesU32 es) := List.decidableBAll _ es

def toTriple (e : TreeEntry) : Bytes × Nat × Bytes := (e.name, e.mode.toNat, e.hexsha)

theorem modesU32_cons {e : TreeEntry} {es : List TreeEntry} :
    modesU32 (e :: es) ↔ (0 ≤ e.mode ∧ e.mode < 2 ^ 32) ∧ modesU32 es := List.forall_mem_cons

theorem rsExtractAll_ok : ∀ es : List TreeEntry, modesU32 es → rsExtractAll 32 es = .ok (es.map toTriple)
  | [], _ => rfl
  | e :: es, h => by
    obtain ⟨he, hes⟩ := modesU32_cons.1 h
    rw [rsExtractAll, if_neg (by omega), rsExtractAll_ok es hes]
    rfl

theorem rsExtractAll_err : ∀ es : List TreeEntry, ¬ modesU32 es → rsExtractAll 32 es = .error .type
  | [], h => absurd nofun h
  | e :: es, h => by
    rw [rsExtractAll]
    split
    · rfl
    · rw [rsExtractAll_err es fun hes => h (modesU32_cons.2 ⟨by omega, hes⟩)]

theorem pyIsDir_ok {m : Int} (h : 0 ≤ m ∧ m < 2 ^ 32) : pyIsDir m = .ok (rsObjIsDir m.toNat) := by
  have e1 : Gen.pyModeTBits = 32 := rfl
  have e2 : Gen.pySIfmt = Gen.rsObjSIfmt := rfl
  have e3 : Gen.pySIfdir = Gen.rsObjSIfdir := rfl
  rw [pyIsDir, e1, e2, e3, if_neg (by omega)]
  rfl

theorem pyKeyEntry_ok {e : TreeEntry} (h : 0 ≤ e.mode ∧ e.mode < 2 ^ 32) :
    pyKeyEntry e = .ok (e.name ++ rsSuffix e.mode.toNat) := by
  have e1 : Gen.pyDirSuffix = Gen.rsDirSuffix := rfl
  simp only [pyKeyEntry, pyIsDir_ok h, rsSuffix, e1]
  split <;> simp

def keyed (e : TreeEntry) : Bytes × TreeEntry := (e.name ++ rsSuffix e.mode.toNat, e)

theorem pyKeyAll_ok : ∀ es : List TreeEntry, modesU32 es → pyKeyAll es = .ok (es.map keyed)
  | [], _ => rfl
  | e :: es, h => by
    obtain ⟨he, hes⟩ := modesU32_cons.1 h
    rw [pyKeyAll, pyKeyEntry_ok he, pyKeyAll_ok es hes]
    rfl

theorem pyKeyAll_err : ∀ es : List TreeEntry, ¬ modesU32 es → pyKeyAll es = .error .overflow
  | [], h => absurd nofun h
  | e :: es, h => by
    rw [pyKeyAll]
    by_cases he : 0 ≤ e.mode ∧ e.mode < 2 ^ 32
    · rw [pyKeyEntry_ok he, pyKeyAll_err es fun hes => h (modesU32_cons.2 ⟨he, hes⟩)]
    · -- `Gen.pyModeTBits = 32`
      rw [pyKeyEntry, pyIsDir, if_pos (by show e.mode < 0 ∨ e.mode ≥ 2 ^ 32; omega)]

/-- the order both functions sort by: names, or names with `/` appended to directories -/
def treeLt (nameOrder : Bool) (a b : TreeEntry) : Bool :=
  if nameOrder then bytesLt a.name b.name else bytesLt (keyed a).1 (keyed b).1

theorem sortedRs_eq (es : List TreeEntry) (nameOrder : Bool) :
    sortedTreeItemsRs es nameOrder = if modesU32 es then .ok (stableSort (treeLt nameOrder) es) else .error .type := by
  have e1 : Gen.rsSortModeBits = 32 := rfl
  by_cases hm : modesU32 es
  · have hback : ∀ lt, ((stableSort lt es).map toTriple).map (fun t => (⟨t.1, Int.ofNat t.2.1, t.2.2⟩ : TreeEntry))
        = stableSort lt es := fun lt => by
      rw [List.map_map]
      exact (List.map_congr_left fun e he =>
        congrArg (TreeEntry.mk e.name · e.hexsha) (Int.toNat_of_nonneg (hm e ((stableSort_perm lt es).subset he)).1)).trans (List.map_id _)
    simp only [sortedTreeItemsRs, sortedTreeItemsRsG, e1, rsExtractAll_ok es hm, if_pos hm]
    rw [← hback (treeLt nameOrder)]
    cases nameOrder with
    | true => rw [if_pos rfl, stableSort_map toTriple (treeLt true) _ es (fun a _ b _ => rfl)]
    | false =>
      rw [if_neg nofun, stableSort_map toTriple (treeLt false)
        (fun a b => rsCmpWithSuffix (a.2.1, a.1) (b.2.1, b.1) == .lt) es
        (fun a _ b _ => by simp only [toTriple, treeLt, keyed, bytesLt, cmp_suffix_eq]; rfl)]
  · rw [sortedTreeItemsRs, sortedTreeItemsRsG, e1, rsExtractAll_err es hm, if_neg hm]

theorem all_inRange (L : List TreeEntry) : L.all pyModeInRange = true ↔ modesU32 L := by
  have e1 : Gen.pySortModeMax = 4294967295 := rfl
  simp only [List.all_eq_true, pyModeInRange, e1, Bool.and_eq_true, decide_eq_true_eq, modesU32]
  exact forall₂_congr fun _ _ => by omega

/-- In tree order Python computes the keys first, and `S_ISDIR` raises `OverflowError` on a mode that is not 32-bit. -/
theorem sortedPyOld_eq (es : List TreeEntry) (nameOrder : Bool) :
    sortedTreeItemsPyOld es nameOrder =
      if nameOrder = true ∨ modesU32 es then .ok (stableSort (treeLt nameOrder) es) else .error .overflow := by
  cases nameOrder with
  | true => rw [sortedTreeItemsPyOld, if_pos rfl, if_pos (.inl rfl)]; rfl
  | false =>
    by_cases hm : modesU32 es
    · rw [sortedTreeItemsPyOld, if_neg nofun, pyKeyAll_ok es hm, if_pos (.inr hm)]
      simp only
      rw [stableSort_map keyed (treeLt false) _ es (fun _ _ _ _ => rfl), List.map_map]
      exact congrArg _ (List.map_id _)
    · rw [sortedTreeItemsPyOld, if_neg nofun, pyKeyAll_err es hm, if_neg (by simp [hm])]

/-- Python: the old function, then the range check on the sorted entries (`TypeError`). -/
theorem sortedPy_eq (es : List TreeEntry) (nameOrder : Bool) :
    sortedTreeItemsPy es nameOrder =
      if modesU32 es then .ok (stableSort (treeLt nameOrder) es) else .error (if nameOrder then .type else .overflow) := by
  have hall : (stableSort (treeLt nameOrder) es).all pyModeInRange = true ↔ modesU32 es := by
    rw [(stableSort_perm _ es).all_eq, all_inRange]
  rw [sortedTreeItemsPy, sortedPyOld_eq]
  by_cases hm : modesU32 es
  · rw [if_pos (.inr hm), if_pos hm]
    exact if_pos (hall.2 hm)
  · rw [if_neg hm]
    cases nameOrder with
    | true => rw [if_pos (.inl rfl)]; exact if_neg (mt hall.1 hm)
    | false => rw [if_neg (by simp [hm])]; rfl

theorem sorted_eq_old (es : List TreeEntry) (nameOrder : Bool) (hm : modesU32 es) :
    sortedTreeItemsRs es nameOrder = sortedTreeItemsPyOld es nameOrder := by
  rw [sortedRs_eq, sortedPyOld_eq, if_pos hm, if_pos (.inr hm)]

/-! ## bisect_find_sha -/

theorem inSigned64 (x : Int) : inSigned Gen.rsBisectBits x = true ↔ -2 ^ 63 ≤ x ∧ x < 2 ^ 63 := by
  have e : Gen.rsBisectBits = 64 := rfl
  simp only [inSigned, e, Bool.and_eq_true, decide_eq_true_eq]

theorem mem_shaLens {n : Nat} : n ∈ [20, 32] ↔ n = 20 ∨ n = 32 := by simp

theorem mid_eq {s e : Int} (h : s ≤ e) :
    s + (e - s).tdiv 2 = (s + e) / 2 ∧ (s + e).fdiv 2 = (s + e) / 2 ∧ s ≤ (s + e) / 2 ∧ (s + e) / 2 ≤ e := by
  rw [Int.tdiv_eq_ediv_of_nonneg (by omega), Int.fdiv_eq_ediv_of_nonneg _ (by decide)]; omega

/-- what the Rust loop computes from a probe `m` between `0 ≤ s` and `e < B` stays inside `-B … B` -/
theorem bisect_range {B s e m : Int} (hs : 0 ≤ s) (he : e < B) (hm1 : s ≤ m) (hm2 : m ≤ e) :
    (-B ≤ e - s ∧ e - s < B) ∧ (-B ≤ m ∧ m < B) ∧ (-B ≤ m - 1 ∧ m - 1 < B) ∧ -B ≤ m + 1 := by omega

theorem bisect_fuel {s e m : Int} {fuel : Nat} (hf : e - s + 1 < (fuel + 1 : Nat)) (hm1 : s ≤ m) (hm2 : m ≤ e) :
    0 < fuel ∧ e - (m + 1) + 1 < fuel ∧ m - 1 - s + 1 < fuel := by omega

/-- The loops agree while `0 ≤ start` and `end < B`, `B` the bound of the machine type (of which only `hB`
is used): every value the Rust loop computes then lies in `-1 … B`, and only `i + 1 = B` is out of range
(and checked). -/
theorem bisectLoop_eq {B : Int} (hB : ∀ x, inSigned Gen.rsBisectBits x = true ↔ -B ≤ x ∧ x < B)
    (unpack : Int → Except Exc Bytes) (sha : Bytes)
    (hun : ∀ i r, unpack i = .ok r → r.length ∈ Gen.rsIsShaLens) :
    ∀ (fuel : Nat) (s e : Int), 0 ≤ s → e < B → e - s + 1 < fuel →
      bisectLoopRs unpack sha fuel s e = bisectLoopPy unpack sha fuel s e := by
  intro fuel
  induction fuel with
  | zero => intro _ _ _ _ _; rfl
  | succ fuel ih =>
    intro s e hs he hf
    rw [bisectLoopRs, bisectLoopPy]
    by_cases hle : s ≤ e
    · obtain ⟨h1, h2, hm1, hm2⟩ := mid_eq hle
      rw [h1, h2]
      generalize (s + e) / 2 = m at hm1 hm2
      obtain ⟨r1, r2, r3, r4⟩ := bisect_range hs he hm1 hm2
      obtain ⟨f0, f1, f2⟩ := bisect_fuel hf hm1 hm2
      rw [if_neg (Int.not_lt.2 hle), if_pos hle, if_neg (not_not_intro ((hB _).2 r1))]
      simp only
      rw [if_neg (not_not_intro ((hB _).2 r2))]
      cases hu : unpack m with
      | error x => rfl
      | ok fs =>
        simp only [hun _ _ hu, not_true_eq_false, if_false]
        rw [bytesLt_gt sha fs]
        unfold bytesLt
        cases cmpBytes fs sha with
        | eq => rfl
        | gt => exact (if_neg (not_not_intro ((hB _).2 r3))).trans (ih _ _ hs r3.2 f2)
        | lt =>
          by_cases hnext : m + 1 < B
          · exact (if_neg (not_not_intro ((hB _).2 ⟨r4, hnext⟩))).trans (ih _ _ (by omega) he f1)
          · -- `checked_add` gave `None`: Python's next iteration sees start > end
            obtain ⟨f, rfl⟩ := Nat.exists_eq_add_one.2 f0
            exact (if_pos fun h => hnext ((hB _).1 h).2).trans (if_neg (by omega)).symm
    · rw [if_pos (Int.not_le.1 hle), if_neg hle]

theorem bisectLoopPy_fuel (unpack : Int → Except Exc Bytes) (sha : Bytes) (hun : ∀ i, unpack i ≠ .error .fuel) :
    ∀ (fuel : Nat) (s e : Int), 0 < fuel → e - s + 1 < fuel → bisectLoopPy unpack sha fuel s e ≠ .error .fuel := by
  intro fuel
  induction fuel with
  | zero => intro _ _ h; cases h
  | succ fuel ih =>
    intro s e _ hf
    rw [bisectLoopPy]
    split
    · obtain ⟨-, h2, hm1, hm2⟩ := mid_eq ‹s ≤ e›
      simp only [h2]
      generalize (s + e) / 2 = m at hm1 hm2
      obtain ⟨f0, f1, f2⟩ := bisect_fuel hf hm1 hm2
      cases hu : unpack m with
      | error x => exact fun h => hun m (hu.trans (congrArg _ (Except.error.inj h)))
      | ok fs =>
        simp only
        split
        · exact ih _ _ f0 f1
        · split
          · exact ih _ _ f0 f2
          · nofun
    · nofun

theorem obs_ite_error {α : Type} {c : Prop} [Decidable c] {x : Exc} {t : Except Exc α}
    (h : ¬ c → obs t = none) : obs (if c then .error x else t) = none := by
  by_cases hc : c
  · rw [if_pos hc]; rfl
  · rw [if_neg hc]; exact h hc

theorem bisectPy_fails (unpack : Int → Except Exc Bytes) (sha : Bytes) {s e : Int}
    (h : ¬ (0 ≤ s ∧ s ≤ e)) : obs (bisectPy unpack sha s e) = none :=
  obs_ite_error fun h0 => obs_ite_error fun hse => absurd ⟨Int.not_lt.1 h0, Int.not_lt.1 hse⟩ h

theorem bisectRs_fails (unpack : Int → Except Exc Bytes) (sha : Bytes) {s e : Int}
    (h : ¬ (0 ≤ s ∧ s ≤ e)) : obs (bisectRs unpack sha s e) = none :=
  obs_ite_error fun _ => obs_ite_error fun _ => obs_ite_error fun h0 => obs_ite_error fun hse =>
    absurd ⟨Int.not_lt.1 h0, Int.not_lt.1 hse⟩ h

/-- `bisect_find_sha` for `0 ≤ start ≤ end`: identical results, the callback's exception included; an `end` that is
not index-sized is an `OverflowError` on both sides. -/
theorem bisect_eq_of_nonneg_le (unpack : Int → Except Exc Bytes) (sha : Bytes) (s e : Int)
    (hsha : sha.length = 20 ∨ sha.length = 32)
    (hun : ∀ i r, unpack i = .ok r → r.length = 20 ∨ r.length = 32)
    (h0 : 0 ≤ s) (hse : s ≤ e) :
    bisectRs unpack sha s e = bisectPy unpack sha s e := by
  have hmem : sha.length ∈ Gen.rsBisectShaLens := mem_shaLens.2 hsha
  have em : Gen.pyMaxsize = 9223372036854775807 := rfl
  unfold bisectRs bisectPy
  by_cases he : e < 2 ^ 63
  · have hs := (inSigned64 s).2 (by omega)
    have he' := (inSigned64 e).2 (by omega)
    rw [if_neg (by simp [hs, he']), if_neg (not_not_intro hmem), if_neg (Int.not_lt.2 h0), if_neg (Int.not_lt.2 hse),
      if_neg (Int.not_lt.2 h0), if_neg (Int.not_lt.2 hse), if_neg (by omega)]
    exact bisectLoop_eq inSigned64 unpack sha (fun i r h => mem_shaLens.2 (hun i r h)) _ s e h0 he
      (by unfold bisectFuel; omega)
  · rw [if_pos (.inr fun h => he ((inSigned64 e).1 h).2), if_neg (Int.not_lt.2 h0), if_neg (Int.not_lt.2 hse),
      if_pos (by omega)]

/-! ### `unpackSynth`: for the closed bisect instances in Props/C15 only -/

theorem beBytes_length : ∀ k n, (beBytes k n).length = k :=
  BigEndian.length_enc (fun _ => rfl) fun _ _ => rfl

theorem unpackSynth_length {off w : Nat} {i : Int} {r : Bytes} (h : unpackSynth off w i = .ok r) :
    r.length = w := by
  unfold unpackSynth at h
  split at h
  · cases h
  · cases h; exact beBytes_length w _

/-- `beBytes` with an accumulator.  `beBytes` appends each byte on the right, so the kernel needs quadratically
many steps to read the list off; the closed instances in Props/C15 are evaluated on this form. -/
def beAcc : Nat → Nat → Bytes → Bytes
  | 0, _, acc => acc
  | k + 1, n, acc => beAcc k (n / 256) (UInt8.ofNat (n % 256) :: acc)

theorem beBytes_append : ∀ k n acc, beBytes k n ++ acc = beAcc k n acc
  | 0, _, _ => rfl
  | k + 1, n, acc => by rw [beBytes, List.append_assoc, beBytes_append k]; rfl

theorem unpackSynth_eq (off width : Nat) : unpackSynth off width =
    fun (i : Int) => if i + off < 0 then .error .overflow else .ok (beAcc width (i + off).toNat []) := by
  funext i; rw [unpackSynth, ← beBytes_append, List.append_nil]

/-! ## _merge_entries -/

theorem mergeLoop_eq : ∀ (fuel : Nat) (l1 l2 : List TreeEntry),
    rsMergeLoop fuel l1 l2 = pyMergeLoop fuel l1 l2 := by
  intro fuel
  induction fuel with
  | zero => intro l1 l2; rfl
  | succ fuel ih =>
    intro l1 l2
    cases l1 with
    | nil => rfl
    | cons e1 r1 =>
      cases l2 with
      | nil => rfl
      | cons e2 r2 =>
        simp only [rsMergeLoop, pyMergeLoop, bytesLt_gt e2.name e1.name, ih]
        unfold bytesLt
        cases cmpBytes e1.name e2.name <;> rfl

theorem join_eq (path name : Bytes) : rsJoin path name = pyJoin path name := by
  have e1 : Gen.rsPathSep = Gen.pyPathSep := rfl
  simp only [rsJoin, pyJoin, e1]

theorem rsTreeEntriesMap_ok (path : Bytes) : ∀ L : List TreeEntry, modesU32 L →
    rsTreeEntriesMap path L = .ok (L.map fun e => ⟨pyJoin path e.name, e.mode, e.hexsha⟩)
  | [], _ => rfl
  | e :: es, h => by
    obtain ⟨he, hes⟩ := modesU32_cons.1 h
    -- `Gen.rsMergeModeBits = 32`
    rw [rsTreeEntriesMap, if_neg (by show ¬ (e.mode < 0 ∨ e.mode ≥ 2 ^ 32); omega), rsTreeEntriesMap_ok path es hes,
      join_eq]
    rfl

theorem treeEntries_eq (path : Bytes) (t : Option (List TreeEntry)) :
    rsTreeEntries path t = pyTreeEntries path t := by
  cases t with
  | none => rfl
  | some es =>
    cases es with
    | nil => rfl
    | cons e es =>
      simp only [rsTreeEntries, pyTreeEntries, pyTreeEntriesG, sortedRs_eq, sortedPy_eq]
      by_cases hm : modesU32 (e :: es)
      · rw [if_pos hm, if_pos hm]
        exact rsTreeEntriesMap_ok path _ fun a ha => hm a ((stableSort_perm _ _).subset ha)
      · rw [if_neg hm, if_neg hm]; rfl

/-! ## _count_blocks -/

theorem chunkLoop_eq (bs : Nat) : ∀ (ch more block : Bytes),
    pyBlocksLoop bs (ch ++ more) block block.length
      = (rsChunkLoop bs ch block).1 ++ pyBlocksLoop bs more (rsChunkLoop bs ch block).2 (rsChunkLoop bs ch block).2.length
  | [], _, _ => rfl
  | c :: cs, more, block => by
    have e1 : Gen.rsBlockNl = Gen.pyBlockNl := rfl
    simp only [List.cons_append, pyBlocksLoop, rsChunkLoop, e1, List.length_append, List.length_singleton]
    by_cases hc : c = Gen.pyBlockNl ∨ block.length + 1 = bs
    · simp only [hc, if_true, List.cons_append]
      rw [← chunkLoop_eq bs cs more []]
      rfl
    · simp only [hc, if_false]
      rw [← chunkLoop_eq bs cs more (block ++ [c]), List.length_append, List.length_singleton]

theorem chunksLoop_eq (bs : Nat) : ∀ (chunks : List Bytes) (block : Bytes),
    rsChunksLoop bs chunks block = pyBlocksLoop bs chunks.flatten block block.length := by
  intro chunks
  induction chunks with
  | nil =>
    intro block
    simp only [rsChunksLoop, List.flatten_nil, pyBlocksLoop]
    cases block <;> simp
  | cons ch chs ih =>
    intro block
    simp only [rsChunksLoop, List.flatten_cons, chunkLoop_eq bs ch chs.flatten block, ih]

/-! ## Rust delta emitter -/

open Dulwich.Delta in
theorem rsEmitCopy_eq : ∀ fuel off len, rsEmitCopy fuel off len = emitCopy fuel off len := by
  have e : Gen.rsMaxCopyLen = Gen.maxCopyLen := rfl
  intro fuel
  induction fuel with
  | zero => intro off len; rfl
  | succ fuel ih => intro off len; simp only [rsEmitCopy, emitCopy, e, ih]

open Dulwich.Delta in
theorem rsEmitInsert_nil : ∀ fuel, rsEmitInsert fuel [] = [] := by
  intro fuel; cases fuel <;> simp [rsEmitInsert]

open Dulwich.Delta in
/-- Not for the empty literal: there Python emits a `0` byte and the Rust loop nothing. -/
theorem rsEmitInsert_eq : ∀ (fuel : Nat) (data : Bytes), data ≠ [] → rsEmitInsert fuel data = emitInsert fuel data
  | 0, _, _ => rfl
  | fuel + 1, data, hne => by
    have e : Gen.rsMaxInsertLen = Gen.maxInsertLen := rfl
    rw [rsEmitInsert, emitInsert, e, if_neg (mt List.eq_nil_of_length_eq_zero hne)]
    by_cases hbig : data.length > Gen.maxInsertLen
    · rw [if_pos hbig, Nat.min_eq_right (by omega)]
      simp only
      rw [rsEmitInsert_eq fuel (data.drop Gen.maxInsertLen) fun h => by
        have := List.drop_eq_nil_iff.1 h
        omega]
    · rw [if_neg hbig, Nat.min_eq_left (by omega)]
      simp only [List.take_length, List.drop_length, rsEmitInsert_nil, List.append_nil]

open Dulwich.Delta in
theorem rsEmitOps_eq : ∀ ops : List Op, (∀ d, Op.insert d ∈ ops → d ≠ []) → rsEmitOps ops = emitOps ops := by
  intro ops
  induction ops with
  | nil => intro _; rfl
  | cons op ops ih =>
    intro h
    have ih' := ih (fun d hd => h d (List.mem_cons_of_mem _ hd))
    cases op with
    | copy off len => simp only [rsEmitOps, emitOps, rsEmitCopy_eq, ih']
    | insert data => simp only [rsEmitOps, emitOps, rsEmitInsert_eq _ data (h data List.mem_cons_self), ih']

end Dulwich.RsPy

