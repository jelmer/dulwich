/- Lemmas for the text-level model (C01), in three parts.  Header folding: `WFKey`/`WFHeaders` (the field names that
survive), `parseMessageP (formatMessage hs body)` by one induction over a folded value (`parseLinesP_value`), and
`parseLines_eq_P`, which carries the result to the other model of `_parse_message`.  Numbers: `isDig`, `digVal` and
`Numeral b ds n` (`ds` is a base-`b` numeral of `n`).
Time zones: `formatTimezone` and `parseTimezone` on a sign, an hours field and a two-digit minutes field; from them the
round trip for every `WFTz` value (`timezone_roundtrip_wf`). -/
import DulwichModel.Model.Objects

namespace Dulwich.Objects
open Dulwich

/-! ### `_format_message` / `_parse_message` -/

theorem splitLinesAux_noLF : ∀ (pre : Bytes), (10 : UInt8) ∉ pre → ∀ (cur s : Bytes),
    splitLinesAux (pre ++ s) cur = splitLinesAux s (cur ++ pre)
  | [], _, cur, s => by rw [List.nil_append, List.append_nil]
  | b :: r, h, cur, s => by
    have hb : ¬ b = 10 := fun e => h (e ▸ List.mem_cons_self)
    rw [List.cons_append, splitLinesAux, if_neg hb, splitLinesAux_noLF r (fun e => h (List.mem_cons_of_mem _ e)),
      List.append_assoc, List.singleton_append]

theorem splitLinesAux_flatten (s : Bytes) : ∀ cur, (splitLinesAux s cur).flatten = cur ++ s := by
  induction s with
  | nil =>
    intro cur
    simp only [splitLinesAux]
    split
    · rename_i h; simp at h; simp [h]
    · simp
  | cons b r ih =>
    intro cur
    simp only [splitLinesAux]
    split
    · rename_i hb; subst hb; simp [ih]
    · simp [ih]

theorem splitFirst_append (sep : UInt8) (k x : Bytes) (h : sep ∉ k) :
    splitFirst sep (k ++ sep :: x) = some (k, x) := by
  induction k with
  | nil => simp [splitFirst]
  | cons b r ih =>
    have hb : ¬ b = sep := fun e => h (e ▸ List.mem_cons_self)
    simp [splitFirst, hb, ih fun e => h (List.mem_cons_of_mem _ e)]

theorem stripLastLF_snoc (v : Bytes) : stripLastLF (v ++ [10]) = v := by
  simp [stripLastLF]

/-- A field name that `_parse_message` gives back as written: not empty (the line would read as a continuation), no
space (the separator), no LF. -/
def WFKey (k : Bytes) : Prop := k ≠ [] ∧ (32 : UInt8) ∉ k ∧ (10 : UInt8) ∉ k

instance (k : Bytes) : Decidable (WFKey k) := by unfold WFKey; infer_instance

theorem cont_space : OGen.contFmt = 32 ∧ OGen.contParse = 32 ∧ ¬ (32 : UInt8) = 10 := ⟨rfl, rfl, by decide⟩

/-- Reading a folded value to its end.  `splitLinesAux`'s second argument is the part of the current line read so
far: a prefix `pre` (the field name and its space, or the continuation space) and `p`, the bytes of the value already
passed on this line.  If the parser, handed a complete line `pre ++ q`, goes on with `a ++ q` pending under `k`
(whatever else it does to the result: `G`), then after the whole value `a ++ p ++ v ++ "\n"` is pending under `k`. -/
theorem parseLinesP_value (k rest : Bytes) : ∀ (v : Bytes)
    (G : List (Bytes × Bytes) × Except Err (Option Bytes) → List (Bytes × Bytes) × Except Err (Option Bytes))
    (k0 : Option Bytes) (v0 pre a p : Bytes),
    (∀ q L, parseLinesP k0 v0 ((pre ++ q) :: L) = G (parseLinesP (some k) (a ++ q) L)) →
    parseLinesP k0 v0 (splitLinesAux (foldValue v ++ 10 :: rest) (pre ++ p))
      = G (parseLinesP (some k) (a ++ p ++ v ++ [10]) (splitLinesAux rest []))
  | [], G, k0, v0, pre, a, p, h => by
    simp only [foldValue, List.nil_append, splitLinesAux, if_true, List.append_assoc, h, List.append_nil]
  | b :: r, G, k0, v0, pre, a, p, h => by
    by_cases hb : b = 10
    · subst hb
      -- the line ends here; the next one is a continuation line, which the parser appends to what is pending
      have := parseLinesP_value k rest r id (some k) (a ++ p ++ [10]) [32] (a ++ p ++ [10]) [] fun _ _ => rfl
      simp only [List.append_nil, List.append_assoc, List.singleton_append, id] at this
      simp only [foldValue, if_true, cont_space, List.cons_append, splitLinesAux, if_false, List.nil_append,
        List.append_assoc, h, this]
    · have := parseLinesP_value k rest r G k0 v0 pre a (p ++ [b]) h
      simp only [List.append_assoc, List.singleton_append] at this
      simp only [foldValue, hb, if_false, List.cons_append, splitLinesAux, List.append_assoc, this]

theorem parseLinesP_first (k : Bytes) (hk : WFKey k) (q : Bytes) (k0 : Option Bytes) (v0 : Bytes) (L : List Bytes) :
    parseLinesP k0 v0 ((k ++ [32] ++ q) :: L)
      = (flushHeader k0 v0 ++ (parseLinesP (some k) q L).1, (parseLinesP (some k) q L).2) := by
  obtain ⟨hne, h32, h10⟩ := hk
  cases k with
  | nil => exact absurd rfl hne
  | cons c k' =>
    have hc : ¬ (c :: k' ++ [32] ++ q).head? = some OGen.contParse :=
      fun e => h32 (Option.some.inj e ▸ List.mem_cons_self)
    have hl : ¬ (c :: k' ++ [32] ++ q) = [10] := fun e => h10 ((List.cons.inj e).1 ▸ List.mem_cons_self)
    rw [parseLinesP, if_neg hc, if_neg hl, List.append_assoc, List.singleton_append, splitFirst_append 32 _ _ h32]

def WFHeaders (hs : Headers) : Prop := ∀ kv ∈ hs, WFKey kv.1

instance (hs : Headers) : Decidable (WFHeaders hs) := by unfold WFHeaders; infer_instance

theorem parseLinesP_format (body : Bytes) : ∀ (hs : Headers), WFHeaders hs → ∀ (k0 : Option Bytes) (v0 : Bytes),
    parseLinesP k0 v0 (splitLinesAux (formatHeaders hs ++ 10 :: body) [])
      = (flushHeader k0 v0 ++ hs, .ok (some body))
  | [], _, k0, v0 => by
    simp only [formatHeaders, List.nil_append, splitLinesAux, if_true, parseLinesP, List.head?_cons,
      cont_space, Option.some.injEq, show ¬ (10 : UInt8) = 32 by decide, if_false,
      splitLinesAux_flatten, List.append_nil]
  | (k, v) :: hs, hwf, k0, v0 => by
    have hk : WFKey k := hwf (k, v) List.mem_cons_self
    have hno : (10 : UInt8) ∉ k ++ [32] := fun h =>
      (List.mem_append.mp h).elim hk.2.2 fun h => absurd (List.mem_singleton.mp h) (by decide)
    have e : formatHeaders ((k, v) :: hs) ++ 10 :: body
        = (k ++ [32]) ++ (foldValue v ++ 10 :: (formatHeaders hs ++ 10 :: body)) := by
      simp only [formatHeaders, formatHeader, List.append_assoc, List.cons_append, List.nil_append]
    have := parseLinesP_value k (formatHeaders hs ++ 10 :: body) v (fun r => (flushHeader k0 v0 ++ r.1, r.2)) k0 v0
      (k ++ [32]) [] [] (fun q L => parseLinesP_first k hk q k0 v0 L)
    rw [List.append_nil] at this
    rw [e, splitLinesAux_noLF _ hno, List.nil_append, this,
      parseLinesP_format body hs (fun x hx => hwf x (List.mem_cons_of_mem _ hx)) (some k) ([] ++ [] ++ v ++ [10])]
    simp only [flushHeader, List.nil_append, stripLastLF_snoc, List.singleton_append]

theorem parseLines_eq_P : ∀ (ls : List Bytes) (k : Option Bytes) (v : Bytes),
    parseLines k v ls = match parseLinesP k v ls with
      | (hs, .ok b) => .ok (hs, b)
      | (_, .error e) => .error e
  | [], _, _ => rfl
  | line :: rest, k, v => by
    rw [parseLines, parseLinesP]
    split
    · exact parseLines_eq_P rest k _
    · split
      · rfl
      · split
        · rfl
        · rename_i k' r _
          rw [parseLines_eq_P rest (some k') r]
          rcases parseLinesP (some k') r rest with ⟨hs, _ | b⟩ <;> rfl

theorem parseMessageP_format (hs : Headers) (body : Option Bytes) (hwf : WFHeaders hs) :
    parseMessageP (formatMessage hs body) = (hs, .ok (some (body.getD []))) := by
  rw [parseMessageP, formatMessage, splitLines, List.append_assoc, List.singleton_append,
    parseLinesP_format _ hs hwf]
  rfl

theorem formatHeaders_append (a b : Headers) : formatHeaders (a ++ b) = formatHeaders a ++ formatHeaders b := by
  induction a with
  | nil => rfl
  | cons x xs ih => simp only [List.cons_append, formatHeaders, ih, List.append_assoc]

theorem WFHeaders_append (a b : Headers) : WFHeaders (a ++ b) ↔ WFHeaders a ∧ WFHeaders b :=
  List.forall_mem_append

theorem WFHeaders_single {k : Bytes} (hk : WFKey k) (v : Bytes) : WFHeaders [(k, v)] :=
  fun _ h => List.mem_singleton.mp h ▸ hk

theorem WFHeaders_map (k : Bytes) (hk : WFKey k) {α : Type} (l : List α) (f : α → Bytes) :
    WFHeaders (l.map fun x => (k, f x)) := by
  intro kv h
  obtain ⟨x, _, rfl⟩ := List.mem_map.mp h
  exact hk

/-! ### numbers: `str(n)`, `"%o" % n`, `int(b)`, `int(b, 8)` -/

/-- An ASCII digit: on a string of these the stripping, sign and prefix steps of `pyInt` do nothing, and no
separator byte (space, `>`, NUL) occurs. -/
def isDig (c : UInt8) : Prop := 48 ≤ c.toNat ∧ c.toNat ≤ 57

theorem dig_ne (c : UInt8) (h : isDig c) (x : UInt8) (hx : x.toNat < 48 ∨ 57 < x.toNat) : ¬ c = x := by
  intro e; subst e; exact hx.elim (Nat.not_lt.mpr h.1) (Nat.not_lt.mpr h.2)

theorem isSpace_dig (c : UInt8) (h : isDig c) : isSpace c = false := by
  have e1 : (c == 32) = false := beq_false_of_ne (dig_ne c h 32 (by decide))
  have e2 : decide (c ≤ 13) = false :=
    decide_eq_false (UInt8.not_le.mpr (UInt8.lt_iff_toNat_lt.mpr (Nat.lt_of_lt_of_le (by decide) h.1)))
  rw [isSpace, e1, e2, Bool.and_false]
  rfl

theorem not_mem_signed {x s : UInt8} (hx : x.toNat < 48 ∨ 57 < x.toNat) (hs : x ≠ s) {ds : Bytes}
    (hd : ∀ c ∈ ds, isDig c) : x ∉ s :: ds :=
  fun h => (List.mem_cons.mp h).elim hs fun h => dig_ne _ (hd _ h) x hx rfl

theorem digitChar_toNat (d : Nat) (h : d < 10) : (digitChar d).toNat = 48 + d :=
  (UInt8.toNat_ofNat' ..).trans (Nat.mod_eq_of_lt (Nat.add_lt_add_left (Nat.lt_trans h (by decide : 10 < 208)) 48))

theorem stripL_dig (ds : Bytes) (h : ∀ c ∈ ds, isDig c) : stripL ds = ds := by
  cases ds with
  | nil => rfl
  | cons c r => simp [stripL, isSpace_dig c (h c List.mem_cons_self)]

theorem stripR_dig (ds : Bytes) (h : ∀ c ∈ ds, isDig c) : stripR ds = ds := by
  induction ds with
  | nil => rfl
  | cons c r ih =>
    have hr := ih (fun x hx => h x (List.mem_cons_of_mem _ hx))
    simp only [stripR, hr]
    cases r with
    | nil => simp [isSpace_dig c (h c List.mem_cons_self)]
    | cons d r' => rfl

theorem dropSign_dig (ds : Bytes) (h : ∀ c ∈ ds, isDig c) : dropSign ds = (false, ds) := by
  cases ds with
  | nil => rfl
  | cons c r =>
    have hc := h c List.mem_cons_self
    simp [dropSign, dig_ne c hc 45 (by decide), dig_ne c hc 43 (by decide)]

theorem dropOctPrefix_dig (ds : Bytes) (h : ∀ c ∈ ds, isDig c) : dropOctPrefix ds = ds := by
  match ds, h with
  | [], _ => rfl
  | [_], _ => rfl
  | a :: b :: r, h =>
    have hb := h b (by simp)
    simp [dropOctPrefix, dig_ne b hb 111 (by decide), dig_ne b hb 79 (by decide)]

theorem pyInt_dig (base : Nat) (ds : Bytes) (h : ∀ c ∈ ds, isDig c) :
    pyInt base ds = (parseDigits base ds 0 false).map fun n => (n : Int) := by
  unfold pyInt
  simp only [stripL_dig ds h, stripR_dig ds h, dropSign_dig ds h, dropOctPrefix_dig ds h]
  have e : (if base = 8 then ds else ds) = ds := by split <;> rfl
  rw [e]
  simp

theorem pyInt_minus_dig (ds : Bytes) (h : ∀ c ∈ ds, isDig c) :
    pyInt 10 (45 :: ds) = (parseDigits 10 ds 0 false).map fun n => -(n : Int) := by
  have e2 : stripR (45 :: ds) = 45 :: ds := by
    rw [stripR, stripR_dig ds h]
    cases ds with
    | nil => rfl
    | cons a b => rfl
  rw [pyInt, show stripL (45 :: ds) = 45 :: ds from rfl, e2]
  rfl

/-- The value of a digit string in base `b`, continuing from `acc`: what `parseDigits` returns on a numeral, and for
`b = 8` the model's `octVal`. -/
def digVal (b : Nat) : Bytes → Nat → Nat
  | [], acc => acc
  | c :: r, acc => digVal b r (acc * b + (c.toNat - 48))

/-- The writers (`natToBase`, `padZeros`, `fmt02`) produce numerals; the readers (`parseDigits`, hence `pyInt`; `allOct`
with `octVal`) are characterised on numerals; nothing else is proved about any pair of them.  The bytes are ASCII
digits, hence `le`. -/
structure Numeral (b : Nat) (ds : Bytes) (n : Nat) : Prop where
  le : b ≤ 10
  ne : ds ≠ []
  dig : ∀ c ∈ ds, 48 ≤ c.toNat ∧ c.toNat < 48 + b
  val : digVal b ds 0 = n

theorem digVal_append (b : Nat) : ∀ (xs ys : Bytes) (acc : Nat), digVal b (xs ++ ys) acc = digVal b ys (digVal b xs acc)
  | [], _, _ => rfl
  | _ :: xs, ys, _ => digVal_append b xs ys _

theorem digVal_acc (b : Nat) : ∀ (ds : Bytes) (acc : Nat), digVal b ds acc = acc * b ^ ds.length + digVal b ds 0
  | [], acc => (Nat.mul_one acc).symm
  | c :: r, acc => by
    rw [digVal, digVal, digVal_acc b r, digVal_acc b r (0 * b + _), List.length_cons, Nat.pow_succ', Nat.zero_mul,
      Nat.zero_add, Nat.add_mul, Nat.mul_assoc, Nat.add_assoc]

namespace Numeral
variable {b n m : Nat} {ds xs ys : Bytes}

theorem digit {d : Nat} (hd : d < b) (hb : b ≤ 10) : Numeral b [digitChar d] d := by
  have e := digitChar_toNat d (Nat.lt_of_lt_of_le hd hb)
  refine ⟨hb, List.cons_ne_nil _ _, fun c hc => ?_, ?_⟩
  · rw [List.mem_singleton.mp hc, e]; exact ⟨Nat.le_add_right _ _, Nat.add_lt_add_left hd 48⟩
  · rw [digVal, digVal, e, Nat.zero_mul, Nat.zero_add, Nat.add_sub_cancel_left]

theorem append (hx : Numeral b xs n) (hy : Numeral b ys m) : Numeral b (xs ++ ys) (n * b ^ ys.length + m) :=
  ⟨hx.le, fun e => hx.ne (List.append_eq_nil_iff.mp e).1, fun c hc => (List.mem_append.mp hc).elim (hx.dig c) (hy.dig c),
    by rw [digVal_append, hx.val, digVal_acc, hy.val]⟩

theorem natToBaseAux (hb2 : 2 ≤ b) (hb : b ≤ 10) : ∀ (f n : Nat), n < f → Numeral b (natToBaseAux b f n) n
  | 0, _, h => absurd h (Nat.not_lt_zero _)
  | f + 1, n, hn => by
    unfold Objects.natToBaseAux
    split
    · exact digit (by assumption) hb
    · rename_i hge
      have hpos : 0 < n := Nat.lt_of_lt_of_le (Nat.lt_of_lt_of_le (by decide : 0 < 2) hb2) (Nat.le_of_not_lt hge)
      have hdiv : n / b < f := Nat.lt_of_lt_of_le (Nat.div_lt_self hpos hb2) (Nat.le_of_lt_succ hn)
      have := (natToBaseAux hb2 hb f (n / b) hdiv).append
        (digit (Nat.mod_lt n (Nat.lt_of_lt_of_le (by decide) hb2)) hb)
      rwa [List.length_singleton, Nat.pow_one, Nat.div_add_mod'] at this

theorem natToBase (hb2 : 2 ≤ b) (hb : b ≤ 10) (n : Nat) : Numeral b (natToBase b n) n :=
  natToBaseAux hb2 hb (n + 1) n (Nat.lt_succ_self n)

theorem isDig (h : Numeral b ds n) : ∀ c ∈ ds, isDig c :=
  fun c hc => ⟨(h.dig c hc).1, Nat.le_of_lt_succ (Nat.lt_of_lt_of_le (h.dig c hc).2 (Nat.add_le_add_left h.le 48))⟩

end Numeral

theorem parseDigits_digVal (b : Nat) (hb : b ≤ 10) : ∀ (ds : Bytes), ds ≠ [] →
    (∀ c ∈ ds, 48 ≤ c.toNat ∧ c.toNat < 48 + b) → ∀ (acc : Nat) (prev : Bool),
    parseDigits b ds acc prev = some (digVal b ds acc)
  | [], h, _, _, _ => absurd rfl h
  | c :: r, _, hd, acc, prev => by
    obtain ⟨h1, h2⟩ := hd c List.mem_cons_self
    have hne : ¬ c = 95 := fun e => by
      subst e; exact absurd h2 (Nat.not_lt.mpr (Nat.le_trans (Nat.add_le_add_left hb 48) (by decide)))
    have hv : digitVal? b c = some (c.toNat - 48) := if_pos ⟨h1, h2⟩
    rw [parseDigits, if_neg hne, hv, digVal]
    cases r with
    | nil => rfl
    | cons d r' =>
      exact parseDigits_digVal b hb _ (List.cons_ne_nil _ _) (fun x hx => hd x (List.mem_cons_of_mem _ hx)) _ true

theorem Numeral.parseDigits {b n : Nat} {ds : Bytes} (h : Numeral b ds n) (prev : Bool) :
    parseDigits b ds 0 prev = some n :=
  h.val ▸ parseDigits_digVal b h.le ds h.ne h.dig 0 prev

theorem Numeral.pyInt {b n : Nat} {ds : Bytes} (h : Numeral b ds n) : pyInt b ds = some (n : Int) := by
  rw [pyInt_dig b ds h.isDig, h.parseDigits]; rfl

theorem pyInt_natToBase (b : Nat) (hb2 : 2 ≤ b) (hb : b ≤ 10) (n : Nat) : pyInt b (natToBase b n) = some (n : Int) :=
  (Numeral.natToBase hb2 hb n).pyInt

theorem Numeral.natToDec (n : Nat) : Numeral 10 (natToDec n) n := Numeral.natToBase (by decide) (by decide) n

/-! ### time zones -/

theorem fmt02_nat (k : Nat) : fmt02 (k : Int) = if k < 10 then [48, digitChar k] else natToDec k := by
  have h0 : ¬ ((k : Int) < 0) := Int.not_lt.mpr (Int.natCast_nonneg k)
  simp only [fmt02, h0, if_false, Int.toNat_natCast, show ((k : Int) < 10) = (k < 10) from propext Int.ofNat_lt]

theorem natToDec_two (m : Nat) (h1 : 10 ≤ m) (h2 : m < 100) : natToDec m = [digitChar (m / 10), digitChar (m % 10)] := by
  have a : ¬ m < 10 := Nat.not_lt.mpr h1
  have b : m / 10 < 10 := Nat.div_lt_of_lt_mul h2
  cases m with
  | zero => exact absurd h1 (by decide)
  | succ m' => simp only [natToDec, natToBase, natToBaseAux, a, b, if_false, if_true, List.singleton_append]

theorem fmt02_two (m : Nat) (hm : m < 100) : fmt02 (m : Int) = [digitChar (m / 10), digitChar (m % 10)] := by
  rw [fmt02_nat]
  split
  · rename_i h; rw [Nat.div_eq_of_lt h, Nat.mod_eq_of_lt h]; rfl
  · rename_i h; exact natToDec_two m (Nat.le_of_not_lt h) hm

theorem Numeral.fmt02 (k : Nat) : Numeral 10 (fmt02 (k : Int)) k := by
  rw [fmt02_nat]
  split
  · have := (Numeral.digit (b := 10) (d := 0) (by decide) (by decide)).append (Numeral.digit (d := k) (by assumption) (by decide))
    rwa [Nat.zero_mul, Nat.zero_add] at this
  · exact Numeral.natToDec k

theorem hhmm_isDig (h m : Nat) : ∀ c ∈ fmt02 (h : Int) ++ fmt02 (m : Int), isDig c :=
  ((Numeral.fmt02 h).append (Numeral.fmt02 m)).isDig

theorem pyInt_hhmm (h m : Nat) (hm : m < 100) :
    pyInt 10 (fmt02 (h : Int) ++ fmt02 (m : Int)) = some ((h * 100 + m : Nat) : Int) := by
  have e : (fmt02 (m : Int)).length = 2 := congrArg List.length (fmt02_two m hm)
  have := ((Numeral.fmt02 h).append (Numeral.fmt02 m)).pyInt
  rwa [e] at this

theorem parseTimezone_plus (ds : Bytes) (n : Nat) (h : pyInt 10 ds = some (n : Int)) :
    parseTimezone (43 :: ds) = .ok (((n / 100 * 3600 + n % 100 * 60 : Nat) : Int), false) := by
  have hn : ¬ (n : Int) < 0 := Int.not_lt.mpr (Int.natCast_nonneg n)
  simp [parseTimezone, h, hn]
  rfl

theorem parseTimezone_minus (ds : Bytes) (n : Nat) (h : pyInt 10 ds = some (n : Int)) :
    parseTimezone (45 :: ds) = .ok (-((n / 100 * 3600 + n % 100 * 60 : Nat) : Int), decide (n = 0)) := by
  have c : OGen.tzpDiv = 100 ∧ OGen.tzpMod = 100 ∧ OGen.tzpHourMul = 3600 ∧ OGen.tzpMinMul = 60 :=
    ⟨rfl, rfl, rfl, rfl⟩
  simp only [parseTimezone, h, c]
  by_cases hn : n = 0
  · subst hn; rfl
  · have : 0 < n := Nat.pos_of_ne_zero hn
    simp [this, hn, -Int.natCast_add, -Int.natCast_mul]

theorem parseTimezone_hhmm (h m : Nat) (hm : m < 100) :
    parseTimezone (43 :: (fmt02 (h : Int) ++ fmt02 (m : Int))) = .ok (((h * 3600 + m * 60 : Nat) : Int), false) ∧
    parseTimezone (45 :: (fmt02 (h : Int) ++ fmt02 (m : Int)))
      = .ok (-((h * 3600 + m * 60 : Nat) : Int), decide (h * 3600 + m * 60 = 0)) := by
  have hp := pyInt_hhmm h m hm
  have hdiv : (h * 100 + m) / 100 = h := by
    rw [Nat.add_comm, Nat.add_mul_div_right _ _ (by decide), Nat.div_eq_of_lt hm, Nat.zero_add]
  have hmod : (h * 100 + m) % 100 = m := by rw [Nat.add_comm, Nat.add_mul_mod_self_right, Nat.mod_eq_of_lt hm]
  have hz : (h * 100 + m = 0) = (h * 3600 + m * 60 = 0) := by simp [Nat.mul_eq_zero]
  rw [parseTimezone_plus _ _ hp, parseTimezone_minus _ _ hp, hdiv, hmod]
  simp only [hz, and_self]

theorem tz_split (n : Nat) (h : 60 ∣ n) : ∃ hh mm, mm < 60 ∧ n = hh * 3600 + mm * 60 := by
  obtain ⟨q, rfl⟩ := h
  refine ⟨q / 60, q % 60, Nat.mod_lt _ (by decide), ?_⟩
  rw [show 3600 = 60 * 60 from rfl, ← Nat.mul_assoc, ← Nat.add_mul, Nat.div_add_mod', Nat.mul_comm]

/-- What `format_timezone`'s check and divisions make of `h` hours and `m` minutes. -/
theorem tz_fields (h m : Nat) (hm : m < 60) :
    60 ∣ h * 3600 + m * 60 ∧ Int.tdiv ((h * 3600 + m * 60 : Nat) : Int) OGen.tzHourDiv = h ∧
      Int.tdiv ((h * 3600 + m * 60 : Nat) : Int) OGen.tzMinDiv % (OGen.tzMinMod : Int) = m := by
  have e : h * 3600 + m * 60 = (m + h * 60) * 60 := by rw [Nat.add_mul, Nat.mul_assoc, Nat.add_comm]
  have lt : m * 60 < 3600 := Nat.mul_lt_mul_of_pos_right hm (by decide)
  refine ⟨⟨m + h * 60, by rw [e, Nat.mul_comm]⟩, ?_, ?_⟩
  -- `Int.tdiv` and `%` on casts of naturals are the casts of `/` and `%`, by computation
  · show (((h * 3600 + m * 60) / 3600 : Nat) : Int) = h
    rw [Nat.add_comm, Nat.add_mul_div_right _ _ (by decide), Nat.div_eq_of_lt lt, Nat.zero_add]
  · show (((h * 3600 + m * 60) / 60 % 60 : Nat) : Int) = m
    rw [e, Nat.mul_div_cancel _ (by decide), Nat.add_mul_mod_self_right, Nat.mod_eq_of_lt hm]

theorem formatTimezone_pos (h m : Nat) (hm : m < 60) :
    formatTimezone ((h * 3600 + m * 60 : Nat) : Int) false = .ok (43 :: (fmt02 (h : Int) ++ fmt02 (m : Int))) := by
  obtain ⟨e0, e1, e2⟩ := tz_fields h m hm
  have h60 : ¬ ((h * 3600 + m * 60 : Nat) : Int) % (OGen.tzCheckMod : Int) ≠ 0 :=
    fun ne => ne (Int.emod_eq_zero_of_dvd (Int.natCast_dvd_natCast.mpr e0))
  have hlt : ¬ ((h * 3600 + m * 60 : Nat) : Int) < 0 := Int.not_lt.mpr (Int.natCast_nonneg _)
  simp only [formatTimezone, h60, hlt, if_false, decide_false, Bool.or_false, Bool.false_eq_true]
  rw [e1, e2]

theorem formatTimezone_neg (h m : Nat) (hm : m < 60) (neg : Bool) (hz : 0 < h * 3600 + m * 60 ∨ neg = true) :
    formatTimezone (-((h * 3600 + m * 60 : Nat) : Int)) neg = .ok (45 :: (fmt02 (h : Int) ++ fmt02 (m : Int))) := by
  obtain ⟨e0, e1, e2⟩ := tz_fields h m hm
  have h60 : ¬ (-((h * 3600 + m * 60 : Nat) : Int)) % (OGen.tzCheckMod : Int) ≠ 0 :=
    fun ne => ne (Int.emod_eq_zero_of_dvd (Int.dvd_neg.mpr (Int.natCast_dvd_natCast.mpr e0)))
  have hor : (decide (-((h * 3600 + m * 60 : Nat) : Int) < 0) || neg) = true := by
    rcases hz with hz | rfl
    · exact Bool.or_eq_true_iff.mpr (.inl (decide_eq_true (Int.neg_neg_of_pos (Int.natCast_pos.mpr hz))))
    · exact Bool.or_true _
  simp only [formatTimezone, h60, hor, if_false, if_true, Int.neg_neg]
  rw [e1, e2]

/-- A timezone value git can express: whole minutes; the neg-utc flag only on a zero offset (`-0000`). -/
def WFTz (tz : Int) (neg : Bool) : Prop := tz % 60 = 0 ∧ (neg = true → tz = 0)

instance (tz : Int) (neg : Bool) : Decidable (WFTz tz neg) := by unfold WFTz; infer_instance

theorem timezone_roundtrip_wf (tz : Int) (neg : Bool) (h : WFTz tz neg) :
    ∃ (s : UInt8) (hh mm : Nat), (s = 43 ∨ s = 45) ∧
      formatTimezone tz neg = .ok (s :: (fmt02 (hh : Int) ++ fmt02 (mm : Int))) ∧
      parseTimezone (s :: (fmt02 (hh : Int) ++ fmt02 (mm : Int))) = .ok (tz, neg) := by
  obtain ⟨h60, hneg⟩ := h
  cases neg with
  | true =>
    rw [hneg rfl]
    exact ⟨45, 0, 0, .inr rfl, formatTimezone_neg 0 0 (by decide) true (.inr rfl),
      (parseTimezone_hhmm 0 0 (by decide)).2⟩
  | false =>
    have hd : 60 ∣ tz.natAbs := Int.ofNat_dvd_left.mp (Int.dvd_of_emod_eq_zero h60)
    by_cases hpos : 0 ≤ tz
    · obtain ⟨n, rfl⟩ := Int.eq_ofNat_of_zero_le hpos
      obtain ⟨hh, mm, hmm, rfl⟩ := tz_split n hd
      exact ⟨43, hh, mm, .inl rfl, formatTimezone_pos hh mm hmm,
        (parseTimezone_hhmm hh mm (Nat.lt_trans hmm (by decide))).1⟩
    · obtain ⟨k, rfl⟩ := Int.eq_negSucc_of_lt_zero (Int.not_le.mp hpos)
      obtain ⟨hh, mm, hmm, e⟩ := tz_split (k + 1) hd
      have hn : 0 < hh * 3600 + mm * 60 := e ▸ Nat.succ_pos k
      rw [show Int.negSucc k = -((k + 1 : Nat) : Int) from rfl, e]
      refine ⟨45, hh, mm, .inr rfl, formatTimezone_neg hh mm hmm false (.inl hn), ?_⟩
      rw [(parseTimezone_hhmm hh mm (Nat.lt_trans hmm (by decide))).2, decide_eq_false (Nat.ne_of_gt hn)]

end Dulwich.Objects
