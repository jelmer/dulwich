/-
  Worklist loops with a seen-set.  A loop keeps a set `S` of elements it has dealt with and a set `T` of
  pending ones; a turn moves pending elements to `S` and makes their successors (edge relation `E`) pending unless they
  are in `S` already.  `Inv E R S T` is what every such loop maintains from the roots `R`; when nothing is pending, `S`
  is the least set that contains `R` and is closed under `E` (`Inv.done`), so two runs end with the same set whatever
  order they took (`Least.unique`).  Sets are predicates: the loops keep lists, lists
  of pairs or two lists, and say what membership means when they instantiate.  A cut ("never enter `D`") is part of
  `E` and `R`, not of the invariant.  Core Lean only.
-/
namespace Dulwich.Worklist

variable {α : Type} {E : α → α → Prop} {R S T S' T' : α → Prop}

def Closed (E : α → α → Prop) (P : α → Prop) : Prop := ∀ x y, P x → E x y → P y

structure Inv (E : α → α → Prop) (R S T : α → Prop) : Prop where
  roots : ∀ x, R x → S x ∨ T x
  closed : ∀ x y, S x → E x y → S y ∨ T y
  least : ∀ P : α → Prop, (∀ x, R x → P x) → Closed E P → ∀ x, S x ∨ T x → P x

theorem Inv.init (hS : ∀ x, ¬ S x) (hT : ∀ x, T x ↔ R x) : Inv E R S T :=
  ⟨fun x h => .inr ((hT x).2 h), fun x _ h => (hS x h).elim,
    fun _ h0 _ x h => h0 x ((hT x).1 (h.resolve_left (hS x)))⟩

theorem Inv.step (inv : Inv E R S T) (keep : ∀ x, S x ∨ T x → S' x ∨ T' x)
    (new : ∀ x, S' x → S x ∨ (T x ∧ ∀ y, E x y → S' y ∨ T' y))
    (push : ∀ x, T' x → T x ∨ ∃ a, T a ∧ E a x) : Inv E R S' T' where
  roots x h := keep x (inv.roots x h)
  closed x y hx hy := (new x hx).elim (fun h => keep y (inv.closed x y h hy)) fun h => h.2 y hy
  least P h0 hP x hx := by
    have old := inv.least P h0 hP
    rcases hx with hx | hx
    · exact old x ((new x hx).imp_right (·.1))
    · rcases push x hx with h | ⟨a, ha, hax⟩
      · exact old x (.inr h)
      · exact hP a x (old a (.inr ha)) hax

theorem Inv.drop (inv : Inv E R S T) (sub : ∀ x, T' x → T x) (seen : ∀ x, T x → S x ∨ T' x) : Inv E R S T' :=
  inv.step (fun x hx => hx.elim .inl (seen x)) (fun _ => .inl) fun x hx => .inl (sub x hx)

theorem Inv.visit (inv : Inv E R S T) {a : α} (ha : T a) (hS : ∀ x, S' x ↔ x = a ∨ S x)
    (old : ∀ x, T x → x = a ∨ T' x) (kids : ∀ y, E a y → S' y ∨ T' y) (push : ∀ x, T' x → T x ∨ E a x) :
    Inv E R S' T' :=
  inv.step (fun x hx => hx.elim (fun h => .inl ((hS x).2 (.inr h))) fun h => (old x h).imp_left fun e => (hS x).2 (.inl e))
    (fun x hx => ((hS x).1 hx).symm.imp_right fun (e : x = a) => e ▸ ⟨ha, kids⟩)
    fun x hx => (push x hx).imp_right fun h => ⟨a, ha, h⟩

structure Least (E : α → α → Prop) (R S : α → Prop) : Prop where
  roots : ∀ x, R x → S x
  closed : Closed E S
  least : ∀ P : α → Prop, (∀ x, R x → P x) → Closed E P → ∀ x, S x → P x

theorem Inv.done (inv : Inv E R S T) (hT : ∀ x, ¬ T x) : Least E R S :=
  ⟨fun x h => (inv.roots x h).resolve_right (hT x), fun x y hx hy => (inv.closed x y hx hy).resolve_right (hT y),
    fun P h0 hP x hx => inv.least P h0 hP x (.inl hx)⟩

theorem Least.unique {S₂ : α → Prop} (l : Least E R S) (l₂ : Least E R S₂) (x : α) : S x ↔ S₂ x :=
  ⟨l.least S₂ l₂.roots l₂.closed x, l₂.least S l.roots l.closed x⟩

/-! The termination side.  A loop that never takes an element twice, and only elements of a list `U` known beforehand,
has the number of elements of `U` not yet in its seen-list as a measure: it is at most `U.length` and drops with every
new element. -/

section
variable [BEq α] {U seen seen' : List α} {c : α}

def unseen (U seen : List α) : Nat := U.countP fun y => !seen.contains y

theorem unseen_le (U seen : List α) : unseen U seen ≤ U.length := List.countP_le_length

variable [LawfulBEq α]

theorem unseen_mono (U : List α) (h : ∀ y ∈ seen, y ∈ seen') : unseen U seen' ≤ unseen U seen :=
  List.countP_mono_left fun y _ => by simpa using fun hy hs => hy (h y hs)

theorem unseen_lt (hc : c ∈ U) (hn : c ∉ seen) (hc' : c ∈ seen') (h : ∀ y ∈ seen, y ∈ seen') :
    unseen U seen' < unseen U seen := by
  -- split `U` at `c`: on both sides the count does not grow, and `c` itself is counted before and not after
  obtain ⟨l₁, l₂, rfl⟩ := List.append_of_mem hc
  have h₁ := unseen_mono l₁ h
  have h₂ := unseen_mono l₂ h
  simp only [unseen, List.countP_append] at h₁ h₂ ⊢
  rw [List.countP_cons_of_neg (by simpa using hc'), List.countP_cons_of_pos (by simpa using hn)]
  omega

theorem unseen_cons_lt (hc : c ∈ U) (hn : c ∉ seen) : unseen U (c :: seen) < unseen U seen :=
  unseen_lt hc hn List.mem_cons_self fun _ h => List.mem_cons_of_mem _ h

end

end Dulwich.Worklist
