/-
  Lemmas about the logical maintenance model (`Model/GC.lean`).
  * The worklist of `find_reachable_objects`: `WInv` and its four lemmas give `walk_iff` (it computes `ReachK`, hence
    `Reach`); a potential function gives `findReachable_total`.
  * `has` after each operation, and `apply_has`: what one operation keeps and what it drops; the same for operations run
    from a stale view of the packs (`…V`).
  * Roots while refs are being packed (`refTrace`), and the configured grace period (`graceOf` against `expiryOf`).
-/
import DulwichModel.Model.GC
import DulwichModel.Lemmas.Worklist
import DulwichModel.Lemmas.Assoc
namespace Dulwich.GC

/-! ### reachability specification -/

/-- Ids of absent objects can be reachable but are not expanded — like the real walk. -/
inductive Reach (s : Store) (G : Id → List Id) (roots : List Id) : Id → Prop
  | root {x : Id} : x ∈ roots → Reach s G roots x
  | step {p x : Id} : Reach s G roots p → s.has p = true → x ∈ G p → Reach s G roots x

/-- `Reach` for the `walk` of any partial children map, which is what the worklist lemmas are about; `Reach s G` is the
case `kidsIn s G` (`reach_iff_reachK`). -/
inductive ReachK (kids : Id → Option (List Id)) (roots : List Id) : Id → Prop
  | root {x : Id} : x ∈ roots → ReachK kids roots x
  | step {p x : Id} {cs : List Id} : ReachK kids roots p → kids p = some cs → x ∈ cs → ReachK kids roots x

theorem kidsIn_eq_some {s : Store} {G : Id → List Id} {p : Id} {cs : List Id} (h : kidsIn s G p = some cs) :
    s.has p = true ∧ G p = cs :=
  (Option.ite_none_right_eq_some.mp h).imp_right Option.some.inj

theorem reach_iff_reachK {s : Store} {G : Id → List Id} {roots : List Id} {x : Id} :
    Reach s G roots x ↔ ReachK (kidsIn s G) roots x := by
  constructor
  · intro h
    induction h with
    | root h => exact .root h
    | step _ hp hx ih => exact .step ih (if_pos hp) hx
  · intro h
    induction h with
    | root h => exact .root h
    | step _ hk hx ih =>
      obtain ⟨hp, rfl⟩ := kidsIn_eq_some hk
      exact .step ih hp hx

theorem mem_addKids (seen pending cs : List Id) (y : Id) :
    (y ∈ (addKids seen pending cs).1 ↔ y ∈ seen ∨ y ∈ cs) ∧
      (y ∈ (addKids seen pending cs).2 ↔ y ∈ pending ∨ (y ∈ cs ∧ y ∉ seen)) := by
  fun_induction addKids seen pending cs with
  | case1 => simp
  | case2 seen pending c cs h ih =>
    have hc : c ∈ seen := List.contains_iff_mem.mp h
    rw [ih.1, ih.2]
    by_cases hy : y = c <;> simp [hy, hc]
  | case3 seen pending c cs h ih =>
    have hc : c ∉ seen := fun hm => h (List.contains_iff_mem.mpr hm)
    rw [ih.1, ih.2]
    by_cases hy : y = c <;> simp [hy, hc]

/-! ### the walk is sound and complete -/

/-- Invariant of `walk`.  Not an instance of `Worklist.Inv`: `find_reachable_objects` marks an id when it is pushed, so
`seen` contains `pending`, and the done-set of `Worklist.Inv` would have to be their difference. -/
structure WInv (kids : Id → Option (List Id)) (roots seen pending : List Id) : Prop where
  roots_seen : ∀ x ∈ roots, x ∈ seen
  pending_seen : ∀ x ∈ pending, x ∈ seen
  closed : ∀ x ∈ seen, x ∉ pending → ∀ cs, kids x = some cs → ∀ c ∈ cs, c ∈ seen
  sound : ∀ x ∈ seen, ReachK kids roots x

section
variable {kids : Id → Option (List Id)} {roots seen rest cs : List Id} {p : Id}

theorem WInv.init (kids : Id → Option (List Id)) (roots : List Id) :
    WInv kids roots (addKids [] [] roots).1 (addKids [] [] roots).2 where
  roots_seen _ hx := (mem_addKids ..).1.mpr (.inr hx)
  pending_seen _ hx :=
    (mem_addKids ..).1.mpr (.inr (((mem_addKids ..).2.mp hx).resolve_left List.not_mem_nil).1)
  closed _ hx hnp :=
    absurd ((mem_addKids ..).2.mpr (.inr ⟨((mem_addKids ..).1.mp hx).resolve_left List.not_mem_nil,
      List.not_mem_nil⟩)) hnp
  sound _ hx := .root (((mem_addKids ..).1.mp hx).resolve_left List.not_mem_nil)

theorem WInv.skip (inv : WInv kids roots seen (p :: rest)) (hk : kids p = none) : WInv kids roots seen rest where
  roots_seen := inv.roots_seen
  pending_seen y hy := inv.pending_seen y (List.mem_cons_of_mem _ hy)
  closed y hy hny cs hcs := by
    refine inv.closed y hy (fun h => ?_) cs hcs
    rcases List.mem_cons.mp h with rfl | h
    · rw [hk] at hcs; cases hcs
    · exact hny h
  sound := inv.sound

theorem WInv.expand (inv : WInv kids roots seen (p :: rest)) (hk : kids p = some cs) :
    WInv kids roots (addKids seen rest cs).1 (addKids seen rest cs).2 where
  roots_seen y hy := (mem_addKids ..).1.mpr (.inl (inv.roots_seen y hy))
  pending_seen y hy := (mem_addKids ..).1.mpr
    (((mem_addKids ..).2.mp hy).imp (fun h => inv.pending_seen y (List.mem_cons_of_mem _ h)) (·.1))
  closed y hy hny cs' hcs' c hc := by
    rw [(mem_addKids ..).1] at hy ⊢
    rw [(mem_addKids ..).2] at hny
    by_cases hyp : y = p
    · subst hyp
      rw [hk] at hcs'
      cases hcs'
      exact .inr hc
    · -- were `y` not seen before, it would be one of the children just appended to `pending`
      have hys : y ∈ seen := Classical.byContradiction fun hys => hny (.inr ⟨hy.resolve_left hys, hys⟩)
      exact .inl (inv.closed y hys (fun h => (List.mem_cons.mp h).elim hyp (fun h => hny (.inl h))) cs' hcs' c hc)
  sound y hy := ((mem_addKids ..).1.mp hy).elim (inv.sound y)
    (.step (inv.sound p (inv.pending_seen p List.mem_cons_self)) hk)

theorem WInv.mem_iff (inv : WInv kids roots seen []) (x : Id) : x ∈ seen ↔ ReachK kids roots x :=
  ⟨inv.sound x, fun hr => by
    induction hr with
    | root h => exact inv.roots_seen _ h
    | step _ hk hx ih => exact inv.closed _ ih List.not_mem_nil _ hk _ hx⟩

theorem walk_iff {pending r : List Id} (fuel : Nat) (inv : WInv kids roots seen pending)
    (h : walk kids fuel seen pending = some r) (x : Id) : x ∈ r ↔ ReachK kids roots x := by
  fun_induction walk kids fuel seen pending with
  | case1 => cases h; exact inv.mem_iff x
  | case2 => cases h
  | case3 fuel seen p rest hk ih => exact ih (inv.skip hk) h
  | case4 fuel seen p rest cs hk ih => exact ih (inv.expand hk) h

end

theorem findReachable_iff {s : Store} {G : Id → List Id} {roots : List Id} {fuel : Nat} {r : List Id}
    (h : findReachable s G roots fuel = some r) (x : Id) : x ∈ r ↔ Reach s G roots x :=
  (walk_iff fuel (.init _ _) h x).trans reach_iff_reachK.symm

/-! ### what the store holds -/

theorem has_iff (s : Store) (x : Id) :
    s.has x = true ↔ (∃ p ∈ s.packs, x ∈ p.ids) ∨ x ∈ s.looseIds ∨ x ∈ s.alts := by
  simp [Store.has, Store.packed, Store.isLoose, or_assoc]

theorem mem_allIds_iff {s : Store} {x : Id} : x ∈ s.allIds ↔ s.has x = true := by
  simp [has_iff, Store.allIds]

theorem mem_allIds_has {s : Store} {x : Id} (h : x ∈ s.allIds) : s.has x = true := mem_allIds_iff.mp h

/-! ### termination -/

theorem addKids_measure (U : List Id) (seen pending cs : List Id) (hcs : ∀ c ∈ cs, c ∈ U) :
    Worklist.unseen U (addKids seen pending cs).1 + (addKids seen pending cs).2.length ≤ Worklist.unseen U seen + pending.length := by
  fun_induction addKids seen pending cs with
  | case1 => exact Nat.le_refl _
  | case2 seen pending c cs h ih => exact ih fun y hy => hcs y (List.mem_cons_of_mem _ hy)
  | case3 seen pending c cs h ih =>
    have h1 := ih fun y hy => hcs y (List.mem_cons_of_mem _ hy)
    have h2 := Worklist.unseen_lt (seen' := seen ++ [c]) (hcs c List.mem_cons_self) (fun hm => h (List.contains_iff_mem.mpr hm))
      (List.mem_append_right _ List.mem_cons_self) fun _ hy => List.mem_append_left _ hy
    rw [List.length_append, List.length_singleton, ← Nat.add_assoc, Nat.add_right_comm] at h1
    exact Nat.le_trans h1 (Nat.add_le_add_right h2 _)

theorem walk_total {kids : Id → Option (List Id)} (U : List Id)
    (hU : ∀ p cs, kids p = some cs → ∀ c ∈ cs, c ∈ U) (fuel : Nat) (seen pending : List Id)
    (h : Worklist.unseen U seen + pending.length ≤ fuel) : (walk kids fuel seen pending).isSome = true := by
  fun_induction walk kids fuel seen pending with
  | case1 => rfl
  | case2 => exact absurd h (by simp)
  | case3 fuel seen p rest hk ih => exact ih (Nat.le_of_succ_le_succ h)
  | case4 fuel seen p rest cs hk ih =>
    -- popping `p` pays for this step; expanding it does not raise the potential (`addKids_measure`)
    exact ih (Nat.le_trans (addKids_measure U seen rest cs (hU p cs hk)) (Nat.le_of_succ_le_succ h))

/-- The bound: each id enters `pending` at most once; every id that enters is a root or a child of a present object, and
present objects are in `allIds`. -/
theorem findReachable_total (s : Store) (G : Id → List Id) (roots : List Id) (fuel : Nat)
    (hf : (roots ++ s.allIds.flatMap G).length ≤ fuel) : (findReachable s G roots fuel).isSome = true := by
  apply walk_total (roots ++ s.allIds.flatMap G)
  · intro p cs hk c hc
    obtain ⟨hp, rfl⟩ := kidsIn_eq_some hk
    exact List.mem_append_right _ (List.mem_flatMap.mpr ⟨p, mem_allIds_iff.mpr hp, hc⟩)
  · have h0 : Worklist.unseen (roots ++ s.allIds.flatMap G) [] = (roots ++ s.allIds.flatMap G).length := by simp [Worklist.unseen]
    refine Nat.le_trans (addKids_measure _ [] [] roots fun c hc => List.mem_append_left _ hc) ?_
    rw [h0]
    exact hf

/-! ### `has` after each operation -/

theorem mem_dedup (l : List Id) (x : Id) : x ∈ dedup l ↔ x ∈ l := by
  fun_induction dedup l with
  | case1 => exact Iff.rfl
  | case2 a l h ih =>
    rw [ih, List.mem_cons]
    exact (or_iff_right_of_imp fun e => e ▸ List.contains_iff_mem.mp h).symm
  | case3 a l h ih => rw [List.mem_cons, List.mem_cons, ih]

theorem sameSet_mem {a b : List Id} (h : sameSet a b = true) (x : Id) : x ∈ a ↔ x ∈ b := by
  simp only [sameSet, Bool.and_eq_true, List.all_eq_true, List.contains_iff_mem] at h
  exact ⟨h.1 x, h.2 x⟩

/-! Which ids are in some pack of a list, after the three things `_complete_pack` can do to the pack directory. -/

theorem packed_append (disk : List Pack) (objs : List Id) (now : Nat) (x : Id) :
    (∃ p ∈ disk ++ [{ ids := objs, mtime := now }], x ∈ p.ids) ↔ (∃ p ∈ disk, x ∈ p.ids) ∨ x ∈ objs := by
  simp [or_and_right, exists_or]

theorem packed_absorb {disk : List Pack} {p : Pack} {objs : List Id} (hp : p ∈ disk) (hs : sameSet p.ids objs = true)
    (x : Id) : (∃ q ∈ disk, x ∈ q.ids) ∨ x ∈ objs ↔ ∃ q ∈ disk, x ∈ q.ids :=
  or_iff_left_of_imp fun h => ⟨p, hp, (sameSet_mem hs x).mpr h⟩

theorem packed_refreshed (b : Bool) (disk : List Pack) (p : Pack) (now : Nat) (x : Id) :
    (∃ q ∈ (if b = true then disk.map (fun q => if q = p then { q with mtime := now } else q) else disk),
        x ∈ q.ids) ↔ ∃ q ∈ disk, x ∈ q.ids := by
  cases b
  · rfl
  · have : ∀ q : Pack, (if q = p then { q with mtime := now } else q).ids = q.ids := fun q => by split <;> rfl
    constructor
    · rintro ⟨_, hm, hx⟩
      obtain ⟨q, hq, rfl⟩ := List.mem_map.mp hm
      exact ⟨q, hq, this q ▸ hx⟩
    · rintro ⟨q, hq, hx⟩
      exact ⟨_, List.mem_map_of_mem hq, (this q).symm ▸ hx⟩

theorem installPack_ids (v : Variant) (packs : List Pack) (objs : List Id) (now : Nat) (x : Id) :
    (x ∈ (installPack v packs objs now).2.ids ↔ x ∈ objs) ∧
      ((∃ p ∈ (installPack v packs objs now).1, x ∈ p.ids) ↔ (∃ p ∈ packs, x ∈ p.ids) ∨ x ∈ objs) := by
  cases hp : packs.find? (fun p => sameSet p.ids objs) with
  | none =>
    simp only [installPack, hp]
    exact ⟨trivial, packed_append ..⟩
  | some p =>
    have hs : sameSet p.ids objs = true := List.find?_some (p := fun p : Pack => sameSet p.ids objs) hp
    simp only [installPack, hp]
    rw [packed_absorb (List.mem_of_find?_eq_some hp) hs, ← packed_refreshed v.refreshExisting packs p now]
    cases v.refreshExisting
    · exact ⟨sameSet_mem hs x, Iff.rfl⟩
    · exact ⟨sameSet_mem hs x, Iff.rfl⟩

theorem installPackV_any (v : Variant) (disk : List Pack) (objs : List Id) (now : Nat) (view pk : List Pack)
    (h : installPackV v false disk objs now view = some pk) (x : Id) :
    (∃ p ∈ pk, x ∈ p.ids) ↔ (∃ p ∈ disk, x ∈ p.ids) ∨ x ∈ objs := by
  fun_induction installPackV v false disk objs now view with
  | case1 => cases h; exact packed_append ..
  | case2 p rest hd hs =>
    cases h
    rw [packed_absorb (List.contains_iff_mem.mp hd) hs]
    exact packed_refreshed ..
  | case3 p rest hd hs ih => exact ih h
  | case4 p rest hd ht => cases ht
  | case5 p rest hd ht => cases ht
  | case6 => cases h

theorem has_mk (l : List (Id × Nat)) (pk : List Pack) (al : List Id) (x : Id) :
    (Store.mk l pk al).has x = true ↔ (∃ p ∈ pk, x ∈ p.ids) ∨ x ∈ l.map (·.1) ∨ x ∈ al :=
  has_iff _ x

theorem not_contains_iff (ex : List Id) (x : Id) : (!ex.contains x) = true ↔ x ∉ ex := by simp

theorem repack_has (v : Variant) (s : Store) (ex : List Id) (now : Nat) (x : Id) :
    (repack v s ex now).has x = true ↔
      x ∈ s.alts ∨ (((∃ p ∈ s.packs, x ∈ p.ids) ∨ x ∈ s.looseIds) ∧ x ∉ ex) := by
  have hobjs : ∀ y, y ∈ dedup ((s.looseIds.filter (fun x => !ex.contains x)) ++
        s.packs.flatMap (fun p => p.ids.filter (fun x => !ex.contains x))) ↔
      (((∃ p ∈ s.packs, y ∈ p.ids) ∨ y ∈ s.looseIds) ∧ y ∉ ex) := by
    intro y
    simp only [mem_dedup, List.mem_append, List.mem_filter, List.mem_flatMap, not_contains_iff]
    constructor
    · rintro (⟨h1, h2⟩ | ⟨p, hp, h1, h2⟩)
      · exact ⟨.inr h1, h2⟩
      · exact ⟨.inl ⟨p, hp, h1⟩, h2⟩
    · rintro ⟨⟨p, hp, h1⟩ | h1, h2⟩
      · exact .inr ⟨p, hp, h1, h2⟩
      · exact .inl ⟨h1, h2⟩
  unfold repack
  simp only
  split
  · rename_i hemp
    rw [has_mk, ← hobjs, List.isEmpty_iff.mp hemp]
    simp
  · rw [has_mk]
    simp only [List.mem_singleton, exists_eq_left, List.map_nil, List.not_mem_nil, false_or]
    rw [(installPack_ids ..).1, hobjs, or_comm]

theorem repack_nil_has (v : Variant) (s : Store) (now : Nat) (x : Id) :
    (repack v s [] now).has x = true ↔ s.has x = true := by
  rw [repack_has, has_iff]
  simp only [List.not_mem_nil, not_false_eq_true, and_true]
  rw [or_comm, or_assoc]

theorem packLoose_has (v : Variant) (s : Store) (now : Nat) (x : Id) : (packLoose v s now).has x = true ↔ s.has x = true := by
  unfold packLoose
  split
  · rfl
  · rw [has_mk, has_iff, (installPack_ids ..).2, mem_dedup]
    simp only [List.map_nil, List.not_mem_nil, false_or, or_assoc]

theorem mem_toPrune_iff {v : Variant} {s : Store} {reach : List Id} {grace : Option Nat} {now : Nat} {x : Id} :
    x ∈ toPrune v s reach grace now ↔ s.has x = true ∧ x ∉ reach ∧ selectable v s grace now x = true := by
  simp only [toPrune, unreachable, List.mem_filter, not_contains_iff, mem_allIds_iff, and_assoc]

theorem mem_looseIds_filter (l : List (Id × Nat)) (q : Id → Bool) (x : Id) :
    x ∈ (l.filter (fun e => q e.1)).map (·.1) ↔ x ∈ l.map (·.1) ∧ q x = true := by
  rw [← List.mem_filter, List.filter_map]
  rfl

theorem gcWith_has (v : Variant) (s : Store) (reach : List Id) (prune : Bool) (grace : Option Nat) (now : Nat) (x : Id) :
    (gcWith v s reach prune grace now).has x = true ↔
      x ∈ s.alts ∨ (((∃ p ∈ s.packs, x ∈ p.ids) ∨ x ∈ s.looseIds) ∧
        x ∉ (if prune then toPrune v s reach grace now else [])) := by
  unfold gcWith
  simp only
  rw [repack_has, Store.looseIds, mem_looseIds_filter s.loose (fun y => !List.contains _ y), not_contains_iff,
    or_and_right, and_assoc, and_self, ← or_and_right]
  rfl

theorem pruneLoose_has (v : Variant) (s : Store) (reach : List Id) (grace : Option Nat) (now : Nat) (x : Id) :
    (pruneLoose v s reach grace now).has x = true ↔
      (∃ p ∈ s.packs, x ∈ p.ids) ∨ (x ∈ s.looseIds ∧ (x ∈ reach ∨ selectable v s grace now x = false)) ∨ x ∈ s.alts := by
  unfold pruneLoose
  rw [has_mk, mem_looseIds_filter s.loose (fun y => reach.contains y || !selectable v s grace now y), Bool.or_eq_true,
    List.contains_iff_mem, Bool.not_eq_true']
  rfl

theorem lookup_of_mem_looseIds {l : List (Id × Nat)} {x : Id} (h : x ∈ l.map (·.1)) :
    ∃ t, l.lookup x = some t ∧ (x, t) ∈ l :=
  Assoc.lookup_of_mem_keys h

/-! ### one operation: what it keeps and what it drops -/

/-- "old enough" as the code sees it: by `get_object_mtime` (variant `v`) -/
def OldEnoughV (v : Variant) (s : Store) (grace : Option Nat) (now : Nat) (x : Id) : Prop :=
  match grace with
  | none => True
  | some g => ∃ t, s.mtime? v x = some t ∧ t + g ≤ now

/-- "older than the grace period" in the property's words: the object has a local copy and EVERY copy of it (each loose
file, each pack that contains it) is that old -/
def OldEnough (s : Store) (grace : Option Nat) (now : Nat) (x : Id) : Prop :=
  match grace with
  | none => True
  | some g => s.mtimes x ≠ [] ∧ ∀ t ∈ s.mtimes x, t + g ≤ now

section
variable {v : Variant} {G : Id → List Id} {roots : List Id} {fuel : Nat} {op : Op} {s s' : Store} {grace : Option Nat}
  {now : Nat}

theorem selectable_old {x : Id} (h : selectable v s grace now x = true) : OldEnoughV v s grace now x := by
  cases grace with
  | none => trivial
  | some g =>
    unfold selectable at h
    cases ht : s.mtime? v x with
    | none => rw [ht] at h; cases h
    | some t =>
      rw [ht] at h
      exact ⟨t, ht, Nat.le_of_not_lt (by simpa [young] using h)⟩

theorem maxOf_some {l : List Nat} {m : Nat} (h : maxOf l = some m) : l ≠ [] ∧ ∀ t ∈ l, t ≤ m := by
  have h' : l.max? = some m := by cases l <;> exact h
  obtain ⟨hm, hall⟩ := List.max?_eq_some_iff.mp h'
  exact ⟨List.ne_nil_of_mem hm, hall⟩

theorem OldEnoughV.all_copies {x : Id} (h : OldEnoughV v s grace now x) (hv : v.maxMtime = true) :
    OldEnough s grace now x := by
  cases grace with
  | none => trivial
  | some g =>
    obtain ⟨t, ht, hle⟩ := h
    rw [Store.mtime?, if_pos hv] at ht
    obtain ⟨hne, hall⟩ := maxOf_some ht
    exact ⟨hne, fun t' ht' => Nat.le_trans (Nat.add_le_add_right (hall t' ht') g) hle⟩

/-- `op` deletes every copy of `x` unless `x` is reachable.  `prune_unreachable_objects` deletes loose files only, so a
copy in a pack or in an alternate saves the object; `garbage_collect(prune=True)` also writes the one new pack without it,
so only a copy in an alternate does. -/
def drops (v : Variant) (s : Store) : Op → Id → Prop
  | .prune grace now, x => selectable v s grace now x = true ∧ ¬ (∃ p ∈ s.packs, x ∈ p.ids) ∧ x ∉ s.alts
  | .gc prune grace now, x => prune = true ∧ selectable v s grace now x = true ∧ x ∉ s.alts
  | _, _ => False

theorem apply_has (h : apply v G roots fuel op s = some s') (x : Id) :
    s'.has x = true ↔ s.has x = true ∧ (Reach s G roots x ∨ ¬ drops v s op x) := by
  cases op with
  | packLoose now => cases h; simp [drops, packLoose_has]
  | repack now => cases h; simp [drops, repack_nil_has]
  | noop => cases h; simp [drops]
  | prune grace now =>
    obtain ⟨r, hr, rfl⟩ := Option.map_eq_some_iff.mp h
    rw [pruneLoose_has, has_iff, ← findReachable_iff hr]
    simp only [drops]
    grind
  | gc prune grace now =>
    obtain ⟨r, hr, rfl⟩ := Option.map_eq_some_iff.mp h
    rw [gcWith_has, ← findReachable_iff hr]
    have hsel := mem_toPrune_iff (v := v) (s := s) (reach := r) (grace := grace) (now := now) (x := x)
    rw [has_iff] at hsel ⊢
    simp only [drops]
    cases prune <;> grind

theorem drops_old {x : Id} (h : drops v s op x) :
    (∃ grace now, op = .prune grace now ∧ OldEnoughV v s grace now x) ∨
    (∃ grace now, op = .gc true grace now ∧ OldEnoughV v s grace now x) := by
  cases op with
  | prune grace now => exact .inl ⟨grace, now, rfl, selectable_old h.1⟩
  | gc prune grace now =>
    obtain ⟨rfl, hsel, _⟩ := h
    exact .inr ⟨grace, now, rfl, selectable_old hsel⟩
  | _ => cases h

theorem apply_preserves_reachable (h : apply v G roots fuel op s = some s') {x : Id} (hr : Reach s G roots x)
    (hx : s.has x = true) : s'.has x = true :=
  (apply_has h x).mpr ⟨hx, .inl hr⟩

theorem reach_mono (h : ∀ y, Reach s G roots y → s.has y = true → s'.has y = true) {x : Id} (hr : Reach s G roots x) :
    Reach s' G roots x := by
  induction hr with
  | root hx => exact .root hx
  | step hp hhas hx ih => exact .step ih (h _ hp hhas) hx

theorem apply_only_old_unreachable_removed (h : apply v G roots fuel op s = some s') {x : Id} (hx : s.has x = true)
    (hgone : s'.has x = false) : ¬ Reach s G roots x ∧ drops v s op x := by
  have hk : ¬ (Reach s G roots x ∨ ¬ drops v s op x) := fun hk =>
    Bool.false_ne_true (hgone.symm.trans ((apply_has h x).mpr ⟨hx, hk⟩))
  exact ⟨fun hr => hk (.inl hr), Classical.not_not.mp fun hd => hk (.inr hd)⟩

/-! ### maintenance from any cache state -/

theorem packLooseV_has (v : Variant) (view : List Pack) (s : Store) (now : Nat) (x : Id) :
    (packLooseV v false view s now).1.has x = true ↔ s.has x = true := by
  unfold packLooseV
  split
  · rfl
  · split
    · rfl
    · rename_i pk hpk
      rw [has_mk, has_iff, installPackV_any v s.packs _ now view pk hpk x, mem_dedup]
      simp only [List.map_nil, List.not_mem_nil, false_or, or_assoc]

theorem repackV_has (v : Variant) (view : List Pack) (s : Store) (now : Nat) (x : Id) :
    (repackV v view s now).1.has x = true ↔ s.has x = true := by
  unfold repackV
  split
  · rfl
  · exact repack_nil_has v s now x

theorem has_withStale {extra : List Id} {x : Id} (h : s.has x = true) : (s.withStale extra).has x = true := by
  rw [has_iff] at h
  exact (has_mk ..).mpr (h.imp_right (.imp_right (List.mem_append_left _)))

theorem applyV_preserves_reachable {view : List Pack}
    {extra : List Id} {r : Store × Bool} (h : applyV v G roots fuel view extra op s = some r)
    {x : Id} (hr : Reach s G roots x) (hx : s.has x = true) : r.1.has x = true := by
  cases op with
  | packLoose now => cases h; exact (packLooseV_has v view s now x).mpr hx
  | repack now => cases h; exact (repackV_has v view s now x).mpr hx
  | prune grace now =>
    obtain ⟨rch, hr', rfl⟩ := Option.map_eq_some_iff.mp h
    have hxr : x ∈ rch := (findReachable_iff hr' x).mpr (reach_mono (fun y _ hy => has_withStale hy) hr)
    rw [pruneLoose_has]
    exact ((has_iff s x).mp hx).imp_right (.imp_left fun hl => ⟨hl, .inl hxr⟩)
  | gc prune grace now =>
    obtain ⟨s', hs', rfl⟩ := Option.map_eq_some_iff.mp h
    exact apply_preserves_reachable hs' hr hx
  | noop => cases h; exact hx

end

/-! ### roots while refs are being packed -/

theorem refTrace_length (s : RefAt) (prog : List RefAct) : (refTrace s prog).length = prog.length + 1 := by
  induction prog generalizing s with
  | nil => rfl
  | cons a rest ih => simp [refTrace, ih]

theorem refTrace_head (s : RefAt) (prog : List RefAct) : (refTrace s prog)[0]? = some s := by
  cases prog <;> rfl

theorem refTrace_packed_stays {s : RefAt} (h : s.2 = true) (prog : List RefAct) :
    ∀ t ∈ refTrace s prog, t.2 = true := by
  induction prog generalizing s with
  | nil => exact fun t ht => List.mem_singleton.mp ht ▸ h
  | cons a rest ih =>
    intro t ht
    rcases List.mem_cons.mp ht with rfl | ht
    · exact h
    · refine ih ?_ t ht
      cases a with
      | writePacked => rfl
      | _ => exact h

theorem rootSeen_zero {s : RefAt} (hs : s.1 = true ∨ s.2 = true) (prog : List RefAct) {j : Nat}
    (hj : j < (refTrace s prog).length) : rootSeen (refTrace s prog) 0 j = true := by
  rw [rootSeen, refTrace_head, Bool.or_eq_true]
  refine hs.imp id fun hpk => ?_
  rw [List.getElem?_eq_getElem hj]
  exact refTrace_packed_stays hpk prog _ (List.getElem_mem hj)

theorem packsBeforeUnlink_cons {s : RefAt} {a : RefAct} {rest : List RefAct} (hs : s.1 = true ∨ s.2 = true)
    (hp : packsBeforeUnlink s.2 (a :: rest) = true) :
    ((s.act a).1 = true ∨ (s.act a).2 = true) ∧ packsBeforeUnlink (s.act a).2 rest = true := by
  cases a with
  | writePacked =>
    rw [packsBeforeUnlink, Bool.or_true] at hp
    exact ⟨.inr rfl, hp⟩
  | unlinkLoose =>
    rw [packsBeforeUnlink, Bool.and_eq_true] at hp
    exact ⟨.inr hp.1, hp.2⟩
  | other => exact ⟨hs, hp⟩

/-! ### the configured grace period -/

theorem gitKeyword_of_tableSound {table : List (String × Option Nat)} (h : tableSound table = true) {k : String}
    {g : Option Nat} (hl : table.lookup k = some g) : gitKeyword k = some true :=
  beq_iff_eq.mp (List.all_eq_true.mp h (k, g) (Assoc.mem_of_lookup hl))

/-- `.refuse => True` loses nothing: the two other results need an expiry, so a value that has no meaning is refused.
1209600 s is git's two-week default for an unset `gc.pruneExpire`. -/
theorem graceOf_respects_expiry (table : List (String × Option Nat)) (hs : tableSound table = true) (dflt now : Nat)
    (hd : 1209600 ≤ dflt) (v : ConfigValue) :
    match graceOf table dflt now v with
    | .secs g => ∃ e, expiryOf now v = some e ∧ now - g ≤ e
    | .noAgeCheck => expiryOf now v = some now
    | .refuse => True := by
  cases v with
  | unset => exact ⟨_, rfl, Nat.sub_le_sub_left hd now⟩
  | keyword k =>
    rw [graceOf]
    cases hl : table.lookup k with
    | none => trivial
    | some g =>
      have he : expiryOf now (.keyword k) = some now := by
        rw [expiryOf, gitKeyword_of_tableSound hs hl]
        rfl
      cases g with
      | none => exact he
      | some g => exact ⟨now, he, Nat.sub_le now g⟩
  | secondsAgo n => exact ⟨_, rfl, Nat.le_refl _⟩
  | absolute t => exact ⟨t, rfl, by omega⟩
  | other => trivial

theorem gc_respects_expiry {v : Variant} {G : Id → List Id} {roots : List Id} {fuel : Nat} {s s' : Store} {now : Nat}
    {table : List (String × Option Nat)} (hs : tableSound table = true) {dflt : Nat} (hd : 1209600 ≤ dflt)
    (hv : v.maxMtime = true) {cv : ConfigValue} {g : Nat} {prune : Bool} (hg : graceOf table dflt now cv = .secs g)
    (h : apply v G roots fuel (.gc prune (some g) now) s = some s') {x : Id} (hx : s.has x = true)
    (hgone : s'.has x = false) : ∃ e, expiryOf now cv = some e ∧ ∀ t ∈ s.mtimes x, t ≤ e := by
  have hsound := graceOf_respects_expiry table hs dflt now hd cv
  rw [hg] at hsound
  obtain ⟨e, he, hle⟩ := hsound
  refine ⟨e, he, fun t ht => ?_⟩
  obtain ⟨_, hsel, _⟩ := (apply_only_old_unreachable_removed h hx hgone).2
  have := ((selectable_old hsel).all_copies hv).2 t ht
  omega

end Dulwich.GC
