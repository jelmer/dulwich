/-
  Helper definitions and lemmas for C08 (Props/C08.lean).

  Part 1 is about the LOOSE fragment only: no packed-refs file (`fs.packed = none`), no symbolic ref (`IsSha` of every
  loose value), every actor performing ONE operation, a `LooseOp`.  In order: the ghost phase of an operation; the lock
  discipline `Disc` of its program and the rules by which the four operations have it; the instrumented transition
  system that logs linearization events; what one step does (`StepSum`); the forward-simulation invariant `Inv` against
  the per-ref specification (`specVal`, Model/RefsFS.lean); runs.
  Part 2: a checker for what a read-only actor returns under every schedule against one other actor (any refs,
  packed or not).
  Part 3: the commit protocol over an atomic compare-and-swap register, with a single read of the head (`pstep 1`).
-/
import DulwichModel.Model.RefsFS

namespace Dulwich.RefsFS
open Prog

/-! ## Part 1 — loose refs -/

/-- what an actor has learnt about its ref since it took the lock -/
inductive Know where
  | unknown
  | is (v : Option Val)
  | present

/-- `k.cons x`: the value `x` of the ref is consistent with what is known -/
def Know.cons : Know → Option Val → Prop
  | .unknown, _ => True
  | .is v, x => x = v
  | .present, x => x.isSome = true

inductive Phase where
  | outside                      -- no lock, not linearized yet
  | locked (k : Know)            -- holds `<target>.lock`, not linearized yet
  | lockedDone (o : Outcome)     -- holds the lock, linearized (delete: after the loose file is gone)
  | finished (o : Outcome)       -- no lock, linearized with outcome `o`

def Phase.cons : Phase → Option Val → Prop
  | .locked k, x => k.cons x
  | _, _ => True

def Phase.holds : Phase → Bool
  | .locked _ => true
  | .lockedDone _ => true
  | _ => false

def Phase.outcome : Phase → Option Outcome
  | .lockedDone o => some o
  | .finished o => some o
  | _ => none

/-- what is known after `exists`/`lexists` on the target returned `res` -/
def statKnow (k : Know) (res : Bool) : Know :=
  if res then (match k with | .is v => .is v | _ => .present) else .is none

/-- ghost phase after a call with result `res`, `x` being the value of the target ref when the call executes -/
def nextPhase (op : Op) (t : Ref) (ph : Phase) : (c : Call) → ResT c → Option Val → Phase
  | .openR r, res, _ =>
    match ph with
    | .outside =>
      if r = t then
        match op with
        | .read _ => .finished (.val res)
        | .add _ _ => if Option.isSome (α := Val) res then .finished (.bool false) else .outside
        | _ => .outside
      else .outside
    | .locked k => if r = t then .locked (.is res) else .locked k
    | ph => ph
  | .statR r, res, _ =>
    match ph with
    | .locked k => if r = t then .locked (statKnow k res) else .locked k
    | ph => ph
  | .lstatR r, res, _ =>
    match ph with
    | .locked k => if r = t then .locked (statKnow k res) else .locked k
    | ph => ph
  | .openX _, res, _ =>
    match ph with
    | .outside => if (show Bool from res) then .locked .unknown else .finished (.exc .locked)
    | ph => ph
  | .replaceL _ _, _, x =>
    match ph with
    | .locked _ => .finished (specVal op x).2
    | ph => ph
  | .removeR _, _, x =>
    match ph with
    | .locked _ => .lockedDone (specVal op x).2
    | ph => ph
  | .removeL _, _, x =>
    match ph with
    | .locked _ => .finished (specVal op x).2
    | .lockedDone o => .finished o
    | ph => ph
  | _, _, _ => ph

/-- what the invariant (`Inv`, by `compat_exec`) guarantees about the result of a call (`x` = current value of the
target) -/
def Compat (t : Ref) (ph : Phase) : (c : Call) → ResT c → Option Val → Prop
  | .openR r, res, x => ph.cons x ∧ IsSha x ∧ IsSha res ∧ (r = t → res = x)
  | .statR r, res, x => ph.cons x ∧ IsSha x ∧ (r = t → res = x.isSome)
  | .lstatR r, res, x => ph.cons x ∧ IsSha x ∧ (r = t → res = x.isSome)
  | .removeR r, res, x => ph.cons x ∧ IsSha x ∧ (r = t → res = x.isSome)
  | .statP, res, x => ph.cons x ∧ IsSha x ∧ res = none
  | .openRP, res, x => ph.cons x ∧ IsSha x ∧ res = none
  | _, _, x => ph.cons x ∧ IsSha x

/-- which calls an operation may make in which phase -/
def Pre (op : Op) (t : Ref) (ph : Phase) : Call → Prop
  | .start => True
  | .openR _ => True
  | .statR _ => True
  | .lstatR _ => True
  | .statP => True
  | .openRP => True
  | .scan => True
  | .fsyncL _ => True
  | .openX r => r = t ∧ ph = .outside
  | .replaceL r v => r = t ∧ IsSha (some v) ∧ ∃ k, ph = .locked k ∧ ∀ x, k.cons x → (specVal op x).1 = some v
  | .removeR r => r = t ∧ ∃ k, ph = .locked k ∧ ∀ x, k.cons x → (specVal op x).1 = none
  | .removeL r => r = t ∧ ((∃ k, ph = .locked k ∧ ∀ x, k.cons x → (specVal op x).1 = x) ∨ ∃ o, ph = .lockedDone o)
  | _ => False

/-- in the loose fragment there is no packed-refs file: a loaded cache holds the empty map, keyed by "no file" -/
def CacheOK (c : Cache) : Prop := c.loaded = true → c.key = none ∧ c.map = []

/-- The discipline: every call is permitted in the current phase and, whatever result compatible with the
invariant comes back, the continuation is disciplined; the operation returns exactly its linearized outcome. -/
def Disc (op : Op) (t : Ref) : Phase → Prog → Prop
  | ph, .ret o c => ph = .finished o ∧ CacheOK c
  | ph, .call c k => Pre op t ph c ∧
      ∀ (res : ResT c) (x : Option Val), Compat t ph c res x → Disc op t (nextPhase op t ph c res x) (k res)

theorem disc_ret {op : Op} {t : Ref} {ph : Phase} {o : Outcome} {c : Cache} :
    Disc op t ph (.ret o c) ↔ (ph = .finished o ∧ CacheOK c) := by
  simp [Disc]

theorem disc_call {op : Op} {t : Ref} {ph : Phase} {c : Call} {k : ResT c → Prog} :
    Disc op t ph (.call c k) ↔ (Pre op t ph c ∧
      ∀ (res : ResT c) (x : Option Val), Compat t ph c res x → Disc op t (nextPhase op t ph c res x) (k res)) :=
  Iff.rfl


/-- Under the lock the target does not change: if `x` was there when it was looked at, every value `x'` consistent
with what the look taught is consistent with what was known before, and exists iff `x` did. -/
theorem statKnow_cons {k : Know} {x x' : Option Val} (hk : k.cons x) (h : (statKnow k x.isSome).cons x') :
    k.cons x' ∧ x'.isSome = x.isSome := by
  cases x with
  | none => cases h; exact ⟨hk, rfl⟩
  | some v =>
    cases k with
    | unknown => exact ⟨trivial, h⟩
    | is w => cases hk; cases h; exact ⟨rfl, rfl⟩
    | present => exact ⟨h, h⟩

theorem statKnow_cons_self {k : Know} {x : Option Val} (h : k.cons x) : (statKnow k x.isSome).cons x := by
  cases x with
  | none => simp [statKnow, Know.cons]
  | some v =>
    cases k with
    | unknown => simp [statKnow, Know.cons]
    | is w => simpa [statKnow, Know.cons] using h
    | present => simp [statKnow, Know.cons]

/-! One introduction rule of `Disc` for each call an operation makes on its target, by the phase it makes it in, and
one for each piece of program the operations share (`getPacked`, `readRef`, `follow`, the comparison, `removePacked`).
The operations are then checked by following their program text (the rules apply up to unfolding it). -/

section calls
variable {op : Op} {t : Ref}

theorem nextPhase_openR_locked (k : Know) (res : ResT (.openR t)) (x : Option Val) :
    nextPhase op t (.locked k) (.openR t) res x = .locked (.is res) := if_pos rfl

theorem nextPhase_statR_locked (k : Know) (res : ResT (.statR t)) (x : Option Val) :
    nextPhase op t (.locked k) (.statR t) res x = .locked (statKnow k res) := if_pos rfl

theorem nextPhase_lstatR_locked (k : Know) (res : ResT (.lstatR t)) (x : Option Val) :
    nextPhase op t (.locked k) (.lstatR t) res x = .locked (statKnow k res) := if_pos rfl

/-- `get_packed_refs` in the loose fragment: no packed-refs file, the answer is the empty map. -/
theorem disc_getPacked {ph : Phase} {c : Cache} {k : PMap → Cache → Prog}
    (hc : CacheOK c) (hk : ∀ c', CacheOK c' → Disc op t ph (k [] c')) : Disc op t ph (getPacked c k) := by
  unfold getPacked
  split
  · next hl =>
    obtain ⟨hkey, hmap⟩ := hc hl
    refine disc_call.mpr ⟨trivial, fun res x hx => ?_⟩
    cases hx.2.2
    show Disc op t ph (if c.key = none then k c.map c else _)
    rw [if_pos hkey, hmap]
    exact hk c hc
  · refine disc_call.mpr ⟨trivial, fun res x hx => ?_⟩
    cases hx.2.2
    exact hk _ fun _ => ⟨rfl, rfl⟩

/-- the phase after a read of the target outside the lock has returned `res` (a `read`, and an `add_if_new` that finds
the ref, are linearized by that call): `nextPhase` on that branch, where neither the name of the target nor the value
there matters -/
def readPhase (op : Op) (res : Option Val) : Phase := nextPhase op 0 .outside (.openR 0) res none

theorem nextPhase_openR_outside (res : ResT (.openR t)) (x : Option Val) :
    nextPhase op t .outside (.openR t) res x = readPhase op res := if_pos rfl

theorem disc_readRef {c : Cache} {k : Option Val → Cache → Prog} (hc : CacheOK c)
    (hk : ∀ x c', IsSha x → CacheOK c' → Disc op t (readPhase op x) (k x c')) :
    Disc op t .outside (readRef t c k) := by
  refine disc_call.mpr ⟨trivial, fun res x ⟨_, hx, _, hr⟩ => ?_⟩
  cases hr rfl
  rw [nextPhase_openR_outside res res]
  cases res with
  | some v => exact hk _ c hx hc
  | none => exact disc_getPacked hc fun c' hc' => hk none c' hx hc'

theorem isSha_cases {v : Option Val} (h : IsSha v) : v = none ∨ ∃ s, v = some (.sha s) := by
  cases v with
  | none => exact Or.inl rfl
  | some v => cases v with
    | sha s => exact Or.inr ⟨s, rfl⟩
    | sym r => exact absurd h (by simp [IsSha])

/-- `follow` on a ref that holds an object id (or nothing): one read, no recursion. -/
theorem disc_follow {c : Cache} {k : Option (Ref × Option Sha) → Cache → Prog} (hc : CacheOK c)
    (hk : ∀ (s : Option Sha) c', CacheOK c' → Disc op t (readPhase op (s.map .sha)) (k (some (t, s)) c')) :
    Disc op t .outside (follow t c k) := by
  have hf : Gen.RefsFS.symrefMaxDepth + 2 = (Gen.RefsFS.symrefMaxDepth + 1) + 1 := rfl
  unfold follow
  rw [hf]
  simp only [followAux]
  refine disc_readRef hc fun x c' hx hc' => ?_
  rcases isSha_cases hx with rfl | ⟨s, rfl⟩
  · exact hk none c' hc'
  · simp only [show ¬ (0 + 1 > Gen.RefsFS.symrefMaxDepth) by decide, if_false]
    exact hk (some s) c' hc'

theorem disc_openX {kf kt : Prog} (hf : Disc op t (.finished (.exc .locked)) kf)
    (ht : Disc op t (.locked .unknown) kt) : Disc op t .outside (sOpenX t fun ok => if !ok then kf else kt) :=
  disc_call.mpr ⟨⟨rfl, rfl⟩, fun ok _ _ => by cases ok; exact hf; exact ht⟩

theorem disc_openR_locked {kn : Know} {k : Option Val → Prog}
    (h : ∀ x, kn.cons x → Disc op t (.locked (.is x)) (k x)) : Disc op t (.locked kn) (sOpenR t k) :=
  disc_call.mpr ⟨trivial, fun res x ⟨hc, _, _, hr⟩ => by
    rw [nextPhase_openR_locked, hr rfl]
    exact h x hc⟩

theorem disc_statR_locked {kn : Know} {k : Bool → Prog}
    (h : ∀ x, kn.cons x → Disc op t (.locked (statKnow kn x.isSome)) (k x.isSome)) :
    Disc op t (.locked kn) (sStatR t k) :=
  disc_call.mpr ⟨trivial, fun res x ⟨hc, _, hr⟩ => by
    rw [nextPhase_statR_locked, hr rfl]
    exact h x hc⟩

theorem disc_lstatR_locked {kn : Know} {k : Bool → Prog}
    (h : ∀ x, kn.cons x → Disc op t (.locked (statKnow kn x.isSome)) (k x.isSome)) :
    Disc op t (.locked kn) (sLstatR t k) :=
  disc_call.mpr ⟨trivial, fun res x ⟨hc, _, hr⟩ => by
    rw [nextPhase_lstatR_locked, hr rfl]
    exact h x hc⟩

/-- writing under the lock linearizes the operation: the specification must ask for this value -/
theorem disc_write {kn : Know} {v : Sha} {o : Outcome} {c : Cache} (hc : CacheOK c)
    (hop : ∀ x, kn.cons x → specVal op x = (some (.sha v), o)) :
    Disc op t (.locked kn) (sFsyncL t fun _ => sReplaceL t (.sha v) fun _ => .ret o c) :=
  disc_call.mpr ⟨trivial, fun _ _ _ => disc_call.mpr
    ⟨⟨rfl, trivial, kn, rfl, fun x hx => by rw [hop x hx]⟩, fun _ x hx => by
      show Disc op t (.finished (specVal op x).2) _
      rw [hop x hx.1]
      exact disc_ret.mpr ⟨rfl, hc⟩⟩⟩

theorem disc_release {kn : Know} {o : Outcome} {c : Cache} (hc : CacheOK c)
    (hop : ∀ x, kn.cons x → specVal op x = (x, o)) :
    Disc op t (.locked kn) (sRemoveL t fun _ => .ret o c) :=
  disc_call.mpr ⟨⟨rfl, Or.inl ⟨kn, rfl, fun x hx => by rw [hop x hx]⟩⟩, fun _ x hx => by
    show Disc op t (.finished (specVal op x).2) _
    rw [hop x hx.1]
    exact disc_ret.mpr ⟨rfl, hc⟩⟩

/-- the comparison of a conditional operation on what is read again under the lock (the loose file, else the packed
entry: there is none): it goes on where the specification says it succeeds, else releases the lock and returns
`False` -/
theorem disc_cmp {o v' : Option Val} {c : Cache} {body : Cache → Prog} (hc : CacheOK c)
    (hs : ∀ x, specVal op x = if x = o then (v', .bool true) else (x, .bool false))
    (hb : ∀ kn c', CacheOK c' → (∀ x, kn.cons x → specVal op x = (v', .bool true)) →
      Disc op t (.locked kn) (body c')) :
    Disc op t (.locked .unknown) (sOpenR t fun orig =>
      match orig with
      | some v => if some v = o then body c else sRemoveL t fun _ => .ret (.bool false) c
      | none => getPacked c fun m c =>
          if (pmGet m t).map Val.sha = o then body c else sRemoveL t fun _ => .ret (.bool false) c) := by
  refine disc_openR_locked fun x _ => ?_
  have cmp : ∀ c', CacheOK c' →
      Disc op t (.locked (.is x)) (if x = o then body c' else sRemoveL t fun _ => .ret (.bool false) c') := by
    intro c' hc'
    split
    · next hv => exact hb _ c' hc' fun x' hx' => by cases hx'; rw [hs, if_pos hv]
    · next hv => exact disc_release hc' fun x' hx' => by cases hx'; rw [hs, if_neg hv]
  cases x with
  | some v => exact cmp c hc
  | none => exact disc_getPacked hc cmp

/-- removing the loose file under the lock linearizes a delete; the lock is released afterwards -/
theorem disc_removeR {kn : Know} {o : Outcome} {k : Bool → Prog}
    (hop : ∀ x, kn.cons x → specVal op x = (none, o))
    (h : ∀ x, kn.cons x → Disc op t (.lockedDone o) (k x.isSome)) : Disc op t (.locked kn) (sRemoveR t k) :=
  disc_call.mpr ⟨⟨rfl, kn, rfl, fun x hx => by rw [hop x hx]⟩, fun res x ⟨hc, _, hr⟩ => by
    show Disc op t (.lockedDone (specVal op x).2) _
    rw [hop x hc, hr rfl]
    exact h x hc⟩

theorem disc_release_done {o : Outcome} {c : Cache} (hc : CacheOK c) :
    Disc op t (.lockedDone o) (sRemoveL t fun _ => .ret o c) :=
  disc_call.mpr ⟨⟨rfl, Or.inr ⟨o, rfl⟩⟩, fun _ _ _ => disc_ret.mpr ⟨rfl, hc⟩⟩

theorem disc_removePacked {ph : Phase} {name : Ref} {c : Cache} {kl k : Cache → Prog}
    (hc : CacheOK c) (hk : ∀ c', CacheOK c' → Disc op t ph (k c')) :
    Disc op t ph (removePacked name c kl k) := by
  unfold removePacked
  -- no packed entry: `_remove_packed_ref` returns at once
  exact disc_getPacked hc hk

end calls

theorem cas_disc (env : Env) (vr : Variant) (name : Ref) (old : Option (Option Val)) (new : Sha) (c : Cache)
    (hc : CacheOK c) :
    Disc (.cas name old (.sha new)) name .outside (compile env vr (.cas name old (.sha new)) c) := by
  show Disc _ _ _ (setIfEquals name old (.sha new) c _)
  unfold setIfEquals
  refine disc_follow hc fun s c0 hc0 => ?_
  refine disc_getPacked hc0 fun c1 hc1 => disc_getPacked hc1 fun c2 hc2 =>
    disc_openX (disc_ret.mpr ⟨rfl, hc2⟩) ?_
  extract_lets write
  have hw : ∀ kn c', CacheOK c' →
      (∀ x, kn.cons x → specVal (.cas name old (.sha new)) x = (some (.sha new), .bool true)) →
      Disc (.cas name old (.sha new)) name (.locked kn) (write c') := by
    intro kn c' hc' hop
    refine disc_openR_locked fun x hx => ?_
    have hwr := disc_write (t := name) (kn := .is x) hc' fun x' hx' => by cases hx'; exact hop x hx
    cases x with
    | none => exact hwr
    | some v =>
      dsimp only
      split
      · next hr => exact disc_release hc' fun x' hx' => by cases hx'; rw [hop _ hx, hr]
      · exact hwr
  cases old with
  | none => exact hw .unknown c2 hc2 fun _ _ => rfl
  | some o => exact disc_cmp hc2 (fun _ => rfl) hw

@[simp] theorem pmGet_nil (r : Ref) : pmGet [] r = none := rfl

theorem add_disc (env : Env) (vr : Variant) (name : Ref) (v : Sha) (c : Cache) (hc : CacheOK c) :
    Disc (.add name (.sha v)) name .outside (compile env vr (.add name (.sha v)) c) := by
  show Disc _ _ _ (addIfNew vr name (.sha v) c _)
  unfold addIfNew
  refine disc_follow hc fun s c0 hc0 => ?_
  cases s with
  | some s =>
    -- the ref exists: add_if_new returns False without taking the lock
    exact disc_ret.mpr ⟨rfl, hc0⟩
  | none =>
    refine disc_getPacked hc0 fun c1 hc1 => disc_openX (disc_ret.mpr ⟨rfl, hc1⟩) (disc_statR_locked fun x _ => ?_)
    cases x with
    | some w => exact disc_release hc1 fun x' (hx' : x'.isSome = true) => by simp [specVal, hx']
    | none =>
      simp only [Option.isSome_none, Bool.false_eq_true, if_false]
      refine disc_getPacked hc1 fun c2 hc2 => ?_
      simp only [pmGet_nil, Option.isSome_none, Bool.false_eq_true, if_false]
      exact disc_write hc2 fun x' hx' => by cases hx'; rfl

theorem rm_disc (env : Env) (vr : Variant) (name : Ref) (old : Option (Option Val)) (c : Cache) (hc : CacheOK c) :
    Disc (.rm name old) name .outside (compile env vr (.rm name old) c) := by
  refine disc_openX (disc_ret.mpr ⟨rfl, hc⟩) ?_
  extract_lets fail finish rmLoose body
  -- the delete itself, in either order; under the lock the file cannot vanish, so `os.remove` finds what `lexists`
  -- found and the `FileNotFoundError` branch is never taken
  have hb : ∀ kn c', CacheOK c' → (∀ x, kn.cons x → specVal (.rm name old) x = (none, .bool true)) →
      Disc (.rm name old) name (.locked kn) (body c') := by
    intro kn c' hc' hop
    have gone : kn.cons none → ∀ c', CacheOK c' → Disc (.rm name old) name (.locked (.is none)) (finish c') :=
      fun h c' hc' => disc_release hc' fun x hx => by cases hx; exact hop none h
    dsimp only [body, rmLoose]
    by_cases hv : vr.rmLooseFirst = true
    · rw [if_pos hv]
      refine disc_lstatR_locked fun x hx => ?_
      cases x with
      | none => exact disc_removePacked hc' (gone hx)
      | some w =>
        refine disc_removeR (fun x' hx' => hop x' (statKnow_cons hx hx').1) fun x' hx' => ?_
        rw [(statKnow_cons hx hx').2]
        exact disc_removePacked hc' fun c' hc' => disc_release_done hc'
    · rw [if_neg hv]
      refine disc_lstatR_locked fun x hx => disc_removePacked hc' fun c' hc' => ?_
      cases x with
      | none => exact gone hx c' hc'
      | some w =>
        -- `os.path.isdir`: one more look at the file under the lock
        refine disc_statR_locked fun x2 hx2 => ?_
        have h2 := statKnow_cons hx hx2
        refine disc_removeR (fun x' hx' => hop x' (statKnow_cons hx (statKnow_cons hx2 hx').1).1) fun x' hx' => ?_
        rw [(statKnow_cons hx2 hx').2, h2.2]
        exact disc_release_done hc'
  cases old with
  | none => exact hb .unknown c hc fun _ _ => rfl
  | some o => exact disc_cmp hc (fun _ => rfl) hb

theorem compile_disc (env : Env) (vr : Variant) (op : Op) (hop : LooseOp op) (c : Cache) (hc : CacheOK c) :
    Disc op op.target .outside (compile env vr op c) := by
  cases op with
  | read r => exact disc_readRef (op := .read r) (t := r) hc fun _ _ _ hc' => disc_ret.mpr ⟨rfl, hc'⟩
  | cas name old new =>
    cases new with
    | sha n => exact cas_disc env vr name old n c hc
    | sym _ => exact absurd hop (by simp [LooseOp])
  | add name v =>
    cases v with
    | sha n => exact add_disc env vr name n c hc
    | sym _ => exact absurd hop (by simp [LooseOp])
  | rm name old => exact rm_disc env vr name old c hc
  | _ => exact absurd hop (by simp [LooseOp])

/-! ### the instrumented transition system -/

structure IState where
  cfg : Config
  phs : Actor → Phase
  log : List LinEv

def linEvent (a : Actor) (op : Op) (ph ph' : Phase) : List LinEv :=
  match ph.outcome, ph'.outcome with
  | none, some o => [⟨a, op, o⟩]
  | _, _ => []

theorem linEvent_mem {a : Actor} {op : Op} {ph ph' : Phase} {e : LinEv} (h : e ∈ linEvent a op ph ph') :
    e.actor = a := by
  unfold linEvent at h
  split at h
  · simp only [List.mem_singleton] at h
    subst h
    rfl
  · simp at h

/-- `step` plus ghost bookkeeping: the phase of the stepping actor and the log of linearization events.  `ops[a]` is
the one operation actor `a` performs (`IState.init`). -/
def istep (env : Env) (vr : Variant) (ops : List Op) (s : IState) (a : Actor) : Option IState :=
  match s.cfg.actors[a]?, ops[a]? with
  | some st, some op =>
    match st.prog with
    | .ret _ _ => none
    | .call c k =>
      let r := exec env s.cfg.fs a c
      let ph' := nextPhase op op.target (s.phs a) c r.2 (s.cfg.fs.loose op.target)
      some { cfg := { fs := r.1, actors := s.cfg.actors.set a (settle env vr st.todo (k r.2) st.outs) }
             phs := fun b => if b = a then ph' else s.phs b
             log := s.log ++ linEvent a op (s.phs a) ph' }
  | _, _ => none

theorem istep_some {env : Env} {vr : Variant} {ops : List Op} {s s' : IState} {a : Actor}
    (h : istep env vr ops s a = some s') :
    ∃ st op c k, s.cfg.actors[a]? = some st ∧ ops[a]? = some op ∧ st.prog = .call c k ∧
      let r := exec env s.cfg.fs a c
      let ph' := nextPhase op op.target (s.phs a) c r.2 (s.cfg.fs.loose op.target)
      s' = { cfg := ⟨r.1, s.cfg.actors.set a (settle env vr st.todo (k r.2) st.outs)⟩
             phs := fun b => if b = a then ph' else s.phs b
             log := s.log ++ linEvent a op (s.phs a) ph' } := by
  unfold istep at h
  split at h
  · next st op hst hop =>
    split at h
    · cases h
    · next c k hp => exact ⟨st, op, c, k, hst, hop, hp, (Option.some.inj h).symm⟩
  · cases h

/-- what one disciplined step of actor `a` on target `t` does to the file system and to the ghost phase -/
structure StepSum (op : Op) (t : Ref) (a : Actor) (ph ph' : Phase) (fs fs' : FS) : Prop where
  packed : fs'.packed = none
  frame : ∀ r, r ≠ t → fs'.loose r = fs.loose r ∧ fs'.lock r = fs.lock r
  lockT : fs'.lock t = if ph'.holds then some a else (if ph.holds then none else fs.lock t)
  acquire : ph.holds = false → ph'.holds = true → fs.lock t = none
  isSha : IsSha (fs'.loose t)
  cons : ph'.cons (fs'.loose t)
  noLockNoWrite : ph.holds = false → fs'.loose t = fs.loose t
  -- the step that gives the phase its outcome does to `t` what `specVal` says (a loser: nothing); any other step
  -- leaves `t` and the outcome alone (`StepSum.event` says the same in terms of the logged event)
  lin : match ph.outcome, ph'.outcome with
    | none, some o => if o.isExc then fs'.loose t = fs.loose t else specVal op (fs.loose t) = (fs'.loose t, o)
    | none, none => fs'.loose t = fs.loose t
    | some o, some o' => o' = o ∧ fs'.loose t = fs.loose t
    | some _, none => False

theorem StepSum.event {op : Op} {t : Ref} {a : Actor} {ph ph' : Phase} {fs fs' : FS}
    (h : StepSum op t a ph ph' fs fs') :
    (linEvent a op ph ph' = [] ∧ ph'.outcome = ph.outcome ∧ fs'.loose t = fs.loose t) ∨
    ∃ o, linEvent a op ph ph' = [⟨a, op, o⟩] ∧ ph'.outcome = some o ∧
      if o.isExc then fs'.loose t = fs.loose t else specVal op (fs.loose t) = (fs'.loose t, o) := by
  have hl := h.lin
  revert hl
  unfold linEvent
  cases ph.outcome <;> cases ph'.outcome <;> intro hl
  · exact Or.inl ⟨rfl, rfl, hl⟩
  · exact Or.inr ⟨_, rfl, rfl, hl⟩
  · exact hl.elim
  · exact Or.inl ⟨rfl, congrArg some hl.1, hl.2⟩

theorem specVal_not_exc (op : Op) (x : Option Val) : (specVal op x).2.isExc = false := by
  unfold specVal
  split <;> (try split) <;> simp [Outcome.isExc]

/-- a step that leaves the file system alone; `hlin` is `StepSum.lin` at `fs' = fs` without its trivial equations -/
theorem stepSum_same {op : Op} {t : Ref} {a : Actor} {ph ph' : Phase} {fs : FS}
    (hpacked : fs.packed = none) (hsha : ∀ r, IsSha (fs.loose r))
    (hhold : ph.holds = true → fs.lock t = some a) (hh : ph'.holds = ph.holds) (hcons : ph'.cons (fs.loose t))
    (hlin : match ph.outcome, ph'.outcome with
      | none, some o => o.isExc = false → specVal op (fs.loose t) = (fs.loose t, o)
      | none, none => True
      | some o, some o' => o' = o
      | some _, none => False) : StepSum op t a ph ph' fs fs := by
  refine ⟨hpacked, fun _ _ => ⟨rfl, rfl⟩, ?_, ?_, hsha t, hcons, fun _ => rfl, ?_⟩
  · rw [hh]
    cases h : ph.holds with
    | true => simp [hhold h]
    | false => simp
  · intro h1 h2
    rw [hh, h1] at h2
    cases h2
  · revert hlin
    cases ph.outcome <;> cases ph'.outcome <;> intro hlin
    · rfl
    · next o =>
      dsimp only at hlin ⊢
      by_cases hex : o.isExc = true
      · rw [if_pos hex]
      · rw [if_neg hex]
        exact hlin (by simpa using hex)
    · exact hlin
    · exact ⟨hlin, rfl⟩

theorem stepSum_exec (env : Env) (op : Op) (t : Ref) (a : Actor) (ph : Phase) (fs : FS) (c : Call)
    (hpre : Pre op t ph c)
    (hpacked : fs.packed = none) (hsha : ∀ r, IsSha (fs.loose r))
    (hcons : ph.cons (fs.loose t))
    (hhold : ph.holds = true → fs.lock t = some a) :
    StepSum op t a ph (nextPhase op t ph c (exec env fs a c).2 (fs.loose t)) fs (exec env fs a c).1 := by
  have hid : StepSum op t a ph ph fs fs :=
    stepSum_same hpacked hsha hhold rfl hcons (by cases ph.outcome <;> simp)
  have look : ∀ (r : Ref) (ph' : Phase), (r = t → StepSum op t a ph ph' fs fs) →
      StepSum op t a ph (if r = t then ph' else ph) fs fs := by
    intro r ph' h
    by_cases hr : r = t
    · rw [if_pos hr]
      exact h hr
    · rw [if_neg hr]
      exact hid
  cases c with
  | start | statP | openRP | scan | fsyncL _ => exact hid
  | openXP | fsyncP | replaceP _ | removeLP => exact hpre.elim
  | openR r =>
    cases ph with
    | lockedDone _ | finished _ => exact hid
    | locked k => exact look r _ fun h => stepSum_same hpacked hsha hhold rfl (by subst h; rfl) trivial
    | outside =>
      refine look r _ fun h => ?_
      subst h
      -- a read, or an `add_if_new` that finds the ref, is linearized here
      have fin : ∀ o, specVal op (fs.loose r) = (fs.loose r, o) → StepSum op r a .outside (.finished o) fs fs :=
        fun o hs => stepSum_same hpacked hsha hhold rfl trivial fun _ => hs
      simp only [exec]
      cases op with
      | read r' => exact fin _ rfl
      | add n v =>
        by_cases hx : (fs.loose r).isSome = true
        · simp only [hx, if_true]
          exact fin _ (by simp [specVal, hx])
        · simp only [hx]
          exact hid
      | _ => exact hid
  | statR r | lstatR r =>
    cases ph with
    | locked k =>
      exact look r _ fun h => stepSum_same hpacked hsha hhold rfl (by subst h; exact statKnow_cons_self hcons) trivial
    | _ => exact hid
  | openX r =>
    obtain ⟨rfl, rfl⟩ := hpre
    simp only [exec]
    cases hl : fs.lock r with
    | some b => exact stepSum_same hpacked hsha hhold rfl trivial nofun
    | none =>
      show StepSum _ _ _ _ (Phase.locked .unknown) _ _
      refine ⟨hpacked, fun r' hr' => ⟨rfl, by simp [upd, hr']⟩, by simp [Phase.holds], fun _ _ => hl, hsha r, trivial,
        fun _ => rfl, ?_⟩
      simp [Phase.outcome]
  | replaceL r v =>
    obtain ⟨rfl, hv, k, rfl, hspec⟩ := hpre
    simp only [exec]
    show StepSum _ _ _ _ (Phase.finished _) _ _
    refine ⟨hpacked, fun r' hr' => ⟨by simp [upd, hr'], by simp [upd, hr']⟩, by simp [Phase.holds], nofun,
      by simpa using hv, trivial, nofun, ?_⟩
    simp only [Phase.outcome, specVal_not_exc, upd_same]
    exact Prod.ext (hspec _ hcons) rfl
  | removeR r =>
    obtain ⟨rfl, k, rfl, hspec⟩ := hpre
    have hl : fs.lock r = some a := hhold rfl
    have hs := hspec _ hcons
    simp only [exec]
    show StepSum _ _ _ _ (Phase.lockedDone _) _ _
    cases hx : fs.loose r with
    | some w =>
      refine ⟨hpacked, fun r' hr' => ⟨by simp [upd, hr'], rfl⟩, by simp [Phase.holds, hl], nofun,
        by simp [IsSha], trivial, nofun, ?_⟩
      simp only [Phase.outcome, specVal_not_exc, upd_same]
      rw [hx] at hs ⊢
      exact Prod.ext hs rfl
    | none => exact stepSum_same hpacked hsha hhold rfl trivial fun _ => Prod.ext (hs.trans hx.symm) (by rw [hx])
  | removeL r =>
    obtain ⟨rfl, h⟩ := hpre
    simp only [exec]
    rcases h with ⟨k, rfl, hspec⟩ | ⟨o, rfl⟩
    · show StepSum _ _ _ _ (Phase.finished _) _ _
      refine ⟨hpacked, fun r' hr' => ⟨rfl, by simp [upd, hr']⟩, by simp [Phase.holds], nofun,
        hsha r, trivial, nofun, ?_⟩
      simp only [Phase.outcome, specVal_not_exc]
      exact Prod.ext (hspec _ hcons) rfl
    · show StepSum _ _ _ _ (Phase.finished o) _ _
      refine ⟨hpacked, fun r' hr' => ⟨rfl, by simp [upd, hr']⟩, by simp [Phase.holds], nofun,
        hsha r, trivial, nofun, ?_⟩
      simp [Phase.outcome]

/-- what `exec` returns is what `Disc` assumes of a result -/
theorem compat_exec (env : Env) (t : Ref) (a : Actor) (ph : Phase) (fs : FS) (c : Call)
    (hpacked : fs.packed = none) (hsha : ∀ r, IsSha (fs.loose r)) (hcons : ph.cons (fs.loose t)) :
    Compat t ph c (exec env fs a c).2 (fs.loose t) := by
  cases c with
  | openR r => exact ⟨hcons, hsha t, hsha r, fun h => by subst h; rfl⟩
  | statR r | lstatR r => exact ⟨hcons, hsha t, fun h => by subst h; rfl⟩
  | removeR r =>
    refine ⟨hcons, hsha t, fun h => ?_⟩
    subst h
    simp only [exec]
    cases fs.loose r <;> rfl
  | statP | openRP => exact ⟨hcons, hsha t, by simp only [exec, hpacked]; rfl⟩
  | _ => exact ⟨hcons, hsha t⟩

/-- The forward-simulation invariant of the loose fragment; `m0` is the initial ref map.  One operation per actor is
built in: `act` says that nothing is queued behind the running operation (`todo = []`) and that the actor has returned
at most its outcome. -/
structure Inv (m0 : Ref → Option Val) (ops : List Op) (s : IState) : Prop where
  lenA : s.cfg.actors.length = ops.length
  packed : s.cfg.fs.packed = none
  nosym : ∀ r, IsSha (s.cfg.fs.loose r)
  lockOwner : ∀ r a, s.cfg.fs.lock r = some a →
    ∃ op, ops[a]? = some op ∧ (s.phs a).holds = true ∧ op.target = r
  holdsLock : ∀ a op, ops[a]? = some op → (s.phs a).holds = true → s.cfg.fs.lock op.target = some a
  act : ∀ a op st, ops[a]? = some op → s.cfg.actors[a]? = some st →
    st.todo = [] ∧ Disc op op.target (s.phs a) st.prog ∧ (s.phs a).cons (s.cfg.fs.loose op.target) ∧
    (∀ o c, st.prog = .ret o c → st.outs = [o]) ∧ (∀ c k, st.prog = .call c k → st.outs = [])
  logOut : ∀ a op, ops[a]? = some op →
    match (s.phs a).outcome with
    | some o => ∃ e, e ∈ s.log ∧ e.actor = a ∧ e.op = op ∧ e.out = o
    | none => ∀ e, e ∈ s.log → e.actor ≠ a
  spec : ∃ m, specRun m0 s.log = some m ∧ ∀ r, m r = s.cfg.fs.loose r

theorem specRun_append (m0 : Ref → Option Val) (l1 l2 : List LinEv) :
    specRun m0 (l1 ++ l2) = match specRun m0 l1 with
      | some m => specRun m l2
      | none => none := by
  induction l1 generalizing m0 with
  | nil => simp [specRun]
  | cons e es ih =>
    simp only [List.cons_append, specRun]
    cases specStep m0 e with
    | none => rfl
    | some m' => exact ih m'

theorem settle_nil (env : Env) (vr : Variant) (p : Prog) :
    (settle env vr [] p []).prog = p ∧ (settle env vr [] p []).todo = [] ∧
    (∀ o c, p = .ret o c → (settle env vr [] p []).outs = [o]) ∧
    ∀ c k, p = .call c k → (settle env vr [] p []).outs = [] := by
  cases p <;> simp [settle]

/-- The other actors are untouched, and one that shares the target is excluded by the lock.  (Nothing here looks at
`exec`.  The actor's new state is `settle … [] p' []` because under `Inv.act` a running operation has nothing queued
behind it and has returned nothing.) -/
theorem Inv.step {env : Env} {vr : Variant} {m0 : Ref → Option Val} {ops : List Op} {s : IState} (hinv : Inv m0 ops s)
    {a : Actor} {op : Op} {ph' : Phase} {fs' : FS} {p' : Prog} (hop : ops[a]? = some op)
    (hsum : StepSum op op.target a (s.phs a) ph' s.cfg.fs fs') (hdisc' : Disc op op.target ph' p') :
    Inv m0 ops { cfg := ⟨fs', s.cfg.actors.set a (settle env vr [] p' [])⟩
                 phs := fun b => if b = a then ph' else s.phs b
                 log := s.log ++ linEvent a op (s.phs a) ph' } := by
  have hhold : (s.phs a).holds = true → s.cfg.fs.lock op.target = some a := hinv.holdsLock a op hop
  have halt : a < s.cfg.actors.length := hinv.lenA ▸ (List.getElem?_eq_some_iff.mp hop).1
  have others : ∀ b opb, b ≠ a → ops[b]? = some opb → (s.phs b).holds = true →
      fs'.loose opb.target = s.cfg.fs.loose opb.target ∧ fs'.lock opb.target = s.cfg.fs.lock opb.target := by
    intro b opb hba hopb hhb
    by_cases ht : opb.target = op.target
    · have hold := hinv.holdsLock b opb hopb hhb
      rw [ht] at hold ⊢
      -- on `a`'s own target: `a` does not hold the lock `b` holds, and cannot acquire it
      have hna : (s.phs a).holds = false := by
        cases h : (s.phs a).holds with
        | false => rfl
        | true => exact absurd (Option.some.inj ((hhold h).symm.trans hold)).symm hba
      refine ⟨hsum.noLockNoWrite hna, ?_⟩
      rw [hsum.lockT]
      cases h' : ph'.holds with
      | false => simp [hna]
      | true => exact absurd (hsum.acquire hna h') (by simp [hold])
    · exact hsum.frame _ ht
  constructor
  case lenA => simp [List.length_set, hinv.lenA]
  case packed => exact hsum.packed
  case nosym =>
    intro r
    by_cases hr : r = op.target
    · subst hr; exact hsum.isSha
    · rw [(hsum.frame r hr).1]; exact hinv.nosym r
  case lockOwner =>
    intro r b hl
    by_cases hr : r = op.target
    · subst hr
      rw [hsum.lockT] at hl
      split at hl
      · next h' =>
        cases hl
        exact ⟨op, hop, by simp [h'], rfl⟩
      · split at hl
        · cases hl
        · next h =>
          obtain ⟨opb, hopb, hhb, htb⟩ := hinv.lockOwner _ b hl
          exact ⟨opb, hopb, by simp [show b ≠ a from fun e => h (e ▸ hhb), hhb], htb⟩
    · rw [(hsum.frame r hr).2] at hl
      obtain ⟨opb, hopb, hhb, htb⟩ := hinv.lockOwner _ b hl
      have hba : b ≠ a := fun e => hr (by subst e; cases hop.symm.trans hopb; exact htb.symm)
      exact ⟨opb, hopb, by simp [hba, hhb], htb⟩
  case holdsLock =>
    intro b opb hopb hhb
    by_cases hba : b = a
    · subst hba
      cases hop.symm.trans hopb
      simp only [if_true] at hhb
      rw [hsum.lockT, hhb]
      rfl
    · simp only [hba, if_false] at hhb
      rw [(others b opb hba hopb hhb).2]
      exact hinv.holdsLock b opb hopb hhb
  case act =>
    intro b opb stb hopb hstb
    by_cases hba : b = a
    · subst hba
      cases hop.symm.trans hopb
      simp only [List.getElem?_set_self halt, Option.some.injEq] at hstb
      subst hstb
      obtain ⟨hp, ht, hr, hc⟩ := settle_nil env vr p'
      rw [hp]
      refine ⟨ht, ?_, ?_, hr, hc⟩
      · simp only [if_true]
        exact hdisc'
      · simp only [if_true]
        exact hsum.cons
    · simp only [List.getElem?_set_ne (Ne.symm hba)] at hstb
      obtain ⟨h1, h2, h3, h4, h5⟩ := hinv.act b opb stb hopb hstb
      refine ⟨h1, by simpa [hba] using h2, ?_, h4, h5⟩
      simp only [hba, if_false]
      cases hpb : s.phs b with
      | locked kb =>
        rw [(others b opb hba hopb (by rw [hpb]; rfl)).1, ← hpb]
        exact h3
      | _ => trivial
  case logOut =>
    intro b opb hopb
    have hold := hinv.logOut b opb hopb
    by_cases hba : b = a
    · subst hba
      cases hop.symm.trans hopb
      simp only [if_true]
      rcases hsum.event with ⟨hev, hout, -⟩ | ⟨o, hev, hsome, -⟩
      · rw [hev, hout, List.append_nil]
        exact hold
      · rw [hev, hsome]
        exact ⟨_, List.mem_append_right _ (List.mem_singleton_self _), rfl, rfl, rfl⟩
    · -- the log grows by events of `a` only
      simp only [hba, if_false]
      cases h1 : (s.phs b).outcome with
      | none =>
        rw [h1] at hold
        intro e he
        rcases List.mem_append.mp he with he | he
        · exact hold e he
        · rw [linEvent_mem he]
          exact fun e => hba e.symm
      | some o =>
        rw [h1] at hold
        obtain ⟨e, he, h⟩ := hold
        exact ⟨e, List.mem_append_left _ he, h⟩
  case spec =>
    obtain ⟨m, hm, hmr⟩ := hinv.spec
    rw [specRun_append, hm]
    have frame : fs'.loose op.target = s.cfg.fs.loose op.target → ∀ r, m r = fs'.loose r := by
      intro h r
      by_cases hr : r = op.target
      · subst hr; rw [h]; exact hmr _
      · rw [(hsum.frame r hr).1]; exact hmr r
    rcases hsum.event with ⟨hev, -, hl⟩ | ⟨o, hev, -, hl⟩
    · rw [hev]
      exact ⟨m, rfl, frame hl⟩
    · rw [hev]
      simp only [specRun, specStep]
      by_cases hex : o.isExc = true
      · simp only [hex, if_true] at hl ⊢
        exact ⟨m, rfl, frame hl⟩
      · simp only [hex, Bool.false_eq_true, if_false] at hl ⊢
        rw [hmr op.target, hl]
        simp only [if_true]
        refine ⟨_, rfl, fun r => ?_⟩
        by_cases hr : r = op.target
        · subst hr; simp
        · simp only [upd, hr, if_false]
          rw [(hsum.frame r hr).1]; exact hmr r

theorem inv_istep {env : Env} {vr : Variant} {m0 : Ref → Option Val} {ops : List Op} {s s' : IState} {a : Actor}
    (hinv : Inv m0 ops s) (hstep : istep env vr ops s a = some s') : Inv m0 ops s' := by
  obtain ⟨st, op, c, k, hst, hop, hprog, rfl⟩ := istep_some hstep
  obtain ⟨htodo, hdisc, hcons, _, houts⟩ := hinv.act a op st hop hst
  rw [hprog] at hdisc
  obtain ⟨hpre, hcont⟩ := disc_call.mp hdisc
  rw [htodo, houts c k hprog]
  exact hinv.step hop
    (stepSum_exec env op op.target a (s.phs a) s.cfg.fs c hpre hinv.packed hinv.nosym hcons (hinv.holdsLock a op hop))
    (hcont _ _ (compat_exec env op.target a (s.phs a) s.cfg.fs c hinv.packed hinv.nosym hcons))

theorem Inv.returned {m0 : Ref → Option Val} {ops : List Op} {s : IState} (hinv : Inv m0 ops s) {a : Actor} {op : Op}
    (hop : ops[a]? = some op) :
    s.cfg.outs a = [] ∨ ∃ e, e ∈ s.log ∧ e.actor = a ∧ e.op = op ∧ s.cfg.outs a = [e.out] := by
  have halt : a < s.cfg.actors.length := hinv.lenA ▸ (List.getElem?_eq_some_iff.mp hop).1
  have hst := List.getElem?_eq_getElem halt
  obtain ⟨_, hdisc, _, hret, hcall⟩ := hinv.act a op _ hop hst
  have hlog := hinv.logOut a op hop
  simp only [Config.outs, hst]
  cases hp : (s.cfg.actors[a]).prog with
  | call c k => exact Or.inl (hcall c k hp)
  | ret o c =>
    rw [hp] at hdisc
    rw [(disc_ret.mp hdisc).1] at hlog
    obtain ⟨e, he, hea, heo, hout⟩ := hlog
    exact Or.inr ⟨e, he, hea, heo, by rw [hret o c hp, hout]⟩

/-! ### runs -/

def IState.init (env : Env) (vr : Variant) (fs : FS) (ops : List Op) : IState :=
  { cfg := Config.init env vr fs (ops.map fun op => [op]), phs := fun _ => .outside, log := [] }

def irun (env : Env) (vr : Variant) (ops : List Op) (s : IState) : List Actor → IState
  | [] => s
  | a :: rest =>
    match istep env vr ops s a with
    | some s' => irun env vr ops s' rest
    | none => irun env vr ops s rest

/-- the ghost bookkeeping does not influence the run: `istep` projects to the model's `step` -/
theorem istep_cfg (env : Env) (vr : Variant) (ops : List Op) (s : IState) (a : Actor)
    (hlen : s.cfg.actors.length = ops.length) :
    (istep env vr ops s a).map (·.cfg) = (step env vr s.cfg a).map (·.1) := by
  unfold istep step
  cases hst : s.cfg.actors[a]? with
  | none => simp
  | some st =>
    have halt : a < ops.length := hlen ▸ (List.getElem?_eq_some_iff.mp hst).1
    rw [List.getElem?_eq_getElem halt]
    simp only
    generalize st.prog = p
    cases p <;> simp

theorem inv_init (env : Env) (vr : Variant) (loose0 : Ref → Option Val) (ops : List Op)
    (hsha : ∀ r, IsSha (loose0 r)) (hops : ∀ op, op ∈ ops → LooseOp op) :
    Inv loose0 ops (IState.init env vr (FS.init loose0 none) ops) := by
  refine ⟨?_, rfl, hsha, ?_, ?_, ?_, ?_, ⟨loose0, rfl, fun _ => rfl⟩⟩
  · simp [IState.init, Config.init]
  · exact fun _ _ => nofun
  · exact fun _ _ _ => nofun
  · intro a op st hop hst
    simp only [IState.init, Config.init, List.map_map, List.getElem?_map, hop, Option.map_some,
      Function.comp, Option.some.injEq] at hst
    subst hst
    have hl : LooseOp op := hops op (List.mem_of_getElem? hop)
    refine ⟨rfl, ?_, trivial, ?_, ?_⟩
    · exact disc_call.mpr ⟨trivial, fun _ _ _ => compile_disc env vr op hl Cache.empty nofun⟩
    · intro o c h
      simp [ActorSt.init, sStart] at h
    · intro c k _
      rfl
  · intro a op _
    simp [IState.init, Phase.outcome]

def evCount (a : Actor) (log : List LinEv) : Nat := log.countP (fun e => e.actor == a)

/-- a step logs at most one event, of the stepping actor, and only if that actor had none (`Inv.logOut`) -/
theorem evCount_step {env : Env} {vr : Variant} {m0 : Ref → Option Val} {ops : List Op} {s s' : IState} {a : Actor}
    (hinv : Inv m0 ops s) (hu : ∀ b, evCount b s.log ≤ 1) (hstep : istep env vr ops s a = some s') (b : Actor) :
    evCount b s'.log ≤ 1 := by
  obtain ⟨st, op, c, k, -, hop, -, rfl⟩ := istep_some hstep
  have hlog := hinv.logOut a op hop
  simp only [evCount, List.countP_append, linEvent]
  split
  · next h1 _ =>
    rw [h1] at hlog
    by_cases hba : a = b
    · subst hba
      have : s.log.countP (fun e => e.actor == a) = 0 :=
        List.countP_eq_zero.mpr fun e he => by simpa using hlog e he
      simp [this]
    · simpa [evCount, hba] using hu b
  · simpa [evCount] using hu b

theorem irun_inv (env : Env) (vr : Variant) (m0 : Ref → Option Val) (ops : List Op) (s : IState)
    (sched : List Actor) (hinv : Inv m0 ops s) (hu : ∀ b, evCount b s.log ≤ 1) :
    (irun env vr ops s sched).cfg = runSched env vr s.cfg sched ∧
    Inv m0 ops (irun env vr ops s sched) ∧ ∀ b, evCount b (irun env vr ops s sched).log ≤ 1 := by
  induction sched generalizing s with
  | nil => exact ⟨rfl, hinv, hu⟩
  | cons a rest ih =>
    have hc := istep_cfg env vr ops s a hinv.lenA
    simp only [irun, runSched]
    cases h : istep env vr ops s a with
    | none =>
      rw [h] at hc
      rw [Option.map_eq_none_iff.mp hc.symm]
      exact ih s hinv hu
    | some s' =>
      rw [h] at hc
      obtain ⟨p, hp, hpc⟩ := Option.map_eq_some_iff.mp hc.symm
      rw [hp]
      obtain ⟨h1, h2⟩ := ih s' (inv_istep hinv h) (evCount_step hinv hu h)
      exact ⟨h1.trans (congrArg (runSched env vr · rest) hpc.symm), h2⟩

/-! ## Part 2 — exhaustive exploration of small scenarios -/

def readOnly : Call → Bool
  | .start | .openR _ | .statR _ | .lstatR _ | .fsyncL _ | .statP | .openRP | .fsyncP | .scan => true
  | _ => false

theorem exec_readOnly (env : Env) (fs : FS) (a : Actor) {c : Call} (h : readOnly c = true) :
    (exec env fs a c).1 = fs := by
  cases c with
  | openX _ | replaceL _ _ | removeL _ | removeR _ | openXP | replaceP _ | removeLP => cases h
  | _ => rfl

/-- `q` holds of what actor 1 has returned after every schedule of two actors, of which actor 1 only looks: depth-first
over the steps, down to where actor 1 has finished; `false` if the fuel does not reach that far.  Actor 1 may only
make calls that leave the file system alone (`readOnly`, `exec_readOnly`), so that its branch can go on from the very
terms `fs` and `st0`: the next step of actor 0 is then the same term in both branches, and the kernel evaluates it once
instead of once for every point actor 1 has reached. -/
def allOuts (env : Env) (vr : Variant) (q : List Outcome → Prop) [DecidablePred q] :
    Nat → FS → ActorSt → ActorSt → Bool
  | n, fs, st0, st1 =>
    decide (q st1.outs) &&
      (st1.finished ||
        match n with
        | 0 => false
        | n + 1 =>
          (match st0.prog with
            | .ret _ _ => true
            | .call c k =>
              allOuts env vr q n (exec env fs 0 c).1 (settle env vr st0.todo (k (exec env fs 0 c).2) st0.outs) st1) &&
          (match st1.prog with
            | .ret _ _ => true
            | .call c k => readOnly c &&
                allOuts env vr q n fs st0 (settle env vr st1.todo (k (exec env fs 1 c).2) st1.outs)))

theorem allOuts_sound (env : Env) (vr : Variant) (q : List Outcome → Prop) [DecidablePred q]
    (n : Nat) (fs : FS) (st0 st1 : ActorSt) (h : allOuts env vr q n fs st0 st1 = true) (sched : List Actor) :
    q ((runSched env vr ⟨fs, [st0, st1]⟩ sched).outs 1) := by
  induction sched generalizing n fs st0 st1 with
  | nil =>
    unfold allOuts at h
    simp only [Bool.and_eq_true, decide_eq_true_eq] at h
    exact h.1
  | cons a rest ih =>
    have h' := h
    unfold allOuts at h'
    simp only [Bool.and_eq_true, Bool.or_eq_true, decide_eq_true_eq] at h'
    obtain ⟨hq, hrest⟩ := h'
    simp only [runSched, step]
    match a with
    | 0 =>
      cases hp : st0.prog with
      | ret o c =>
        simp only [List.getElem?_cons_zero, hp]
        exact ih n fs st0 st1 h
      | call c k =>
        simp only [List.getElem?_cons_zero, hp, List.set_cons_zero]
        refine ih (n - 1) _ _ st1 ?_
        rcases hrest with hfin | hrest
        · unfold allOuts
          simp [hq, hfin]
        · cases n with
          | zero => cases hrest
          | succ m =>
            simp only [hp, Bool.and_eq_true] at hrest
            exact hrest.1
    | 1 =>
      cases hp : st1.prog with
      | ret o c =>
        simp only [List.getElem?_cons_succ, List.getElem?_cons_zero, hp]
        exact ih n fs st0 st1 h
      | call c k =>
        -- actor 1 has not finished, so the check went on, with this call among the read-only ones
        rcases hrest with hfin | hrest
        · simp [ActorSt.finished, hp] at hfin
        · cases n with
          | zero => cases hrest
          | succ m =>
            simp only [hp, Bool.and_eq_true] at hrest
            simp only [List.getElem?_cons_succ, List.getElem?_cons_zero, hp, List.set_cons_succ, List.set_cons_zero,
              exec_readOnly env fs 1 hrest.2.1]
            exact ih m fs st0 _ hrest.2.2
    | a + 2 =>
      simp only [List.getElem?_cons_succ, List.getElem?_nil]
      exact ih n fs st0 st1 h

/-! ## Part 3 — the commit protocol over an atomic compare-and-swap register -/

open Proto

/-- the successful swaps form a first-parent chain from the current head down to the initial head -/
def ChainOK (init : Option Sha) : List (Sha × Option Sha) → Option Sha → Prop
  | [], reg => reg = init
  | (c, p) :: rest, reg => reg = some c ∧ ChainOK init rest p

instance instDecidableChainOK (init : Option Sha) :
    (l : List (Sha × Option Sha)) → (reg : Option Sha) → Decidable (ChainOK init l reg)
  | [], reg => by unfold ChainOK; infer_instance
  | (c, p) :: rest, reg => by
    unfold ChainOK
    have := instDecidableChainOK init rest p
    infer_instance

/-- an actor of the single-read protocol: never between two reads, about to swap on the value its parent was
taken from, and in the log once its swap has succeeded -/
def PActorOK (log : List (Sha × Option Sha)) (st : PActor) : Prop :=
  (∀ p, st.pc ≠ .read1 p) ∧ (∀ p o, st.pc = .ready p o → p = o) ∧ (∀ p, st.pc = .done true p → (st.cid, p) ∈ log)

/-- invariant of the single-read protocol (`pstep 1`) -/
def PInv (init : Option Sha) (s : PState) : Prop :=
  ChainOK init s.log s.reg ∧ ∀ st ∈ s.actors, PActorOK s.log st

theorem pinv_step {init : Option Sha} {s s' : PState} {a : Nat} {e : PEvent} (h : PInv init s)
    (hs : pstep 1 s a = some (s', e)) : PInv init s' := by
  obtain ⟨hchain, hact⟩ := h
  unfold pstep at hs
  split at hs
  · cases hs
  · next st hst =>
    obtain ⟨h1, h2, -⟩ := hact st (List.mem_of_getElem? hst)
    have put : ∀ pc' log', (∀ x, x ∈ s.log → x ∈ log') → PActorOK log' { st with pc := pc' } →
        ∀ x ∈ s.actors.set a { st with pc := pc' }, PActorOK log' x := by
      intro pc' log' hsub hnew x hx
      rcases List.mem_or_eq_of_mem_set hx with hx | rfl
      · obtain ⟨g1, g2, g3⟩ := hact x hx
        exact ⟨g1, g2, fun p hp => hsub _ (g3 p hp)⟩
      · exact hnew
    cases hpc : st.pc with
    | start =>
      simp only [hpc, Nat.le_refl, if_true, Option.some.injEq, Prod.mk.injEq] at hs
      obtain ⟨rfl, -⟩ := hs
      exact ⟨hchain, put _ _ (fun _ h => h) ⟨fun _ => nofun, fun _ _ h => by cases h; rfl, fun _ => nofun⟩⟩
    | read1 p => exact absurd hpc (h1 p)
    | done ok p => simp [hpc] at hs
    | ready parent old =>
      cases h2 parent old hpc
      simp only [hpc] at hs
      split at hs
      · next hreg =>
        obtain ⟨rfl, -⟩ := Prod.mk.inj (Option.some.inj hs)
        exact ⟨⟨rfl, hreg ▸ hchain⟩, put _ _ (fun _ h => List.mem_cons_of_mem _ h)
          ⟨fun _ => nofun, fun _ _ => nofun, fun _ h => by cases h; exact List.mem_cons_self⟩⟩
      · obtain ⟨rfl, -⟩ := Prod.mk.inj (Option.some.inj hs)
        exact ⟨hchain, put _ _ (fun _ h => h) ⟨fun _ => nofun, fun _ _ => nofun, fun _ => nofun⟩⟩

theorem pinv_prun {init : Option Sha} (sched : List Nat) {s : PState} (h : PInv init s) :
    PInv init (prun 1 s sched) := by
  induction sched generalizing s with
  | nil => exact h
  | cons a rest ih =>
    simp only [prun]
    cases hs : pstep 1 s a with
    | none => exact ih h
    | some p => exact ih (pinv_step h hs)

end Dulwich.RefsFS
