import DulwichModel.Lemmas.ObjectsText
namespace Dulwich.Objects
namespace P

abbrev Res := List (Bytes × Bytes) × Except Err (Option Bytes)

/-- Reading a folded value to its end.  `splitLinesAux`'s second argument is the part of the current line read so
far: a prefix `pre` (the field name and its space, or the continuation space) and `p`, the bytes of the value
already passed.  If the parser, given a complete line `pre ++ q`, goes on with `a ++ q` pending under `k`
(whatever else it does: `G`), then after the whole value `a ++ p ++ v ++ "\n"` is pending under `k`. -/
theorem parseLinesP_value (k rest : Bytes) : ∀ (v : Bytes) (G : Res → Res) (k0 : Option Bytes) (v0 pre a p : Bytes),
    (∀ q L, parseLinesP k0 v0 ((pre ++ q) :: L) = G (parseLinesP (some k) (a ++ q) L)) →
    parseLinesP k0 v0 (splitLinesAux (foldValue v ++ 10 :: rest) (pre ++ p))
      = G (parseLinesP (some k) (a ++ p ++ v ++ [10]) (splitLinesAux rest []))
  | [], G, k0, v0, pre, a, p, h => by
    simp only [foldValue, List.nil_append, splitLinesAux, if_true, List.append_assoc, h, List.append_nil]
  | b :: r, G, k0, v0, pre, a, p, h => by
    by_cases hb : b = 10
    · subst hb
      -- the line ends here; the next one is a continuation line, which the parser appends to what is pending
      have := parseLinesP_value k rest r id (some k) (a ++ p ++ [10]) [32] (a ++ p ++ [10]) [] fun _ _ => rfl
      simp only [List.append_nil, List.append_assoc, List.singleton_append, id] at this
      simp only [foldValue, if_true, cont_space, List.cons_append, splitLinesAux, if_false, List.nil_append,
        List.append_assoc, h, this]
    · have := parseLinesP_value k rest r G k0 v0 pre a (p ++ [b]) h
      simp only [List.append_assoc, List.singleton_append] at this
      simp only [foldValue, hb, if_false, List.cons_append, splitLinesAux, List.append_assoc, this]

/-- A line `k ++ " " ++ q` is split at its first space: the pending header is flushed and `q` is pending under `k`. -/
theorem parseLinesP_first (k : Bytes) (hk : WFKey k) (q : Bytes) (k0 : Option Bytes) (v0 : Bytes) (L : List Bytes) :
    parseLinesP k0 v0 ((k ++ [32] ++ q) :: L)
      = (flushHeader k0 v0 ++ (parseLinesP (some k) ([] ++ q) L).1, (parseLinesP (some k) ([] ++ q) L).2) := by
  obtain ⟨hne, h32, h10⟩ := hk
  cases k with
  | nil => exact absurd rfl hne
  | cons c k' =>
    have hc : ¬ (c :: k' ++ [32] ++ q).head? = some OGen.contParse :=
      fun e => h32 (Option.some.inj e ▸ List.mem_cons_self)
    have hl : ¬ (c :: k' ++ [32] ++ q) = [10] := fun e => h10 ((List.cons.inj e).1 ▸ List.mem_cons_self)
    rw [parseLinesP, if_neg hc, if_neg hl, List.append_assoc, List.singleton_append, splitFirst_append 32 _ _ h32]
    rfl

theorem parseLinesP_format (body : Bytes) : ∀ (hs : Headers), WFHeaders hs → ∀ (k0 : Option Bytes) (v0 : Bytes),
    parseLinesP k0 v0 (splitLinesAux (formatHeaders hs ++ 10 :: body) [])
      = (flushHeader k0 v0 ++ hs, .ok (some body))
  | [], _, k0, v0 => by
    simp only [formatHeaders, List.nil_append, splitLinesAux, if_true, parseLinesP, List.head?_cons,
      cont_space, Option.some.injEq, show ¬ (10 : UInt8) = 32 by decide, if_false,
      splitLinesAux_flatten, List.append_nil]
  | (k, v) :: hs, hwf, k0, v0 => by
    have hk : WFKey k := hwf (k, v) List.mem_cons_self
    have hno : (10 : UInt8) ∉ k ++ [32] := fun h =>
      (List.mem_append.mp h).elim hk.2.2 fun h => absurd (List.mem_singleton.mp h) (by decide)
    have e : formatHeaders ((k, v) :: hs) ++ 10 :: body
        = (k ++ [32]) ++ (foldValue v ++ 10 :: (formatHeaders hs ++ 10 :: body)) := by
      simp only [formatHeaders, formatHeader, List.append_assoc, List.cons_append, List.nil_append]
    have := parseLinesP_value k (formatHeaders hs ++ 10 :: body) v (fun r => (flushHeader k0 v0 ++ r.1, r.2)) k0 v0 (k ++ [32]) [] []
      (fun q L => parseLinesP_first k hk q k0 v0 L)
    rw [List.append_nil] at this
    rw [e, splitLinesAux_noLF _ hno, List.nil_append, this,
      parseLinesP_format body hs (fun x hx => hwf x (List.mem_cons_of_mem _ hx)) (some k) ([] ++ [] ++ v ++ [10])]
    simp only [flushHeader, List.nil_append, stripLastLF_snoc, List.singleton_append]
end P
end Dulwich.Objects
