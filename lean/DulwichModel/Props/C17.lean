/-
  C17 — checkout never writes outside the work tree or into .git.

  Property theorems, non-vacuity examples and negation witnesses, with the few lemmas that speak of the notions
  defined here (`SafeComponent`, `Confined`, `FoldAsciiOk`, `lexNorm`).  The other notions the statements use are
  defined next to their lemmas: `NtfsDotGitFamily`, `DotsSpaces` in Lemmas/PathSafe.lean; `Clean`, `SafeComps`, `LexMut`,
  `LinkFrame`, `NoDotGitLink`, `NoDotGitLinkBelow` (and `Ran`, `Step.Sat`, for the lemma `ran_confined`) in
  Lemmas/Checkout.lean.  Models: Model/PathSafe.lean (validators, as coded, POSIX host)
  and Model/Checkout.lean (abstract file system with symlinks; verify_leading_dirs, build_file_from_blob,
  build_index_from_tree; the delete, write and gitlink steps of update_working_tree; sparse checkout).  Every literal
  comes from Gen/PathSafe.lean, regenerated from /repo on every run.
-/
import DulwichModel.Lemmas.PathSafe
import DulwichModel.Lemmas.Checkout

namespace Dulwich.Props.C17
open Dulwich Dulwich.PathSafe Dulwich.Checkout Dulwich.Gen.PathSafe

/-! ## 1. The default validator (protectNTFS and protectHFS both off) -/

/-- Exactly what the default validator refuses: the empty name, `.`, `..` and `.git` in any ASCII case. -/
theorem default_rejects_iff (e : Bytes) :
    validateDefault e = false ↔ (e = [] ∨ e = [46] ∨ e = [46, 46] ∨ lower e = [46, 103, 105, 116]) := by
  have h1 : ∀ b : UInt8, lowerByte b = 46 → b = 46 := fun b h => lowerByte_punct h (by decide)
  simp only [validateDefault, invalidDotnames, Bool.not_eq_false', List.contains_eq_mem, List.mem_cons,
    List.not_mem_nil, or_false, decide_eq_true_eq]
  constructor
  · rintro (h | h | h | h)
    · exact Or.inr (Or.inr (Or.inr h))
    · right; left
      obtain ⟨b, r, rfl, hb, h⟩ := lower_eq_cons.mp h
      rw [lower_eq_nil.mp h, h1 b hb]
    · right; right; left
      obtain ⟨a, r, rfl, ha, h⟩ := lower_eq_cons.mp h
      obtain ⟨b, r, rfl, hb, h⟩ := lower_eq_cons.mp h
      rw [lower_eq_nil.mp h, h1 a ha, h1 b hb]
    · left; exact lower_eq_nil.mp h
  · rintro (rfl | rfl | rfl | h)
    · right; right; right; rfl
    · right; left; rfl
    · right; right; left; rfl
    · left; exact h

/-- As the code behaves with protectNTFS off: the NTFS spellings of `.git` are ACCEPTED by the default
validator (they are ordinary names on a POSIX file system). -/
theorem default_accepts_ntfs_spellings :
    validateDefault [46, 103, 105, 116, 32] = true ∧            -- ".git "
    validateDefault [46, 103, 105, 116, 46] = true ∧            -- ".git."
    validateDefault [103, 105, 116, 126, 49] = true ∧           -- "git~1"
    validateDefault [46, 103, 105, 116, 58, 58, 36, 73] = true  -- ".git::$I"
    := by decide +kernel

/-! ## 2. The NTFS validator: the whole `.git` family is refused, for all strings -/

theorem family_prefix_no_backslash {pre : Bytes} (h : IsDotGit pre ∨ IsGitTilde1 pre) : ∀ x ∈ pre, x ≠ 92 := by
  rintro x hx rfl
  -- a backslash in `pre` would show up, unchanged, in `lower pre`
  have hm : lowerByte 92 ∈ lower pre := List.mem_map_of_mem hx
  rcases h with h | h
  · rw [isDotGit_iff.mp h] at hm; revert hm; decide
  · rw [h.lower_eq] at hm; revert hm; decide

/-- A backslash-separated segment in the family (`a\.git`, `x\GIT~1 .\y`, …) makes the whole name refused. -/
theorem ntfs_dotgit_segment_complete (e seg : Bytes) (hs : seg ∈ splitOn ntfsSegSep e)
    (h : NtfsDotGitFamily seg) : validateNtfs e = false := by
  simp only [validateNtfs]
  rw [if_pos (List.any_eq_true.mpr ⟨seg, hs, isNtfsDotgit_family h⟩)]

/-- **`ntfs_dotgit_complete`.**  Every byte string of the form (`.git` | `git~1`) in any ASCII case, followed by
any mix of dots and spaces, optionally followed by `:` and ANYTHING (backslashes included), is refused by
`validate_path_element_ntfs` — the universally quantified form of the CVE regression tests
(`.git`, `.GIT`, `.git.`, `.git `, `.git . .`, `git~1`, `GIT~1 `, `.git::$INDEX_ALLOCATION`, `.git:x\y`, …). -/
theorem ntfs_dotgit_complete (e : Bytes) (h : NtfsDotGitFamily e) : validateNtfs e = false := by
  -- the first backslash-segment of a member of the family is a member: `pre ++ ds` holds no backslash
  have hbody : ∀ {pre ds : Bytes}, (IsDotGit pre ∨ IsGitTilde1 pre) → DotsSpaces ds → ∀ x ∈ pre ++ ds, x ≠ 92 :=
    fun hp hd x hx => (List.mem_append.mp hx).elim (family_prefix_no_backslash hp x) fun h1 => by
      rcases hd x h1 with rfl | rfl <;> decide
  cases h with
  | plain pre ds hp hd =>
    refine ntfs_dotgit_segment_complete _ (pre ++ ds) ?_ (.plain pre ds hp hd)
    have := splitOn_append 92 (pre ++ ds) [] (hbody hp hd)
    simp only [List.append_nil, splitOn, List.headD_cons] at this
    rw [show ntfsSegSep = 92 from rfl, this]
    exact List.mem_cons_self
  | ads pre ds rest hp hd =>
    refine ntfs_dotgit_segment_complete _ (pre ++ ds ++ 58 :: (splitOn 92 rest).headD []) ?_ (.ads pre ds _ hp hd)
    have := splitOn_append 92 (pre ++ ds) (58 :: rest) (hbody hp hd)
    simp only [splitOn, show (58 : UInt8) ≠ 92 by decide, if_false, List.headD_cons] at this
    rw [show ntfsSegSep = 92 from rfl, this]
    exact List.mem_cons_self

/-- Names made only of dots and spaces (`""`, `.`, `..`, `. `, `.. .`, …) are refused: NTFS strips them to `""`. -/
theorem ntfs_rejects_dots_spaces (e : Bytes) (h : DotsSpaces e) : validateNtfs e = false := by
  simp only [validateNtfs]
  split
  · rfl
  · have hs : ∀ b ∈ e, ntfsStrip.contains b = true := fun b hb => by rcases h b hb with rfl | rfl <;> decide
    simp [normalizeNtfs, rstrip_all ntfsStrip e hs, lower, invalidDotnames]

/-- Non-vacuity: a member of the family, and names just outside it that are accepted. -/
example : NtfsDotGitFamily [46, 71, 105, 84, 32, 46, 58, 58, 36, 92, 120] ∧              -- ".GiT .::$\x"
    validateNtfs [46, 71, 105, 84, 32, 46, 58, 58, 36, 92, 120] = false ∧
    validateNtfs [46, 103, 105, 116, 120] = true ∧                                       -- ".gitx"
    validateNtfs [103, 105, 116, 126, 50] = true := by                                   -- "git~2"
  refine ⟨?_, by decide +kernel, by decide +kernel, by decide +kernel⟩
  exact .ads [46, 71, 105, 84] [32, 46] [58, 36, 92, 120]
    (.inl ⟨71, 105, 84, rfl, by decide, by decide, by decide⟩)
    (by intro b hb; simp only [List.mem_cons, List.not_mem_nil, or_false] at hb; rcases hb with rfl | rfl <;> simp)

/-! ## 3. The HFS validator (NFD + lower-casing is the parameter `fold`) -/

section hfs
variable (fold : List Nat → List Nat)

/-- The only assumption made about Unicode normalisation + case folding: on ASCII it is ASCII lower-casing
(checked against the real `unicodedata` in stream `fold.ascii`). -/
def FoldAsciiOk : Prop := ∀ cs : List Nat, (∀ c ∈ cs, c < 128) → fold cs = foldAscii cs

/-- Malformed UTF-8 (overlong forms, surrogates, stray continuation bytes, …) is refused. -/
theorem hfs_rejects_undecodable (e : Bytes) (h : utf8Decode e = none) : validateHfs fold e = false := by
  rw [validateHfs, normalizeHfs, h]
  rfl

/-- On ASCII names the HFS validator is the default validator plus the refusal of `git~1` (any case). -/
theorem hfs_ascii (hf : FoldAsciiOk fold) (e : Bytes) (h : ∀ b ∈ e, b.toNat < 128) :
    validateHfs fold e = (validateDefault e && !(lower e == hfsShort)) := by
  have hcs : ∀ c ∈ e.map UInt8.toNat, c < 128 := by
    intro c hc
    obtain ⟨b, hb, rfl⟩ := List.mem_map.mp hc
    exact h b hb
  have hfa : ∀ c ∈ foldAscii (e.map UInt8.toNat), c < 128 := by
    intro c hc
    simp only [foldAscii, List.map_map, List.mem_map, Function.comp] at hc
    obtain ⟨b, hb, rfl⟩ := hc
    have := h b hb
    split <;> omega
  have hn : normalizeHfs fold e = some (lower e) := by
    simp only [normalizeHfs, utf8Decode_ascii e h, Option.map_some, hfsFilter_ascii _ hcs, hf _ hcs,
      utf8Encode_ascii _ hfa]
    congr 1
    simp only [foldAscii, lower, List.map_map]
    apply List.map_congr_left
    intro b _
    simp only [Function.comp, lowerByte]
    split
    · rfl
    · exact UInt8.ofNat_toNat
  simp [validateHfs, hn, validateDefault]

/-- What the HFS validator accepts the default validator accepts: the names the default validator refuses are ASCII,
and on ASCII the HFS validator refuses them too. -/
theorem hfs_default (hf : FoldAsciiOk fold) {e : Bytes} (h : validateHfs fold e = true) : validateDefault e = true := by
  cases hd : validateDefault e with
  | true => rfl
  | false =>
    have hmem : lower e ∈ invalidDotnames := by simpa [validateDefault] using hd
    have hascii : ∀ b ∈ e, b.toNat < 128 :=
      ascii_of_lower ((by decide : ∀ n ∈ invalidDotnames, ∀ x ∈ n, x.toNat < 128) _ hmem)
    rw [hfs_ascii fold hf e hascii, hd] at h
    cases h

/-- Non-vacuity of `FoldAsciiOk`, and a concrete ignorable-code-point spelling that is refused:
`.g<U+200C>it` (the byte string `2e 67 e2 80 8c 69 74`). -/
example : FoldAsciiOk foldAscii ∧ validateHfs foldAscii [0x2e, 0x67, 0xe2, 0x80, 0x8c, 0x69, 0x74] = false ∧
    validateHfs foldAscii [0x2e, 0x67, 0x69, 0x74, 0x78] = true := ⟨fun _ _ => rfl, by decide +kernel, by decide +kernel⟩

end hfs

/-! ## 4. `validate_path`: what an accepted path looks like (all byte strings, all four validators) -/

/-- What every component of an accepted path satisfies: non-empty, not `.`/`..`, not `.git` in any ASCII
case; with protectNTFS on, additionally outside the whole NTFS family and not made of dots/spaces only. -/
def SafeComponent (v : Validator) (c : Bytes) : Prop :=
  c ≠ [] ∧ c ≠ [46] ∧ c ≠ [46, 46] ∧ lower c ≠ [46, 103, 105, 116] ∧ pathSep ∉ c ∧
  ((v = .ntfs ∨ v = .both) → ¬ NtfsDotGitFamily c ∧ ¬ DotsSpaces c ∧
    ∀ seg ∈ splitOn ntfsSegSep c, ¬ NtfsDotGitFamily seg)

theorem default_safe {c : Bytes} (h : validateDefault c = true) :
    c ≠ [] ∧ c ≠ [46] ∧ c ≠ [46, 46] ∧ lower c ≠ [46, 103, 105, 116] := by
  have hn : ¬ (c = [] ∨ c = [46] ∨ c = [46, 46] ∨ lower c = [46, 103, 105, 116]) := fun hh => by
    rw [(default_rejects_iff c).mpr hh] at h; cases h
  exact ⟨fun a => hn (.inl a), fun a => hn (.inr (.inl a)), fun a => hn (.inr (.inr (.inl a))),
    fun a => hn (.inr (.inr (.inr a)))⟩

theorem ntfs_safe {c : Bytes} (h : validateNtfs c = true) :
    c ≠ [] ∧ c ≠ [46] ∧ c ≠ [46, 46] ∧ lower c ≠ [46, 103, 105, 116] ∧ ¬ NtfsDotGitFamily c ∧ ¬ DotsSpaces c ∧
      ∀ seg ∈ splitOn ntfsSegSep c, ¬ NtfsDotGitFamily seg := by
  have hfam : ¬ NtfsDotGitFamily c := fun hf => by rw [ntfs_dotgit_complete c hf] at h; cases h
  have hds : ¬ DotsSpaces c := fun hd => by rw [ntfs_rejects_dots_spaces c hd] at h; cases h
  refine ⟨?_, ?_, ?_, ?_, hfam, hds, ?_⟩
  · rintro rfl; exact hds (by intro b hb; cases hb)
  · rintro rfl; exact hds (by intro b hb; simp at hb; exact Or.inl hb)
  · rintro rfl; exact hds (by intro b hb; simp at hb; exact Or.inl hb)
  · intro hl
    exact hfam (List.append_nil c ▸ .plain c [] (.inl (isDotGit_iff.mpr hl)) nofun)
  · intro seg hs hf
    rw [ntfs_dotgit_segment_complete c seg hs hf] at h; cases h

/-- **`validate_path_lexical`.**  For ALL byte strings `p` and each of the four validators
`get_path_element_validator` can return: if `validate_path` accepts `p` then every `/`-separated component of `p`
is non-empty, is not `.` or `..`, is not `.git` in any ASCII case, contains no `/`, and — with protectNTFS on —
lies outside the whole NTFS `.git` family (also segment-wise between backslashes). -/
theorem validate_path_lexical (fold : List Nat → List Nat) (hf : FoldAsciiOk fold) (v : Validator) (p : Bytes)
    (h : validatePath (v.run fold) p = true) : ∀ c ∈ splitOn pathSep p, SafeComponent v c := by
  intro c hc
  have hv : v.run fold c = true := (List.all_eq_true.mp h) c hc
  have hsep : pathSep ∉ c := splitOn_no_sep pathSep p c hc
  cases v with
  | default =>
    obtain ⟨h1, h2, h3, h4⟩ := default_safe hv
    exact ⟨h1, h2, h3, h4, hsep, by rintro (h | h) <;> cases h⟩
  | ntfs =>
    obtain ⟨h1, h2, h3, h4, h5⟩ := ntfs_safe hv
    exact ⟨h1, h2, h3, h4, hsep, fun _ => h5⟩
  | both =>
    simp only [Validator.run, Bool.and_eq_true] at hv
    obtain ⟨h1, h2, h3, h4, h5⟩ := ntfs_safe hv.1
    exact ⟨h1, h2, h3, h4, hsep, fun _ => h5⟩
  | hfs =>
    obtain ⟨h1, h2, h3, h4⟩ := default_safe (hfs_default fold hf hv)
    exact ⟨h1, h2, h3, h4, hsep, by rintro (h | h) <;> cases h⟩

/-- POSIX lexical normalisation of a component list on top of a directory stack (what the kernel would do if
there were no symlinks). -/
def lexNorm : List Bytes → List Bytes → List Bytes
  | st, [] => st
  | st, c :: cs =>
    if c = [] ∨ c = [46] then lexNorm st cs
    else if c = [46, 46] then lexNorm st.dropLast cs
    else lexNorm (st ++ [c]) cs

theorem lexNorm_safe : ∀ (cs st : List Bytes), (∀ c ∈ cs, c ≠ [] ∧ c ≠ [46] ∧ c ≠ [46, 46]) →
    lexNorm st cs = st ++ cs := by
  intro cs
  induction cs with
  | nil => intro st _; simp [lexNorm]
  | cons c cs ih =>
    intro st h
    obtain ⟨h1, h2, h3⟩ := h c List.mem_cons_self
    simp only [lexNorm, h1, h2, h3, or_self, if_false]
    rw [ih _ (fun x hx => h x (List.mem_cons_of_mem _ hx))]
    simp

/-- **Lexical confinement** (the corollary of `validate_path_lexical`): an accepted path is relative (does not
start with `/`, so `os.path.join(root, p)` keeps the root), its lexical normalisation under any root directory
stack is the root followed by exactly its components (no `..` ever pops the root), there is at least one
component, and the first component is not `.git` in any ASCII case. -/
theorem lexical_confined (fold : List Nat → List Nat) (hf : FoldAsciiOk fold) (v : Validator) (p : Bytes)
    (h : validatePath (v.run fold) p = true) (root : List Bytes) :
    p.head? ≠ some pathSep ∧
    lexNorm root (splitOn pathSep p) = root ++ splitOn pathSep p ∧
    ∃ c rest, splitOn pathSep p = c :: rest ∧ lower c ≠ [46, 103, 105, 116] := by
  have hs := validate_path_lexical fold hf v p h
  refine ⟨?_, ?_, ?_⟩
  · intro hp
    match p, hp with
    | b :: r, hp =>
      simp only [List.head?_cons, Option.some.injEq] at hp
      subst hp
      have : ([] : Bytes) ∈ splitOn pathSep (pathSep :: r) := by simp [splitOn]
      exact (hs [] this).1 rfl
  · exact lexNorm_safe _ root (fun c hc => ⟨(hs c hc).1, (hs c hc).2.1, (hs c hc).2.2.1⟩)
  · have hne := splitOn_ne_nil pathSep p
    match hsp : splitOn pathSep p with
    | [] => exact absurd hsp hne
    | c :: rest => exact ⟨c, rest, rfl, (hs c (by rw [hsp]; exact List.mem_cons_self)).2.2.2.1⟩

/-- Non-vacuity: an accepted three-component path, and refused ones (`..` inside, `.GIT` first, absolute). -/
example : validatePath (Validator.ntfs.run foldAscii) [97, 47, 46, 103, 105, 116, 120, 47, 98] = true ∧   -- "a/.gitx/b"
    validatePath (Validator.ntfs.run foldAscii) [97, 47, 46, 46, 47, 98] = false ∧                          -- "a/../b"
    validatePath (Validator.default.run foldAscii) [46, 71, 73, 84, 47, 120] = false ∧                      -- ".GIT/x"
    validatePath (Validator.default.run foldAscii) [47, 120] = false := by decide +kernel                            -- "/x"

/-! ## 5. `cleanup_mode`: no set-id, sticky or group/world-write bit reaches `chmod` -/

/-- **`mode_canonical`.**  Whatever 32-bit-or-larger mode a tree entry carries (set-uid, set-gid, sticky,
world-writable, garbage type bits), `cleanup_mode` returns one of five values; for anything that is not a
symlink / directory / gitlink it is `0100644` or `0100755`. -/
theorem mode_canonical (m : Nat) :
    cleanupMode m = 0o120000 ∨ cleanupMode m = 0o040000 ∨ cleanupMode m = 0o160000 ∨
    cleanupMode m = 0o100644 ∨ cleanupMode m = 0o100755 := by
  rw [cleanupMode]
  by_cases h1 : sIfmt m = 0o120000
  · exact .inl (if_pos h1)
  · rw [if_neg h1]
    by_cases h2 : sIfmt m = 0o040000
    · exact .inr (.inl (if_pos h2))
    · rw [if_neg h2]
      by_cases h3 : sIfmt m = 0o160000
      · exact .inr (.inr (.inl (if_pos h3)))
      · rw [if_neg h3]
        by_cases h4 : m &&& cleanupExecTest ≠ 0
        · exact .inr (.inr (.inr (.inr (if_pos h4))))
        · exact .inr (.inr (.inr (.inl (if_neg h4))))

/-- `build_file_from_blob` chmods regular files with `cleanup_mode(mode)` only (translator-checked): the
permission bits are 0644 or 0755 — never set-uid/set-gid/sticky, never group- or world-writable. -/
theorem mode_no_special_bits (m : Nat) : cleanupMode m &&& 0o7022 = 0 := by
  rcases mode_canonical m with h | h | h | h | h <;> rw [h] <;> rfl

example : cleanupMode 0o104777 = 0o100755 ∧ cleanupMode 0o102666 = 0o100644 ∧ cleanupMode 0o100002 = 0o100644 := by
  decide +kernel

/-! ## 6. Validator selection -/

/-- With an empty configuration on this (non-darwin) platform `get_path_element_validator` returns the NTFS
validator (`core.protectNTFS` defaults to true — read from the source by the translator), so the whole NTFS
family is refused by default. -/
theorem default_config_refuses_ntfs_family (fold : List Nat → List Nat) (e : Bytes) (h : NtfsDotGitFamily e) :
    (select protectNtfsDefault false).run fold e = false := by
  simp only [protectNtfsDefault, select, Validator.run]
  exact ntfs_dotgit_complete e h

/-! ## 7. `build_index_from_tree` on a file system with symlinks: cache soundness and confinement -/

section checkout
variable (fold : List Nat → List Nat)

/-- a physical path strictly below the work-tree root whose first component under the root is not `.git` (in any
ASCII case), nor empty, `.` or `..` -/
def Confined (root : PPath) (p : PPath) : Prop :=
  ∃ c rest, p = root ++ c :: rest ∧ lower c ≠ [46, 103, 105, 116] ∧ c ≠ [] ∧ c ≠ [46] ∧ c ≠ [46, 46]

theorem validated_clean (hf : FoldAsciiOk fold) (v : Validator) (p : Bytes)
    (h : validatePath (v.run fold) p = true) : Clean (splitOn pathSep p) :=
  fun c hc => let hs := validate_path_lexical fold hf v p h c hc; ⟨hs.1, hs.2.1, hs.2.2.1⟩

theorem validated_safe (hf : FoldAsciiOk fold) (v : Validator) (p : Bytes)
    (h : validatePath (v.run fold) p = true) : SafeComps (splitOn pathSep p) :=
  ⟨splitOn_ne_nil _ _, validated_clean fold hf v p h,
   fun c hc => (validate_path_lexical fold hf v p h c hc).2.2.2.1⟩

theorem lexMut_confined {root : PPath} {m : Mut} (h : LexMut root m) : Confined root m.target := by
  obtain ⟨comps, ⟨hne, hcl, hs⟩, hcase⟩ := h
  cases comps with
  | nil => exact absurd rfl hne
  | cons c rest =>
    have hc := hcl c List.mem_cons_self
    rcases hcase with ⟨i, hi1, hi2, ht⟩ | hw
    · refine ⟨c, rest.take (i - 1), ?_, hs c List.mem_cons_self, hc.1, hc.2.1, hc.2.2⟩
      rw [ht]
      cases i with
      | zero => omega
      | succ i => simp
    · refine ⟨c, rest ++ [dotGit], ?_, hs c List.mem_cons_self, hc.1, hc.2.1, hc.2.2⟩
      rw [hw]; simp [Mut.target]

theorem ran_confined {root : PPath} {a : St} {r : Step} (h : r.Sat (Ran (LexMut root) a)) :
    ∀ m ∈ r.1.log, m ∈ a.log ∨ Confined root m.target :=
  fun m hm => (Ran.log h m hm).imp_right lexMut_confined

/-- **`safe_prefix_sound`.**  For EVERY starting file system (any leftovers of earlier checkouts: symlinks
anywhere, files where directories are expected, …), every work-tree root, every list of entries (any names, any
order, duplicates allowed — more than a tree can contain) and each of the four validators: whenever the loop of
`build_index_from_tree` has completed its iterations over `entries` without raising, every prefix of the
`safe_prefix` cache is a real directory in the CURRENT file system — not merely when it was `lstat`ed.  Applied
to each initial segment of a tree's entry list this says the cache is sound at the start of every iteration, which
is what lets `verify_leading_dirs` skip the cached components. -/
theorem safe_prefix_sound (hf : FoldAsciiOk fold) (v : Validator) (root : PPath) (entries : List Entry) (fs : FS)
    (h : (buildIndexFromTree (v.run fold) root entries fs).2 = none) :
    let st := (buildIndexFromTree (v.run fold) root entries fs).1
    ∀ i, 1 ≤ i → i ≤ st.safe.length → st.fs (root ++ st.safe.take i) = some .dir := by
  exact (buildIndexFromTree_lex (root := root) (v.run fold) (validated_clean fold hf v) entries fs).2 _ (Prod.ext rfl h)

/-- what each logged call is, in terms of the tree: a lexical prefix of the path of an accepted entry -/
theorem confined_lexical (hf : FoldAsciiOk fold) (v : Validator) (root : PPath) (entries : List Entry) (fs : FS) :
    ∀ m ∈ (buildIndexFromTree (v.run fold) root entries fs).1.log, ∃ e ∈ entries,
      validatePath (v.run fold) e.path = true ∧ ∃ i, 1 ≤ i ∧ i ≤ (splitOn pathSep e.path).length ∧
        m.target = root ++ (splitOn pathSep e.path).take i := by
  exact (buildIndexFromTree_lex (root := root) (v.run fold) (validated_clean fold hf v) entries fs).1

/-- **`confined`** (for `build_index_from_tree`: clone, `reset_index`, the write loop shared with stash pop).
For EVERY starting file system — symlinks to absolute, parent or sibling targets anywhere, left by any sequence of
earlier checkouts —, every root, every entry list (any bytes as names, any modes, any order) and each of the four
validators: every mutating system call the run makes (mkdir, unlink, symlink, open-for-write, chmod) acts, AFTER
the kernel's symlink resolution, on a physical path strictly below the work-tree root and outside `root/.git`;
moreover (`confined_lexical`) that path is a lexical prefix of a validated entry path.  No hypothesis on the file system
is needed. -/
theorem confined (hf : FoldAsciiOk fold) (v : Validator) (root : PPath) (entries : List Entry) (fs : FS) :
    ∀ m ∈ (buildIndexFromTree (v.run fold) root entries fs).1.log, Confined root m.target := by
  intro m hm
  obtain ⟨e, _, hval, h⟩ := confined_lexical fold hf v root entries fs m hm
  exact lexMut_confined ⟨_, validated_safe fold hf v e.path hval, .inl h⟩

/-- **`mode_canonical` on the run**: whatever mode bits the entries carry (set-uid, set-gid, sticky, world-writable,
anything above 16 bits), every `chmod` the run performs carries permission bits without set-id/sticky bits and
without group/world write permission (for blob entries: exactly 0644 or 0755, by `mode_canonical`).  Holds for any
validator and any file system. -/
theorem chmod_canonical (v : Bytes → Bool) (root : PPath) (entries : List Entry) (fs : FS) (p : PPath) (md : Nat)
    (h : Mut.chmod p md ∈ (buildIndexFromTree v root entries fs).1.log) : md &&& 0o7022 = 0 := by
  obtain ⟨mode, rfl⟩ := ((runEntries_any v root entries { fs := fs, log := [], safe := [] }).log _ h).elim (nomatch ·) id
  rcases mode_canonical mode with h | h | h | h | h <;> rw [h] <;> rfl

end checkout

/-- Non-vacuity / regression shapes on a concrete file system (`w` is the work tree, `o` lies outside):
`w/d -> ../o` left by an earlier checkout.  (1) a tree with `d/x` is refused before anything is written
(CVE-2021-21300 shape); (2) a tree with the regular file `d` REPLACES the link (unlink, then write, then chmod 0755)
instead of writing through it; (3) `a/b` creates `w/a` and writes `w/a/b`, the second entry `a/c` reuses the cache. -/
def exFs : FS := fun q =>
  if q = [[119]] then some .dir                           -- w
  else if q = [[111]] then some .dir                      -- o
  else if q = [[111], [120]] then some (.file [1] 0o644)  -- o/x
  else if q = [[119], [100]] then some (.link [46, 46, 47, 111])  -- w/d -> ../o
  else none

example : (buildIndexFromTree validateNtfs [[119]] [⟨[100, 47, 120], 0o100644, [7]⟩] exFs).2 = some .invalidPath ∧
    (buildIndexFromTree validateNtfs [[119]] [⟨[100, 47, 120], 0o100644, [7]⟩] exFs).1.log = [] := by decide +kernel

example : (buildIndexFromTree validateNtfs [[119]] [⟨[100], 0o104755, [7]⟩] exFs).1.log =
    [.unlink [[119], [100]], .write [[119], [100]], .chmod [[119], [100]] 0o755] ∧
    (buildIndexFromTree validateNtfs [[119]] [⟨[100], 0o104755, [7]⟩] exFs).1.fs [[111], [120]] = some (.file [1] 0o644) := by
  decide +kernel

example : (buildIndexFromTree validateNtfs [[119]] [⟨[97, 47, 98], 0o100644, [7]⟩, ⟨[97, 47, 99], 0o120000, [46, 46]⟩] exFs).1.log =
    [.mkdir [[119], [97]], .write [[119], [97], [98]], .chmod [[119], [97], [98]] 0o644,
     .symlink [[119], [97], [99]] [46, 46]] ∧
    (buildIndexFromTree validateNtfs [[119]] [⟨[97, 47, 98], 0o100644, [7]⟩, ⟨[97, 47, 99], 0o120000, [46, 46]⟩] exFs).1.safe = [[97]] := by
  decide +kernel

/-! ## 8. The delete phase and the pre-checks of `update_working_tree` (after the repair of
F-C17-delete-through-symlink: old paths are lstat'ed through `_lstat_tracked_path`) -/

/-- **`delete_confined`** — the full statement, for the delete step AS CODED NOW (`Gen.deleteGuarded`, read from the
source by the translator), for EVERY file system, root, validator and list of old paths: every unlink the delete
phase performs acts, after symlink resolution, on a path strictly below the root and outside `root/.git`.
(If the guard is removed from the source the translator emits `deleteGuarded := false` and this proof no longer
compiles.) -/
theorem delete_confined (fold : List Nat → List Nat) (hf : FoldAsciiOk fold) (v : Validator) (root : PPath) :
    ∀ (paths : List Bytes) (st : St),
      ∀ m ∈ (deletePhase (v.run fold) root paths st).1.log, m ∈ st.log ∨ Confined root m.target := by
  have hg : deleteGuarded = true := rfl
  intro paths st
  rw [deletePhase, hg]
  exact ran_confined (deletePhaseG_lexMut (validated_safe fold hf v) paths st)

/-- **The pre-checks are lexical too**: whenever the guarded lstat used by the uncommitted-modification check and
the file-becoming-directory check reports an object for a clean path, every leading component is a real directory
and the object is the one at the lexical path inside the work tree — for every file system. -/
theorem precheck_lexical (root : PPath) (path : Bytes) (fs : FS) (n : Node) (hcl : Clean (splitOn pathSep path))
    (h : precheckOld root path fs = .ok n) :
    fs (root ++ splitOn pathSep path) = some n ∧
    ∀ i, 1 ≤ i → i < (splitOn pathSep path).length → fs (root ++ (splitOn pathSep path).take i) = some .dir := by
  obtain ⟨lead, last, hsplit⟩ := splitOn_concat pathSep path
  unfold precheckOld at h
  rw [hsplit] at h hcl ⊢
  obtain ⟨hd, hP⟩ := lstatTracked_lexical (root := root) hcl h
  refine ⟨hP, fun i h1 h2 => ?_⟩
  have h2' : i ≤ lead.length := by simp at h2; omega
  rw [List.take_append_of_le_length h2']
  exact hd i h1 h2'

theorem not_confined_outside {r o : Name} (rest : PPath) (h : o ≠ r) : ¬ Confined [r] (o :: rest) := by
  rintro ⟨c, rest', he, _⟩
  exact h (List.cons.inj he).1

/-- **Regression witness for the OLD code** (bare `os.lstat(full_path)` in the delete phase; replayed on the real
code every run: corpus/C17/f18-*.json).  Work tree `w` with `w/d -> ../o` on disk and the old tree listing `d/x`: the
unguarded delete unlinks `o/x`, OUTSIDE the work tree; the guarded one (the code now) does nothing. -/
theorem delete_phase_old_counterexample :
    (deletePhaseG false validateNtfs [[119]] [[100, 47, 120]] { fs := exFs, log := [], safe := [] }).1.log
      = [.unlink [[111], [120]]] ∧ ¬ Confined [[119]] [[111], [120]] ∧
    (deletePhaseG true validateNtfs [[119]] [[100, 47, 120]] { fs := exFs, log := [], safe := [] }).1.log = [] := by
  exact ⟨by decide +kernel, not_confined_outside _ (by decide), by decide +kernel⟩

/-- what was true of the old code: confined only under the hypothesis that every leading component is a real
directory — exactly what the guard now establishes -/
theorem delete_old_confined_partial (fold : List Nat → List Nat) (hf : FoldAsciiOk fold) (v : Validator) (root : PPath)
    (path : Bytes) (st : St)
    (hskel : ∀ i, 1 ≤ i → i < (splitOn pathSep path).length → st.fs (root ++ (splitOn pathSep path).take i) = some .dir) :
    ∀ m ∈ (deleteOldG false (v.run fold) root path st).1.log, m ∈ st.log ∨ Confined root m.target := by
  exact ran_confined (deleteOldG_lexMut (validated_safe fold hf v) false path st fun _ => hskel)

/-! ## 9. The whole `update_working_tree`: deletions, then writes with a FRESH verified-directory cache per path -/

/-- **`uwt_write_confined`** — the add/modify phase as coded now (`Gen.uwtFreshCache`: every
`verify_leading_dirs` call of `update_working_tree` gets a new `[]`), for EVERY state it can start from (whatever
the delete phase and earlier writes did: directories removed, symlinks created, any stale `safe` list in the
state), every emptiness oracle, root, validator and entry list: every mkdir / rmdir / unlink / symlink /
open-for-write / chmod acts, after symlink resolution, strictly below the root and outside `root/.git`.
(If the source starts sharing one cache across paths the translator emits `uwtFreshCache := false` and this proof no
longer compiles; `shared_cache_counterexample` shows why.) -/
theorem uwt_write_confined (fold : List Nat → List Nat) (hf : FoldAsciiOk fold) (v : Validator) (root : PPath)
    (isEmpty : FS → PPath → Bool) :
    ∀ (adds : List Entry) (st : St),
      ∀ m ∈ (uwtWritePhaseG uwtFreshCache isEmpty (v.run fold) root adds st).1.log, m ∈ st.log ∨ Confined root m.target := by
  have hg : uwtFreshCache = true := rfl
  rw [hg]
  intro adds st
  exact ran_confined (uwtWritePhaseG_lexMut (validated_safe fold hf v) isEmpty adds st)

/-! ### gitlink entries and the whole update -/

/-- the invariant of the write phase, gitlink entries included: every logged call is lexical (`LexMut`) and every
symlink on disk is an original one or one the log accounts for (`LinkFrame`).  (Stated with the whole-disk `NoDotGitLink`;
the proof reads `h0.below root` only.) -/
theorem uwt_phase_all_inv (fold : List Nat → List Nat) (hf : FoldAsciiOk fold) (v : Validator) (root : PPath)
    (isEmpty : FS → PPath → Bool) (fs0 : FS) (h0 : NoDotGitLink fs0) :
    ∀ (adds : List Entry) (st : St), (∀ m ∈ st.log, LexMut root m) → LinkFrame fs0 st →
      (∀ m ∈ (uwtPhaseAllG uwtFreshCache gitlinkDirTestFollows isEmpty (v.run fold) root adds st).1.log, LexMut root m) ∧
      LinkFrame fs0 (uwtPhaseAllG uwtFreshCache gitlinkDirTestFollows isEmpty (v.run fold) root adds st).1 := by
  have hg : uwtFreshCache = true := rfl
  have hfol : gitlinkDirTestFollows = false := rfl
  rw [hg, hfol]
  intro adds st hlog hfr
  have h := uwtPhaseAllG_lexMut (validated_safe fold hf v) isEmpty (h0.below root) adds st hlog hfr
  exact ⟨fun m hm => (Ran.log h m hm).elim (hlog m) id, Ran.closed (linkFrame_closed fs0) h hfr⟩

/-- **`uwt_confined_below_root`**: `update_working_tree` as coded (guarded deletions of non-directories first, then
blob, symlink AND gitlink writes — fresh cache per path, directory test of the gitlink branch on the LSTAT result), from
every file system that holds no symlink NAMED `.git` BELOW THE WORK-TREE ROOT (the one thing the placeholder write
`open(path/.git, "wb")` would follow; the proof shows no modelled call ever creates one, `gitlink_needs_no_dotgit_link`
shows the hypothesis is needed): every mutating call acts, after symlink resolution, strictly below the root and outside
`root/.git`. -/
theorem uwt_confined_below_root (fold : List Nat → List Nat) (hf : FoldAsciiOk fold) (v : Validator) (root : PPath)
    (isEmpty : FS → PPath → Bool) (deletes : List Bytes) (adds : List Entry) (fs : FS) (h0 : NoDotGitLinkBelow root fs) :
    ∀ m ∈ (updateWorkingTree isEmpty (v.run fold) root deletes adds { fs := fs, log := [], safe := [] }).1.log,
      Confined root m.target := by
  have hgd : deleteGuarded = true := rfl
  have hfc : uwtFreshCache = true := rfl
  have hfol : gitlinkDirTestFollows = false := rfl
  intro m hm
  rw [updateWorkingTree, deletePhase, hgd, hfc, hfol] at hm
  have hdel := deletePhaseG_lexMut (root := root) (validated_safe fold hf v) deletes { fs := fs, log := [], safe := [] }
  -- after the deletions the log is lexical and every symlink is one of `fs`: what the write phase starts from
  have key := Ran.andThen hdel fun s hs => uwtPhaseAllG_lexMut (validated_safe fold hf v) isEmpty h0 adds s
    (fun m hm => ((hdel.of_eq hs).log m hm).elim nofun id)
    ((hdel.of_eq hs).closed (linkFrame_closed fs) fun q t hq => .inl ⟨t, hq⟩)
  exact (ran_confined key m hm).elim nofun id

/-- **`uwt_confined`**: the instance of `uwt_confined_below_root` with the hypothesis as first written — no symlink
named `.git` anywhere on the disk (`NoDotGitLink`). -/
theorem uwt_confined (fold : List Nat → List Nat) (hf : FoldAsciiOk fold) (v : Validator) (root : PPath)
    (isEmpty : FS → PPath → Bool) (deletes : List Bytes) (adds : List Entry) (fs : FS) (h0 : NoDotGitLink fs) :
    ∀ m ∈ (updateWorkingTree isEmpty (v.run fold) root deletes adds { fs := fs, log := [], safe := [] }).1.log,
      Confined root m.target :=
  uwt_confined_below_root fold hf v root isEmpty deletes adds fs (h0.below root)

def exFs3 : FS := fun q =>
  if q = [[119]] then some .dir
  else if q = [[111]] then some .dir
  else if q = [[119], [115]] then some (.link [46, 46, 47, 111])   -- w/s -> ../o
  else none

/-- **Why the gitlink directory test must look at the LSTAT result** (regression witness for a test that follows
symlinks).  `w/s -> ../o` left on disk (HEAD/index out of step), the new tree has the gitlink `s`: with
`os.path.isdir` the link is kept and the placeholder is written to `o/.git`, OUTSIDE the work tree; the code as it
stands removes the link, creates the directory `w/s` and writes `w/s/.git`. -/
theorem gitlink_follow_counterexample :
    (uwtGitlinkG true [[119]] [[115]] [1] { fs := exFs3, log := [], safe := [] }).1.log = [.write [[111], dotGit]] ∧
    ¬ Confined [[119]] [[111], dotGit] ∧
    (uwtGitlinkG false [[119]] [[115]] [1] { fs := exFs3, log := [], safe := [] }).1.log =
      [.unlink [[119], [115]], .mkdir [[119], [115]], .write [[119], [115], dotGit]] := by
  exact ⟨by decide +kernel, not_confined_outside _ (by decide), by decide +kernel⟩

def exFs4 : FS := fun q =>
  if q = [[119]] then some .dir
  else if q = [[111]] then some .dir
  else if q = [[119], [115]] then some .dir
  else if q = [[119], [115], dotGit] then some (.link [46, 46, 47, 46, 46, 47, 111, 47, 120])   -- w/s/.git -> ../../o/x
  else none

/-- the hypothesis of `uwt_confined` is needed: with a dangling symlink NAMED `.git` already inside the gitlink's
directory — below the root, so `NoDotGitLinkBelow` fails too — the placeholder write follows it (no tree can put such a
link there: `.git` components are refused) -/
theorem gitlink_needs_no_dotgit_link :
    (uwtGitlinkG false [[119]] [[115]] [1] { fs := exFs4, log := [], safe := [] }).1.log = [.write [[111], [120]]] ∧
    ¬ NoDotGitLink exFs4 := by
  refine ⟨by decide +kernel, fun h => h [[119], [115]] [46, 46, 47, 46, 46, 47, 111, 47, 120] (by decide +kernel)⟩

def exFs2 : FS := fun q =>
  if q = [[119]] then some .dir
  else if q = [[111]] then some .dir
  else if q = [[119], [48]] then some (.link [46, 46, 47, 111])   -- w/0 -> ../o
  else none

/-- **Why the cache must be fresh** (regression witness for the shared-cache variant).  After a delete phase that
verified `w/0` as a directory and removed it, and a write that created `w/0 -> ../o`, a cache still naming `0` makes
the write of `0/y` skip the lstat of `0` and go THROUGH the link: it creates `o/y` outside the work tree.  With a
fresh cache the same entry is refused. -/
theorem shared_cache_counterexample :
    (uwtWriteG false (fun _ _ => true) validateNtfs [[119]] ⟨[48, 47, 121], 0o100644, [7]⟩
        { fs := exFs2, log := [], safe := [[48]] }).1.log = [.write [[111], [121]], .chmod [[111], [121]] 0o644] ∧
    ¬ Confined [[119]] [[111], [121]] ∧
    (uwtWriteG true (fun _ _ => true) validateNtfs [[119]] ⟨[48, 47, 121], 0o100644, [7]⟩
        { fs := exFs2, log := [], safe := [[48]] }).2 = some .invalidPath := by
  exact ⟨by decide +kernel, not_confined_outside _ (by decide), by decide +kernel⟩

/-! ## 10. Sparse checkout (`apply_included_paths`, after the repair of the two sparse findings) -/

/-- **`sparse_confined`** — step 2 of `apply_included_paths` as coded now (`Gen.sparseGuarded`), for EVERY file system,
root, validator, index contents (any names, modes, skip-worktree bits): every mkdir / unlink / symlink /
open-for-write / chmod acts, after symlink resolution, strictly below the root and outside `root/.git`. -/
theorem sparse_confined (fold : List Nat → List Nat) (hf : FoldAsciiOk fold) (v : Validator) (root : PPath) :
    ∀ (entries : List (Entry × Bool)) (st : St),
      ∀ m ∈ (sparseApply (v.run fold) root entries st).1.log, m ∈ st.log ∨ Confined root m.target := by
  have hg : sparseGuarded = true := rfl
  intro entries st
  rw [sparseApply, hg]
  exact ran_confined (sparseApplyG_lexMut (validated_safe fold hf v) entries st)

/-- **Regression witnesses for the OLD sparse code** (replayed on the real code every run: corpus/C17/sparse-*.json).
(1) the index path `../o/p` (copied in by a mixed reset) is materialised OUTSIDE the work tree; (2) with
`w/d -> ../o` on disk the excluded index path `d/x` is removed from `o`; (3) the included path `d/p` is created in
`o`.  The code as it stands refuses (1), does nothing for (2) and refuses (3). -/
theorem sparse_old_counterexample :
    (sparseEntryG false validateNtfs [[119]] ⟨[46, 46, 47, 111, 47, 112], 0o100644, [7]⟩ false
        { fs := exFs, log := [], safe := [] }).1.log = [.write [[111], [112]]] ∧
    (sparseEntryG false validateNtfs [[119]] ⟨[100, 47, 120], 0o100644, [7]⟩ true
        { fs := exFs, log := [], safe := [] }).1.log = [.unlink [[111], [120]]] ∧
    (sparseEntryG false validateNtfs [[119]] ⟨[100, 47, 112], 0o100644, [7]⟩ false
        { fs := exFs, log := [], safe := [] }).1.log = [.write [[111], [112]]] ∧
    ¬ Confined [[119]] [[111], [112]] ∧
    (sparseEntryG true validateNtfs [[119]] ⟨[46, 46, 47, 111, 47, 112], 0o100644, [7]⟩ false
        { fs := exFs, log := [], safe := [] }) = ({ fs := exFs, log := [], safe := [] }, some .invalidPath) ∧
    (sparseEntryG true validateNtfs [[119]] ⟨[100, 47, 120], 0o100644, [7]⟩ true
        { fs := exFs, log := [], safe := [] }).1.log = [] ∧
    (sparseEntryG true validateNtfs [[119]] ⟨[100, 47, 112], 0o100644, [7]⟩ false
        { fs := exFs, log := [], safe := [] }).2 = some .invalidPath := by
  refine ⟨by decide +kernel, by decide +kernel, by decide +kernel, not_confined_outside _ (by decide), ?_,
    by decide +kernel, by decide +kernel⟩
  rw [sparseEntryG, if_pos rfl, if_neg (by decide), if_pos (by decide +kernel)]

/-! ## 11. `update_working_tree` over changes of EVERY kind -/

/-- every kind the write loop writes reaches `validate_path` first (both sets are read from the source) -/
theorem written_kinds_validated : ∀ k : ChangeKind, writtenKind k = true → validatedKind k = true := by
  intro k; cases k <;> decide

/-- **`uwt_confined_kinds`**: `update_working_tree` on ANY list of tree changes — add, modify, copy, rename, delete
and UNCHANGED (what `reset --hard` and friends pass with `want_unchanged=True`), any old paths, any new entries —
from every file system without a symlink named `.git` (stated with the whole-disk `NoDotGitLink`; through `uwt_confined` only
`NoDotGitLinkBelow root` is read): every mutating call is confined.  It rests on
`written_kinds_validated`: the set of kinds for which the write loop reaches `validate_path` ⊇ the set of kinds it
writes, both extracted from the source; validating only a subset (e.g. in a pre-pass that skips UNCHANGED) makes
that lemma, hence this theorem, fail to compile. -/
theorem uwt_confined_kinds (fold : List Nat → List Nat) (hf : FoldAsciiOk fold) (v : Validator) (root : PPath)
    (isEmpty : FS → PPath → Bool) (changes : List Change) (fs : FS) (h0 : NoDotGitLink fs) :
    ∀ m ∈ (updateWorkingTreeK isEmpty (v.run fold) root changes { fs := fs, log := [], safe := [] }).1.log,
      Confined root m.target := by
  intro m hm
  rw [updateWorkingTreeK, uwtWriteChanges_eq written_kinds_validated] at hm
  exact uwt_confined fold hf v root isEmpty _ _ fs h0 m hm

/-- Regression witness for a write loop that does not validate UNCHANGED entries: the index already lists
`../o/p` (copied in by a mixed reset) and the target tree is the same, so the change arrives as unchanged and the
file is absent: with the trivial validator the entry is written to `o/p`, outside; validated, it is refused. -/
theorem unchanged_unvalidated_counterexample :
    (uwtEntryG true false (fun _ _ => true) (fun _ => true) [[119]] ⟨[46, 46, 47, 111, 47, 112], 0o100644, [7]⟩
        { fs := exFs, log := [], safe := [] }).1.log = [.write [[111], [112]], .chmod [[111], [112]] 0o644] ∧
    (uwtEntryG true false (fun _ _ => true) validateNtfs [[119]] ⟨[46, 46, 47, 111, 47, 112], 0o100644, [7]⟩
        { fs := exFs, log := [], safe := [] }).2 = some .invalidPath := by
  refine ⟨by decide +kernel, by decide +kernel⟩

end Dulwich.Props.C17
