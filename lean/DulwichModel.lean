-- GENERATED by ./check: root of the `DulwichModel` library (every model, lemma and property file present).
import DulwichModel.Lemmas.Accel
import DulwichModel.Lemmas.Assoc
import DulwichModel.Lemmas.BigEndian
import DulwichModel.Lemmas.Checkout
import DulwichModel.Lemmas.Chunks
import DulwichModel.Lemmas.CommonPrefix
import DulwichModel.Lemmas.Config
import DulwichModel.Lemmas.Crash
import DulwichModel.Lemmas.Delta
import DulwichModel.Lemmas.ExceptEq
import DulwichModel.Lemmas.GC
import DulwichModel.Lemmas.Index
import DulwichModel.Lemmas.Ingest
import DulwichModel.Lemmas.InsertSort
import DulwichModel.Lemmas.LCA
import DulwichModel.Lemmas.LCAFlags
import DulwichModel.Lemmas.LCALoop
import DulwichModel.Lemmas.LexCmp
import DulwichModel.Lemmas.Lock
import DulwichModel.Lemmas.Missing
import DulwichModel.Lemmas.Negotiate
import DulwichModel.Lemmas.ObjectsCache
import DulwichModel.Lemmas.ObjectsCommit
import DulwichModel.Lemmas.ObjectsText
import DulwichModel.Lemmas.ObjectsTree
import DulwichModel.Lemmas.Pack
import DulwichModel.Lemmas.PackIndex
import DulwichModel.Lemmas.PackedRefs
import DulwichModel.Lemmas.PathSafe
import DulwichModel.Lemmas.PktLine
import DulwichModel.Lemmas.Reader
import DulwichModel.Lemmas.ReceivePack
import DulwichModel.Lemmas.RefFormat
import DulwichModel.Lemmas.Refs
import DulwichModel.Lemmas.RefsFS
import DulwichModel.Lemmas.RsPy
import DulwichModel.Lemmas.Shallow
import DulwichModel.Lemmas.SortedFilter
import DulwichModel.Lemmas.Strip
import DulwichModel.Lemmas.TreeOps
import DulwichModel.Lemmas.TreePatch
import DulwichModel.Lemmas.Walk
import DulwichModel.Lemmas.WorkTree
import DulwichModel.Lemmas.Worklist
import DulwichModel.Model.Accel
import DulwichModel.Model.Basic
import DulwichModel.Model.Checkout
import DulwichModel.Model.CommitGraphFmt
import DulwichModel.Model.Config
import DulwichModel.Model.Crash
import DulwichModel.Model.Delta
import DulwichModel.Model.Ewah
import DulwichModel.Model.GC
import DulwichModel.Model.Graph
import DulwichModel.Model.Index
import DulwichModel.Model.Ingest
import DulwichModel.Model.LCA
import DulwichModel.Model.Lock
import DulwichModel.Model.LockFS
import DulwichModel.Model.Midx
import DulwichModel.Model.Missing
import DulwichModel.Model.Negotiate
import DulwichModel.Model.Objects
import DulwichModel.Model.ObjectsText
import DulwichModel.Model.ObjectsTree
import DulwichModel.Model.Pack
import DulwichModel.Model.PackIndex
import DulwichModel.Model.PackedRefs
import DulwichModel.Model.PathSafe
import DulwichModel.Model.PktLine
import DulwichModel.Model.Reader
import DulwichModel.Model.ReceivePack
import DulwichModel.Model.RefFormat
import DulwichModel.Model.Refs
import DulwichModel.Model.RefsFS
import DulwichModel.Model.RefsOld
import DulwichModel.Model.RsPy
import DulwichModel.Model.RsPyDiff
import DulwichModel.Model.RsPyPack
import DulwichModel.Model.Shallow
import DulwichModel.Model.TreeOps
import DulwichModel.Model.Walk
import DulwichModel.Model.WorkTree
import DulwichModel.Props.C01
import DulwichModel.Props.C02
import DulwichModel.Props.C03
import DulwichModel.Props.C04
import DulwichModel.Props.C05
import DulwichModel.Props.C06
import DulwichModel.Props.C07
import DulwichModel.Props.C08
import DulwichModel.Props.C09
import DulwichModel.Props.C10
import DulwichModel.Props.C11
import DulwichModel.Props.C12
import DulwichModel.Props.C13
import DulwichModel.Props.C14
import DulwichModel.Props.C15
import DulwichModel.Props.C16
import DulwichModel.Props.C17
import DulwichModel.Props.C18
import DulwichModel.Props.C19
import DulwichModel.Props.C20
