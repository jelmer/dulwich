/-
  Lemmas for C04 (Model/Ingest.lean): what `parseEntry` can answer and what the object loop inherits from it; the
  guarantees of the chain walk (`Walked`) through `_follow_chain`, `_walk_all_chains` and `resolveAll`; one step of the
  random-access walk; what an ingest may answer (`Outcome`); the two ways a read through the packed-refs cache goes.
  `InflateShrinks` and `StoreOK` are hypotheses of theorems of Props/C04.lean and live in its namespace; everything else
  is in `Dulwich.Ingest`, beside the functions it speaks of.
-/
import DulwichModel.Model.Ingest
import DulwichModel.Lemmas.Worklist

namespace Dulwich.Props.C04
open Dulwich Dulwich.Ingest

/-- What is assumed of zlib where a theorem needs it: the unread rest it reports is not longer than what it was given. -/
def InflateShrinks (inflate : Inflate) : Prop :=
  ∀ i o r, inflate i = some (o, r) → r.length ≤ i.length

def StoreOK (H : Hash) (s : Store) : Prop := ∀ o ∈ s, HashOK H o

end Dulwich.Props.C04

namespace Dulwich.Ingest
open Dulwich Dulwich.Props.C04


/-! ## framing -/

theorem takeMsb_shrinks : ∀ {inp raw rest : Bytes}, takeMsb inp = some (raw, rest) → rest.length < inp.length
  | b :: bs, raw, rest, h => by
    rw [takeMsb] at h
    split at h
    · cases h; exact Nat.lt_succ_self _
    · split at h
      · cases h
      · cases h; exact Nat.lt_succ_of_lt (takeMsb_shrinks ‹_›)

/-- The specification of `inflateSized` as a predicate on its answer (`inflateSized_spec`); `EntryOK`, `EntriesOK` and
`ResolvedOK` are the same for `parseEntry`, `parseEntries` and `resolveOne`. -/
def SizedOK (inflate : Inflate) (size : Nat) (inp : Bytes) : Except PErr (Bytes × Bytes) → Prop
  | .error e => e = .zlib
  | .ok (out, rest) => inflate inp = some (out, rest) ∧ out.length = size ∧ rest ≠ []

theorem inflateSized_spec {inflate : Inflate} {size : Nat} {inp : Bytes} {r : Except PErr (Bytes × Bytes)}
    (h : inflateSized inflate size inp = r) : SizedOK inflate size inp r := by
  subst h
  have hs : Gen.Ingest.zlibSizeChecked = true := rfl
  simp only [inflateSized, hs, Bool.true_and]
  split
  · rfl
  · split
    · rfl
    · rename_i hi
      split
      · rfl
      · rename_i hsz
        split
        · rfl
        · rename_i hne
          exact ⟨hi, by simpa using hsz, by simpa using hne⟩

def EntryOK (inflate : Inflate) (inp : Bytes) : Except PErr (Entry × Bytes) → Prop
  | .error e => e ≠ .fuel
  | .ok (e, rest) => (InflateShrinks inflate → rest.length < inp.length) ∧ ∀ k d, e.kind = .ofs k d → 1 ≤ k

theorem parseEntry_spec {inflate : Inflate} {off : Nat} {inp : Bytes} {r : Except PErr (Entry × Bytes)}
    (h : parseEntry inflate off inp = r) : EntryOK inflate inp r := by
  subst h
  have hg : Gen.Ingest.ofsZeroRejected = true := rfl
  -- the common end of the three kinds of entry: one sized zlib stream read from some `r` strictly shorter than the input
  have tail : ∀ {size r} (K : Bytes → Kind), r.length < inp.length → (∀ k d d', K d = .ofs k d' → 1 ≤ k) →
      EntryOK inflate inp (match inflateSized inflate size r with
        | .error e => .error e
        | .ok (d, r3) => .ok (⟨off, K d⟩, r3)) := by
    intro size r K hr hK
    split
    · rename_i he
      cases inflateSized_spec he
      nofun
    · rename_i he
      exact ⟨fun hz => Nat.lt_of_le_of_lt (hz _ _ _ (inflateSized_spec he).1) hr, fun k d' => hK k _ d'⟩
  simp only [parseEntry, hg, Bool.true_and]
  split
  · nofun
  · rename_i raw r1 h1
    have l1 := takeMsb_shrinks h1
    split
    · split
      · nofun
      · rename_i raw2 r2 h2
        have l2 := takeMsb_shrinks h2
        split
        · nofun
        · rename_i hk
          exact tail _ (by omega) fun k d d' h => by cases h; exact Nat.pos_of_ne_zero (by simpa using hk)
    · split
      · split
        · nofun
        · exact tail _ (by rw [List.length_drop]; omega) nofun
      · exact tail _ l1 nofun

/-- Refused: with a shrinking zlib and `fuel > inp.length` never "out of fuel" — the number of iterations is bounded by the
length of the remaining input, NOT by the (attacker-chosen, up to 2^32-1) object count. -/
def EntriesOK (inflate : Inflate) (fuel count : Nat) (inp : Bytes) : Except PErr (List Entry × Bytes) → Prop
  | .ok (es, rest) => es.length = count ∧ (∀ e ∈ es, ∀ k d, e.kind = .ofs k d → 1 ≤ k) ∧
      (InflateShrinks inflate → count + rest.length ≤ inp.length)
  | .error e => InflateShrinks inflate → inp.length < fuel → e ≠ .fuel

theorem parseEntries_spec {inflate : Inflate} {total : Nat} : ∀ {fuel count : Nat} {inp : Bytes}
    {r : Except PErr (List Entry × Bytes)}, parseEntries inflate total fuel count inp = r → EntriesOK inflate fuel count inp r
  | _, 0, _, _, h => by
    rw [parseEntries] at h
    subst h
    exact ⟨rfl, nofun, fun _ => by omega⟩
  | 0, _ + 1, _, _, h => by rw [parseEntries] at h; subst h; exact fun _ h => nomatch h
  | fuel + 1, count + 1, inp, _, h => by
    rw [parseEntries] at h
    subst h
    split
    · rename_i h
      exact fun _ _ => parseEntry_spec h
    · rename_i e rest h
      have he := parseEntry_spec h
      split
      · rename_i hrec
        exact fun hz hf => parseEntries_spec hrec hz (by have := he.1 hz; omega)
      · rename_i hrec
        obtain ⟨hl, hall, hlen⟩ := parseEntries_spec hrec
        refine ⟨by rw [List.length_cons, hl], ?_, fun hz => ?_⟩
        · intro e' he'
          rcases List.mem_cons.mp he' with rfl | hm
          · exact he.2
          · exact hall e' hm
        · have := he.1 hz
          have := hlen hz
          omega

theorem toErr_eq_other {e : PErr} (h : e.toErr = .other) : e = .fuel := by
  cases e <;> first | rfl | cases h

/-- How `Props.C04.parse_total` passes the nested tests of `parseHeader` and `checkTrailer`. -/
theorem ite_ne {α : Type} {c : Prop} [Decidable c] {x y z : α} (hx : x ≠ z) (hy : y ≠ z) :
    (if c then x else y) ≠ z := by
  split <;> assumption

/-! ## forward chaining -/

/-- A work item as `resolveAll` builds them. -/
def WorkOK (w : Work0) : Prop := isFull w.1 = w.2.isNone

theorem isFull_of_isOfsFor {off : Nat} {e : Entry} (h : isOfsFor off e = true) : isFull e = false := by
  obtain ⟨_, k⟩ := e
  cases k <;> first | rfl | cases h

theorem isFull_of_isRefFor {name : Bytes} {e : Entry} (h : isRefFor name e = true) : isFull e = false := by
  obtain ⟨_, k⟩ := e
  cases k <;> first | rfl | cases h

def ResolvedOK (H : Hash) : Except Err Obj → Prop
  | .ok o => HashOK H o
  | .error e => e ≠ .other

theorem mkObj_hashOK {H : Hash} {ty : Nat} {data : Bytes} {o : Obj} (h : mkObj H ty data = some o) : HashOK H o := by
  simp only [mkObj, Option.map_eq_some_iff] at h
  obtain ⟨hd, hh, rfl⟩ := h
  exact ⟨hd, hh, rfl⟩

theorem resolveOne_spec {H : Hash} {valid : Obj → Bool} {w : Work0} {r : Except Err Obj} (hw : WorkOK w)
    (h : resolveOne H valid w = r) : ResolvedOK H r := by
  subst h
  -- `mk` and `app` restate the local closures of `resolveOne` literally: they are matched syntactically
  have mk : ∀ ty data, ResolvedOK H (match mkObj H ty data with
      | none => .error .format
      | some o => if valid o then .ok o else .error .format) := by
    intro ty data
    split
    · nofun
    · split
      · exact mkObj_hashOK ‹_›
      · nofun
  have app : ∀ ty base d, ResolvedOK H (match Delta.applyDelta base d with
      | .error _ => .error .delta
      | .ok data =>
        if Gen.Ingest.emptyGuard && ty != Gen.Ingest.blobType && data.isEmpty then .error .delta
        else match mkObj H ty data with
          | none => .error .format
          | some o => if valid o then .ok o else .error .format) := by
    intro ty base d
    split
    · nofun
    · split
      · nofun
      · exact mk _ _
  obtain ⟨⟨off, k⟩, b⟩ := w
  cases k with
  | full _ _ => cases b with
    | none => exact mk _ _
    | some _ => cases hw
  | ofs _ _ => cases b with
    | none => cases hw
    | some _ => exact app _ _ _
  | ref _ _ => cases b with
    | none => cases hw
    | some _ => exact app _ _ _

def YieldOK (rej : Bool) (H : Hash) (p : Obj × List Bytes) : Prop :=
  HashOK H p.1 ∧ (rej = true → p.1.name ∉ p.2)

/-- What a walk guarantees of its result `r` when it starts from `acc` with `total` entries in all — yielded, still
to do, pending.  It did not stop with `.other` (out of fuel; `.other` is also the `assert` of `_resolve_object`, which
`WorkOK` excludes). -/
structure Walked (rej : Bool) (H : Hash) (total : Nat) (acc : List (Obj × List Bytes))
    (r : List (Obj × List Bytes) × List Entry × Option Err) : Prop where
  inFuel : r.2.2 ≠ some .other
  yields : (∀ p ∈ acc, YieldOK rej H p) → ∀ p ∈ r.1, YieldOK rej H p
  le_total : r.1.length + r.2.1.length ≤ total
  eq_total : r.2.2 = none → r.1.length + r.2.1.length = total

namespace Walked

variable {rej : Bool} {H : Hash} {total total' : Nat} {pending pending' : List Entry} {acc acc' : List (Obj × List Bytes)}
  {r : List (Obj × List Bytes) × List Entry × Option Err}

theorem refl : Walked rej H (acc.length + pending.length) acc (acc, pending, none) :=
  ⟨nofun, fun h => h, Nat.le_refl _, fun _ => rfl⟩

theorem stop {e : Err} (he : e ≠ .other) (ht : acc.length + pending.length ≤ total) :
    Walked rej H total acc (acc, pending, some e) :=
  ⟨fun h => he (Option.some.inj h), fun h => h, ht, nofun⟩

theorem trans (h₁ : Walked rej H total' acc (acc', pending', none)) (h₂ : Walked rej H total acc' r) :
    Walked rej H total acc r :=
  ⟨h₂.inFuel, fun h => h₂.yields (h₁.yields h), h₂.le_total, h₂.eq_total⟩

/-- One item is resolved to `y`; the entries in all stay as many (`ht`, left to the caller, who knows the lists). -/
theorem step {y : Obj × List Bytes} (hy : YieldOK rej H y) (ht : total' = total) (h : Walked rej H total' (acc ++ [y]) r) :
    Walked rej H total acc r := by
  subst ht
  refine ⟨h.inFuel, fun ha => h.yields fun p hp => ?_, h.le_total, h.eq_total⟩
  rcases List.mem_append.mp hp with hp | hp
  · exact ha p hp
  · cases List.mem_singleton.mp hp; exact hy

/-- The frame of `runJobs`: `total'` is what the first job counts, which may fall short of the `total` of the whole run (`ht`) by
the jobs still to come. -/
theorem jobs {valid : Obj → Bool} {ext : Bytes → Option (Nat × Bytes)} {fuel : Nat} {j : Job} {js : List Job}
    (h₁ : Walked rej H total' acc (runJob rej H valid ext fuel j pending acc)) (ht : total' ≤ total)
    (h₂ : ∀ acc' pending', Walked rej H total' acc (acc', pending', none) →
      Walked rej H total acc' (runJobs rej H valid ext fuel js pending' acc')) :
    Walked rej H total acc (runJobs rej H valid ext fuel (j :: js) pending acc) := by
  rw [runJobs]
  generalize runJob rej H valid ext fuel j pending acc = r at h₁
  obtain ⟨acc', pending', _ | e⟩ := r
  · exact h₁.trans (h₂ acc' pending' h₁)
  · exact ⟨h₁.inFuel, h₁.yields, Nat.le_trans h₁.le_total ht, nofun⟩

end Walked

theorem length_filter_disjoint {α : Type} (p q : α → Bool) (h : ∀ x, p x = true → q x = false) (l : List α) :
    (l.filter p).length + (l.filter q).length + (l.filter fun x => !(p x || q x)).length = l.length := by
  induction l with
  | nil => rfl
  | cons a l ih =>
    cases hp : p a
    · cases hq : q a <;> simp only [List.filter_cons, hp, hq, Bool.or_self, Bool.or_true, Bool.not_false, Bool.not_true,
        if_true, Bool.false_eq_true, if_false, List.length_cons] <;> omega
    · simp only [List.filter_cons, hp, h a hp, Bool.or_false, Bool.not_true, if_true, Bool.false_eq_true, if_false,
        List.length_cons]
      omega

section
variable (rej : Bool) (H : Hash) (valid : Obj → Bool) (ext : Bytes → Option (Nat × Bytes))

theorem chainLoop_walked :
    ∀ (fuel : Nat) (todo : List Work) (pending : List Entry) (acc : List (Obj × List Bytes)),
    todo.length + pending.length ≤ fuel → (∀ w ∈ todo, WorkOK w.1) →
    Walked rej H (acc.length + todo.length + pending.length) acc (chainLoop rej H valid fuel todo pending acc)
  | _, [], _, _, _, _ => by rw [chainLoop]; exact .refl
  | 0, _ :: _, _, _, hf, _ => by simp at hf
  | fuel + 1, w :: t, pending, acc, hf, hw => by
    rw [chainLoop]
    split
    · rename_i he
      exact .stop (resolveOne_spec (hw w List.mem_cons_self) he) (Nat.add_le_add_right (Nat.le_add_right _ _) _)
    · rename_i o ho
      have hr : HashOK H o := resolveOne_spec (hw w List.mem_cons_self) ho
      split
      · exact .stop nofun (Nat.add_le_add_right (Nat.le_add_right _ _) _)
      · rename_i hnr
        have hpart := length_filter_disjoint (isOfsFor w.1.1.off) (isRefFor o.name)
          (fun e h => by cases hk : e.kind <;> simp [isOfsFor, isRefFor, hk] at h ⊢) pending
        refine .step (y := (o, w.2)) ⟨hr, fun hrej => by simpa [hrej] using hnr⟩ ?_
          (chainLoop_walked fuel _ _ _ ?_ ?_)
        · simp only [List.length_append, List.length_reverse, List.length_map, List.length_cons, List.length_nil] at hpart ⊢
          omega
        · simp only [List.length_append, List.length_reverse, List.length_map, List.length_cons] at hf hpart ⊢
          omega
        · intro w' hw'
          simp only [List.mem_append, List.mem_reverse, List.mem_map, List.mem_filter] at hw'
          rcases hw' with ⟨e, ⟨_, he⟩ | ⟨_, he⟩, rfl⟩ | h
          · exact isFull_of_isOfsFor he
          · exact isFull_of_isRefFor he
          · exact hw w' (List.mem_cons_of_mem _ h)

/-- The first phase of `_walk_all_chains` over `n` entries in all — yielded, the full objects still to come, pending — with
`n` as the fuel of every chain, as `resolveAll` calls it: no step changes that count, so it is all the fuel a chain needs. -/
theorem runJobs_full_walked (n : Nat) : ∀ (fulls pending : List Entry) (acc : List (Obj × List Bytes)),
    (∀ e ∈ fulls, isFull e = true) → acc.length + fulls.length + pending.length = n →
    Walked rej H n acc (runJobs rej H valid ext n (fulls.map Job.full) pending acc)
  | [], _, _, _, ht => ht ▸ .refl
  | e :: es, pending, acc, hfull, ht => by
    rw [List.length_cons] at ht
    refine .jobs
      (chainLoop_walked rej H valid n [((e, none), [])] pending acc (by rw [List.length_singleton]; omega) fun w hw => ?_)
      (by rw [List.length_singleton]; omega)
      fun acc' pending' h => runJobs_full_walked n es pending' acc' (fun e' he' => hfull e' (List.mem_cons_of_mem _ he')) ?_
    · cases List.mem_singleton.mp hw
      exact hfull e List.mem_cons_self
    · have := h.eq_total rfl
      rw [List.length_singleton] at this
      simp only at this
      omega

/-- The second phase: the external bases, each unblocking the REF deltas that wait for it. -/
theorem runJobs_ext_walked (n : Nat) : ∀ (names : List Bytes) (pending : List Entry) (acc : List (Obj × List Bytes)),
    acc.length + pending.length = n → Walked rej H n acc (runJobs rej H valid ext n (names.map Job.ext) pending acc)
  | [], _, _, ht => ht ▸ .refl
  | name :: ns, pending, acc, ht => by
    refine .jobs (total' := n) ?_ (Nat.le_refl _)
      fun acc' pending' h => runJobs_ext_walked n ns pending' acc' (h.eq_total rfl)
    simp only [runJob]
    split
    · exact ht ▸ .refl
    · rename_i base _
      have hsplit := (List.filter_append_perm (isRefFor name) pending).length_eq
      rw [List.length_append] at hsplit
      have h := chainLoop_walked rej H valid n ((pending.filter (isRefFor name)).map fun e => ((e, some base), [name]))
        (pending.filter fun e => !isRefFor name e) acc
        (by rw [List.length_map, hsplit, ← ht]; exact Nat.le_add_left _ _)
        (fun w hw => by
          obtain ⟨e, he, rfl⟩ := List.mem_map.mp hw
          exact isFull_of_isRefFor (List.mem_filter.mp he).2)
      rw [List.length_map, Nat.add_assoc, hsplit, ht] at h
      exact h

/-- What `resolveAll` guarantees of its output over `n` entries: the fields of `Walked` for a walk from nothing, read off
the `ChainOut`. -/
structure Resolved (rej : Bool) (H : Hash) (n : Nat) (o : ChainOut) : Prop where
  inFuel : o.status ≠ .failed .other
  yields : ∀ p ∈ o.chains, YieldOK rej H p
  le_total : o.chains.length ≤ n
  eq_total : o.status = .done → o.chains.length = n

theorem Resolved.of_walked {rej : Bool} {H : Hash} {n : Nat} {pend : List Entry}
    {acc : List (Obj × List Bytes)} {err : Option Err} {st : Status}
    (h : Walked rej H n [] (acc, pend, err))
    (hst : st = .failed .other → err = some .other) (hdone : st = .done → err = none ∧ pend = []) :
    Resolved rej H n ⟨acc, st⟩ := by
  refine ⟨fun hc => h.inFuel (hst hc), h.yields nofun, Nat.le_trans (Nat.le_add_right _ _) h.le_total, fun hd => ?_⟩
  have := h.eq_total (hdone hd).1
  simp only [(hdone hd).2, List.length_nil, Nat.add_zero] at this
  exact this

theorem Resolved.objs_hashOK {rej : Bool} {H : Hash} {n : Nat} {c : ChainOut} (h : Resolved rej H n c) :
    ∀ o ∈ c.objs, HashOK H o := by
  intro o ho
  obtain ⟨p, hp, rfl⟩ := List.mem_map.mp ho
  exact (h.yields p hp).1

theorem resolveAll_resolved (entries : List Entry) :
    Resolved rej H entries.length (resolveAll rej H valid ext entries) := by
  have hsplit := (List.filter_append_perm isFull entries).length_eq
  rw [List.length_append] at hsplit
  have h1 := runJobs_full_walked rej H valid ext entries.length (entries.filter isFull) (entries.filter fun e => !isFull e) []
    (fun e he => (List.mem_filter.mp he).2) (by rw [List.length_nil, Nat.zero_add, hsplit])
  simp only [resolveAll]
  generalize runJobs rej H valid ext entries.length ((entries.filter isFull).map Job.full)
    (entries.filter fun e => !isFull e) [] = r1 at h1
  obtain ⟨acc, pending, _ | e⟩ := r1
  · have h2 := runJobs_ext_walked rej H valid ext entries.length (refNames pending) pending acc (h1.eq_total rfl)
    have h := h1.trans h2
    simp only
    generalize runJobs rej H valid ext entries.length ((refNames pending).map Job.ext) pending acc = r2 at h
    obtain ⟨acc', pending', _ | e⟩ := r2
    · simp only
      split
      · exact .of_walked h nofun nofun
      · split
        · exact .of_walked h nofun nofun
        · rename_i _ hemp
          exact .of_walked h nofun fun _ => ⟨rfl, by simpa using hemp⟩
    · exact .of_walked h (fun hc => by cases hc; rfl) nofun
  · exact .of_walked h1 (fun hc => by cases hc; rfl) nofun

end

/-! ## random access -/

/-- One step of the walk: it returns from `off` if it returns from every offset `o` the entry at `off` can send it to (the
base of its OFS delta, or where the index puts the base of its REF delta) that is not yet on the chain `seen` it passes on. -/
theorem resolveAtC_succ_ne_none {c : Cfg} {entryAt : Nat → Except Err Kind} {idx : Bytes → Option Nat}
    {ext : Bytes → Option (Nat × Bytes)} {fuel : Nat} {visited seen : List Nat} {off : Nat}
    (hs : seen = if c.visitedSet then off :: visited else [])
    (next : ∀ o, seen.contains o = false →
      (∃ k d, entryAt off = .ok (.ofs k d) ∧ k ≤ off ∧ o = off - k) ∨ (∃ name d, entryAt off = .ok (.ref name d) ∧ idx name = some o) →
      resolveAtC c entryAt idx ext fuel seen o ≠ none) :
    resolveAtC c entryAt idx ext (fuel + 1) visited off ≠ none := by
  simp only [resolveAtC, ← hs]
  split
  · nofun
  · nofun
  · rename_i k d hk
    split
    · nofun
    · split
      · nofun
      · rename_i hle hnc
        exact mt Option.map_eq_none_iff.mp (next _ (Bool.eq_false_iff.mpr hnc) (.inl ⟨k, d, hk, by omega, rfl⟩))
  · rename_i name d hk
    split
    · rename_i o ho
      split
      · split <;> nofun
      · split
        · nofun
        · rename_i hnc
          exact mt Option.map_eq_none_iff.mp (next o (Bool.eq_false_iff.mpr fun h => hnc (by rw [h, Bool.or_true])) (.inr ⟨name, d, hk, ho⟩))
    · split <;> nofun

theorem resolveAtC_visited_terminates (c : Cfg) (hc : c.visitedSet = true)
    (entryAt : Nat → Except Err Kind) (idx : Bytes → Option Nat) (ext : Bytes → Option (Nat × Bytes)) (n : Nat)
    (hb : ∀ off, n ≤ off → ∃ e, entryAt off = .error e) :
    ∀ (fuel : Nat) (visited : List Nat) (off : Nat), off ∉ visited → Worklist.unseen (List.range n) visited < fuel →
      resolveAtC c entryAt idx ext fuel visited off ≠ none
  -- no case `fuel = 0`: `… < 0` is empty
  | fuel + 1, visited, off, hoff, hf => by
    refine resolveAtC_succ_ne_none (if_pos hc).symm fun o ho hmove => ?_
    -- the entry at `off` exists, so `off < n` and the measure drops
    have hlt : off < n := by
      refine Nat.lt_of_not_le fun h => ?_
      obtain ⟨e, he⟩ := hb off h
      rcases hmove with ⟨_, _, hk, _⟩ | ⟨_, _, hk, _⟩ <;> rw [he] at hk <;> cases hk
    have := Worklist.unseen_cons_lt (List.mem_range.mpr hlt) hoff
    exact resolveAtC_visited_terminates c hc entryAt idx ext n hb fuel _ o (by simpa using ho) (by omega)

theorem entryAtOf_bounded (inflate : Inflate) (inp : Bytes) :
    ∀ off, inp.length ≤ off → ∃ e, entryAtOf inflate inp off = .error e := by
  intro off h
  unfold entryAtOf
  split
  · exact ⟨_, rfl⟩
  · rw [List.drop_eq_nil_of_le h]
    exact ⟨_, rfl⟩

/-! ## what an ingest may answer -/

/-- What an ingest into `s` may answer: the store it was given, or that store extended by objects forward chaining
yielded — and the latter together with an error only where `old`, a behaviour from before the series, is switched on. -/
def Outcome (H : Hash) (s : Store) (old : Bool) (r : Store × Option Err) : Prop :=
  r.1 = s ∨ (∃ rej valid ext entries, r.1 = s ++ (resolveAll rej H valid ext entries).objs) ∧ (r.2 = none ∨ old = true)

theorem Outcome.storeOK {H : Hash} {s : Store} {old : Bool} {r : Store × Option Err} (h : Outcome H s old r)
    (hs : StoreOK H s) : StoreOK H r.1 := by
  rcases h with h | ⟨⟨rej, valid, ext, entries, h⟩, _⟩ <;> rw [h]
  · exact hs
  · intro o ho
    rcases List.mem_append.mp ho with ho | ho
    · exact hs o ho
    · exact (resolveAll_resolved rej H valid ext entries).objs_hashOK o ho

theorem Outcome.invisible {H : Hash} {s : Store} {r : Store × Option Err} (h : Outcome H s false r) {e : Err}
    (he : r.2 = some e) : r.1 = s := by
  rcases h with h | ⟨_, h | h⟩
  · exact h
  · rw [he] at h; cases h
  · cases h

theorem diskFirstPass_objs {c : Cfg} {inflate : Inflate} {H : Hash} {p : Path} {s : Store} {inp file : Bytes}
    {objs : List Obj} {bases : List (Nat × Bytes)}
    (h : diskFirstPass c inflate H p s inp = .ok (some (file, objs, bases))) :
    ∃ entries, objs = (resolveAll c.rejectDeltaCycles H (fun _ => true) s.lookup entries).objs := by
  simp only [diskFirstPass] at h
  split at h
  · cases h
  · split at h
    · cases h
    · split at h
      · cases h
      · rename_i entries _ _
        split at h
        · cases h; exact ⟨entries, rfl⟩
        · cases h

theorem ingestDiskC_outcome (c : Cfg) (inflate : Inflate) (H : Hash) (deflate : Bytes → Bytes) (valid : Obj → Bool)
    (p : Path) (s : Store) (inp : Bytes) :
    Outcome H s (!c.rollbackCloseGuarded) (ingestDiskC c inflate H deflate valid p s inp) := by
  unfold ingestDiskC
  split
  · exact .inl rfl
  · exact .inl rfl
  · rename_i file objs bases hfp
    obtain ⟨entries, rfl⟩ := diskFirstPass_objs hfp
    unfold completePack
    split
    · split
      · exact .inl rfl
      · rename_i hg
        exact .inr ⟨⟨_, _, _, entries, rfl⟩, .inr (by simpa using hg)⟩
    · exact .inl rfl
    · split
      · exact .inr ⟨⟨_, _, _, entries, rfl⟩, .inl rfl⟩
      · exact .inl rfl

theorem ingestMemC_outcome (c : Cfg) (inflate : Inflate) (H : Hash) (valid : Obj → Bool) (p : Path) (s : Store)
    (inp : Bytes) : Outcome H s c.memAddsIncrementally (ingestMemC c inflate H valid p s inp) := by
  simp only [ingestMemC]
  split
  · exact .inl rfl
  · split
    · exact .inl rfl
    · split
      · exact .inl rfl
      · split
        · exact .inr ⟨⟨_, _, _, _, rfl⟩, .inl rfl⟩
        · split
          · rename_i hm
            exact .inr ⟨⟨_, _, _, _, rfl⟩, .inr hm⟩
          · exact .inl rfl

/-! ## the caching reader -/

theorem getPacked_cases (kap : Bool) (file : Option RFile) (c : RCache) :
    (∃ r, c.refs = some r ∧ c.key = file.map (·.key) ∧ getPacked kap file c = (.ok r, c)) ∨
      getPacked kap file c = getPacked kap file RCache.empty := by
  cases hr : c.refs with
  | none => exact .inr (by simp [getPacked, hr, RCache.empty])
  | some r =>
    by_cases hk : c.key = file.map (·.key)
    · exact .inl ⟨r, rfl, hk, by simp [getPacked, hr, hk]⟩
    · exact .inr (by simp [getPacked, hr, hk, RCache.empty])

end Dulwich.Ingest
