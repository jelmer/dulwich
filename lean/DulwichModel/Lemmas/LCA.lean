/-
  C13, `_find_lcas` as a whole and the public functions (`Model/LCA.lean`).  The final `for` over the candidates is a
  plain filter at the state in which the `while` loop ends (`finalFilter_eq`), so each `findLcasFuel_*` is read off the
  loop invariants of LCALoop at that state (`findLcasFuel_eq`).

  On a closed history (`g.WF`) and for ids `< g.n`, `_remove_redundant` and `independent` equal `.ok` of the same
  pure filter `maxima` (with the test `a in _find_lcas(a, [b])`, resp. `find_merge_base([a, b]) == [a]`), so their
  termination and exactness are read off one equation; for `find_octopus_base` only the conditional statement
  (`… = .ok r → …`) is proved.  On an acyclic history what `_find_lcas` returns is a `Cover` of the common ancestors on
  every clock; the loop of `find_octopus_base` keeps one, and `_remove_redundant` turns any into the list of maximal elements.
-/
import DulwichModel.Lemmas.LCALoop
import DulwichModel.Lemmas.InsertSort

namespace Dulwich.LCA

/-! ## the final filter, the sort and the result list -/

theorem sortByStamp_perm (l : List Entry) : (sortByStamp l).Perm l :=
  (InsertSort.foldl_perm (ins := insertByStamp) (before := fun e x => e.1 < x.1) (fun _ => rfl) (fun _ _ _ => rfl) l []).trans
    (.of_eq (List.append_nil l))

/-- the commit of the entry has a word without `_DNC` -/
def clean (fl : FlagMap) (e : Entry) : Bool := (fl.get e.2).any (!·.dnc)

/-- When every candidate has a word and no commit is recorded twice (`SoundSt`), the test `(dt, cmt) not in results` never
fails and there is no `KeyError`: the final loop is a filter. -/
theorem finalFilter_eq {fl : FlagMap} : ∀ (cands acc : List Entry),
    (∀ e, e ∈ cands → ∃ f, fl.get e.2 = some f) → (cands.map (·.2)).Nodup → (∀ e, e ∈ acc → e ∉ cands) →
    finalFilter fl cands acc = .ok (acc ++ cands.filter (clean fl)) := by
  intro cands
  induction cands with
  | nil => intro acc _ _ _; simp [finalFilter]
  | cons e r ih =>
    obtain ⟨dt, c⟩ := e
    intro acc hw hnd hacc
    obtain ⟨f, hf⟩ := hw _ List.mem_cons_self
    obtain ⟨hc, hnd⟩ := List.nodup_cons.mp hnd
    have hnew : acc.contains (dt, c) = false := by
      simpa using fun h => hacc _ h List.mem_cons_self
    have hw' := (List.forall_mem_cons.mp hw).2
    rw [finalFilter, hf, hnew, List.filter_cons]
    simp only [clean, hf, Option.any_some, Bool.not_false, Bool.and_true]
    split
    · rw [ih _ hw' hnd, List.append_assoc, List.singleton_append]
      intro x hx hxr
      rcases List.mem_append.mp hx with hx | hx
      · exact hacc x hx (List.mem_cons_of_mem _ hxr)
      · exact hc (List.mem_singleton.mp hx ▸ List.mem_map_of_mem hxr)
    · exact ih _ hw' hnd fun x hx hxr => hacc x hx (List.mem_cons_of_mem _ hxr)

theorem mem_result {fl : FlagMap} {cands : List Entry} (x : Nat) :
    x ∈ (sortByStamp (cands.filter (clean fl))).map (·.2) ↔ ∃ dt f, (dt, x) ∈ cands ∧ fl.get x = some f ∧ f.dnc = false := by
  rw [((sortByStamp_perm _).map _).mem_iff, List.mem_map]
  simp only [List.mem_filter, clean, Option.any_eq_true, Bool.not_eq_true']
  constructor
  · rintro ⟨⟨dt, c⟩, ⟨hc, f, hf, hd⟩, rfl⟩
    exact ⟨dt, f, hc, hf, hd⟩
  · rintro ⟨dt, f, hc, hf, hd⟩
    exact ⟨(dt, x), ⟨hc, f, hf, hd⟩, rfl⟩

/-! ## `_find_lcas` as a whole -/

section

variable {g : Graph} {cut : Nat → Bool} {c1 : Nat} {c2s : List Nat} {fuel : Nat} {r : List Nat}

theorem findLcasFuel_eq {s : St} (hs : loop g cut fuel (init g c1 c2s) = .ok s) :
    findLcasFuel fuel g c1 c2s cut = .ok ((sortByStamp (s.cands.filter (clean s.fl))).map (·.2)) := by
  have hinv := loop_sound hs
  simp only [findLcasFuel, hs,
    finalFilter_eq _ [] (fun e he => (hinv.cands e he).imp fun _ h => h.1) hinv.nodup nofun, List.nil_append]

theorem findLcasFuel_ok (h : findLcasFuel fuel g c1 c2s cut = .ok r) :
    ∃ s, loop g cut fuel (init g c1 c2s) = .ok s ∧ r = (sortByStamp (s.cands.filter (clean s.fl))).map (·.2) := by
  cases hs : loop g cut fuel (init g c1 c2s) with
  | error e => simp [findLcasFuel, hs] at h
  | ok s => exact ⟨s, rfl, Except.ok.inj ((findLcasFuel_eq hs).symm.trans h).symm⟩

theorem findLcasFuel_sound (h : findLcasFuel fuel g c1 c2s cut = .ok r) {x : Nat} (hx : x ∈ r) : CA g c1 c2s x := by
  obtain ⟨s, hs, rfl⟩ := findLcasFuel_ok h
  have hinv := loop_sound hs
  obtain ⟨dt, f, hc, hf, _⟩ := (mem_result x).mp hx
  obtain ⟨f0, hf0, h1, h2, _⟩ := hinv.cands _ hc
  have hg := hinv.fl x f0 hf0
  exact ⟨hg.a1 h1, hg.a2 h2⟩

theorem findLcasFuel_complete (hwf : g.WF) (h1 : c1 < g.n) (h2 : ∀ c, c ∈ c2s → c < g.n)
    (h : findLcasFuel fuel g c1 c2s cut = .ok r) {x : Nat} (hx : MaxCA g c1 c2s x)
    (hcut : ∀ y, Anc g x y → cut y = false) : x ∈ r := by
  obtain ⟨s, hs, rfl⟩ := findLcasFuel_ok h
  obtain ⟨hinv, hnc⟩ := loop_all hwf h1 h2 hs
  rw [mem_result]
  exact final_has_max hinv.sound hinv.live hnc hx hcut

theorem findLcasFuel_once (h : findLcasFuel fuel g c1 c2s cut = .ok r) : r.Nodup := by
  obtain ⟨s, hs, rfl⟩ := findLcasFuel_ok h
  exact (List.Perm.nodup_iff ((sortByStamp_perm _).map _)).mpr ((loop_sound hs).nodup.sublist (List.filter_sublist.map _))

/-- `findLcasFuel_once` for a closed history and ids `< g.n`; the three hypotheses are not used. -/
theorem findLcasFuel_nodup {fuel : Nat} {g : Graph} (hwf : g.WF) {c1 : Nat} {c2s : List Nat}
    (h1 : c1 < g.n) (h2 : ∀ c, c ∈ c2s → c < g.n) {cut : Nat → Bool} {r : List Nat}
    (h : findLcasFuel fuel g c1 c2s cut = .ok r) : r.Nodup :=
  findLcasFuel_once h

theorem findLcas_terminates (hwf : g.WF) (h1 : c1 < g.n)
    (h2 : ∀ c, c ∈ c2s → c < g.n) (cut : Nat → Bool) : ∃ r, findLcas g c1 c2s cut = .ok r := by
  obtain ⟨hdom, hlen⟩ := init_dom (g := g) h1 h2
  have hmu : mu g (init g c1 c2s) < defaultFuel g c2s := by
    unfold mu defaultFuel
    have := total_le (init g c1 c2s).fl g.n
    omega
  obtain ⟨s, hs⟩ := loop_terminates (cut := cut) hwf _ _ hdom hmu
  exact ⟨_, findLcasFuel_eq hs⟩

theorem findLcasFuel_exact (hwf : g.WF) (hmono : g.StrictMono) (h1 : c1 < g.n) (h2 : ∀ c, c ∈ c2s → c < g.n)
    (hcut : ∀ z, cut z = false) (h : findLcasFuel fuel g c1 c2s cut = .ok r) :
    (∀ x, x ∈ r ↔ MaxCA g c1 c2s x) ∧ r.Nodup := by
  refine ⟨fun x => ⟨fun hx => ?_, fun hx => findLcasFuel_complete hwf h1 h2 h hx (fun y _ => hcut y)⟩,
    findLcasFuel_once h⟩
  obtain ⟨s, hs, rfl⟩ := findLcasFuel_ok h
  obtain ⟨hinv, _⟩ := loop_all hwf h1 h2 hs
  obtain ⟨dt, f, hc, hf, hd⟩ := (mem_result x).mp hx
  exact final_cand_max hmono hcut hinv.dom hinv.sound hinv.live (hinv.ordered hmono) hc hf hd

end

/-- `rfl` on the generated constant `Gen.lcaDefaultMinStamp`: stops compiling if `_find_lcas` gets a default cut. -/
theorem defaultCut_false (g : Graph) (z : Nat) : defaultCut g z = false := rfl

/-! ## acyclic histories -/

section

variable {g : Graph}

theorem exists_max_rank (rk : Nat → Nat) : ∀ (l : List Nat), l ≠ [] → ∃ x, x ∈ l ∧ ∀ y, y ∈ l → rk y ≤ rk x := by
  intro l hl
  cases hm : (l.map rk).max? with
  | none => exact absurd (List.map_eq_nil_iff.mp (List.max?_eq_none_iff.mp hm)) hl
  | some m =>
    obtain ⟨hmem, hmax⟩ := List.max?_eq_some_iff.mp hm
    obtain ⟨x, hx, rfl⟩ := List.mem_map.mp hmem
    exact ⟨x, hx, fun y hy => hmax _ (List.mem_map_of_mem hy)⟩

theorem exists_maximal_above (hac : g.Acyclic)
    (P : Nat → Prop) (hP : ∀ z, P z → z < g.n) {y : Nat} (hy : P y) :
    ∃ m, P m ∧ Anc g y m ∧ ¬ ∃ z, P z ∧ SAnc g m z := by
  classical
  obtain ⟨rk, hrk⟩ := hac
  let L := (List.range g.n).filter (fun z => decide (P z ∧ Anc g y z))
  have hmem : ∀ z, z ∈ L ↔ P z ∧ Anc g y z := by
    intro z
    simp only [L, List.mem_filter, List.mem_range, decide_eq_true_eq]
    exact ⟨fun h => h.2, fun h => ⟨hP z h.1, h⟩⟩
  obtain ⟨m, hm, hmax⟩ := exists_max_rank rk L (List.ne_nil_of_mem ((hmem y).mpr ⟨hy, Anc.refl y⟩))
  obtain ⟨hPm, hym⟩ := (hmem m).mp hm
  exact ⟨m, hPm, hym, fun ⟨z, hPz, hs⟩ =>
    Nat.lt_irrefl _ (Nat.lt_of_lt_of_le (hs.rank_lt hrk) (hmax z ((hmem z).mpr ⟨hPz, hym.trans hs.anc⟩)))⟩

theorem not_sanc_of_anc (hac : g.Acyclic) {x y : Nat} (h : Anc g y x) : ¬ SAnc g x y := by
  obtain ⟨rk, hrk⟩ := hac
  exact fun hs => Nat.lt_irrefl _ (Nat.lt_of_lt_of_le (hs.rank_lt hrk) (h.rank_le hrk))

theorem maximal_iff_eq_top (hac : g.Acyclic) {P : Nat → Prop}
    {a : Nat} (ha : P a) (htop : ∀ x, P x → Anc g x a) (x : Nat) :
    (P x ∧ ¬ ∃ y, P y ∧ SAnc g x y) ↔ x = a := by
  constructor
  · rintro ⟨hx, hmax⟩
    exact (htop x hx).eq_or_sanc.resolve_right fun hs => hmax ⟨a, ha, hs⟩
  · rintro rfl
    exact ⟨ha, fun ⟨y, hy, hs⟩ => not_sanc_of_anc hac (htop y hy) hs⟩

theorem maxCA_iff_eq_self (hac : g.Acyclic) {c1 : Nat}
    {c2s : List Nat} (h : CA g c1 c2s c1) (x : Nat) : MaxCA g c1 c2s x ↔ x = c1 :=
  maximal_iff_eq_top hac h (fun _ hx => hx.1) x

/-! ## lists that cover a set of commits -/

/-- `l` lists members of `P` only, and every member of `P` is one of them or an ancestor of one: what `_find_lcas` returns
for the common ancestors (any clock), what the loop of `find_octopus_base` keeps, and what `_remove_redundant` needs. -/
structure Cover (g : Graph) (P : Nat → Prop) (l : List Nat) : Prop where
  sound : ∀ x, x ∈ l → P x
  above : ∀ z, P z → ∃ w, w ∈ l ∧ Anc g z w

theorem findLcasFuel_cover (hwf : g.WF) (hac : g.Acyclic) {c1 : Nat} {c2s : List Nat} (h1 : c1 < g.n)
    (h2 : ∀ c, c ∈ c2s → c < g.n) {cut : Nat → Bool} (hcut : ∀ z, cut z = false) {fuel : Nat} {r : List Nat}
    (h : findLcasFuel fuel g c1 c2s cut = .ok r) : Cover g (CA g c1 c2s) r := by
  refine ⟨fun _ => findLcasFuel_sound h, fun z hz => ?_⟩
  obtain ⟨m, hm, hzm, hmax⟩ := exists_maximal_above hac (CA g c1 c2s) (fun y hy => hy.lt_n hwf h1) hz
  exact ⟨m, findLcasFuel_complete hwf h1 h2 h ⟨hm, hmax⟩ (fun y _ => hcut y), hzm⟩

/-! ## the ancestry test `c1 in _find_lcas(c1, [c2])`: `is_ancestor` of `_remove_redundant`, `can_fast_forward` -/

theorem anc_of_mem_lcas {c1 c2 : Nat} {cut : Nat → Bool} {fuel : Nat} {r : List Nat}
    (h : findLcasFuel fuel g c1 [c2] cut = .ok r) (hc : c1 ∈ r) : Anc g c1 c2 :=
  (CA_singleton.mp (findLcasFuel_sound h hc)).2

theorem mem_lcas_iff_anc (hwf : g.WF) (hac : g.Acyclic)
    {c1 c2 : Nat} (h2 : c2 < g.n) {cut : Nat → Bool} (hcut : ∀ z, cut z = false)
    {fuel : Nat} {r : List Nat} (h : findLcasFuel fuel g c1 [c2] cut = .ok r) : c1 ∈ r ↔ Anc g c1 c2 := by
  refine ⟨anc_of_mem_lcas h, fun hanc => ?_⟩
  exact findLcasFuel_complete hwf (hanc.lt_n hwf h2) (by simpa using h2) h
    ((maxCA_iff_eq_self hac (CA_singleton.mpr ⟨Anc.refl c1, hanc⟩) c1).mpr rfl) (fun y _ => hcut y)

theorem isAncestorVia_terminates (hwf : g.WF) {a b : Nat} (ha : a < g.n) (hb : b < g.n) :
    ∃ d, isAncestorVia g a b = .ok d := by
  obtain ⟨r, hr⟩ := findLcas_terminates hwf ha (c2s := [b]) (by simpa using hb) (defaultCut g)
  exact ⟨r.contains a, by simp only [isAncestorVia, hr]⟩

theorem isAncestorVia_sound {a b : Nat} (h : isAncestorVia g a b = .ok true) : Anc g a b := by
  unfold isAncestorVia at h
  split at h
  · cases h
  · rename_i l hl
    simp only [Except.ok.injEq, List.contains_eq_mem, decide_eq_true_eq] at h
    exact anc_of_mem_lcas hl h

theorem isAncestorVia_true_iff (hwf : g.WF) (hac : g.Acyclic) {a b : Nat} (hb : b < g.n) :
    isAncestorVia g a b = .ok true ↔ Anc g a b := by
  refine ⟨isAncestorVia_sound, fun hanc => ?_⟩
  obtain ⟨r, hr⟩ := findLcas_terminates hwf (hanc.lt_n hwf hb) (c2s := [b]) (by simpa using hb) (defaultCut g)
  simp only [isAncestorVia, hr, Except.ok.injEq, List.contains_eq_mem, decide_eq_true_eq]
  exact (mem_lcas_iff_anc hwf hac hb (defaultCut_false g) hr).mpr hanc

theorem canFastForward_eq (g : Graph) (c1 c2 : Nat) :
    canFastForward g c1 c2 = if c1 = c2 then .ok true else isAncestorVia g c1 c2 := by
  unfold canFastForward isAncestorVia
  rfl

/-! ## the public functions -/

/-! ### `list(dict.fromkeys(l))` -/

theorem dedupe_aux (l : List Nat) : ∀ (acc : List Nat), acc.Nodup →
    (l.foldl (fun acc x => if acc.contains x then acc else acc ++ [x]) acc).Nodup ∧
    ∀ x, x ∈ l.foldl (fun acc x => if acc.contains x then acc else acc ++ [x]) acc ↔ x ∈ acc ∨ x ∈ l := by
  induction l with
  | nil => intro acc h; exact ⟨h, fun x => by simp⟩
  | cons a l ih =>
    intro acc h
    have hstep : (if acc.contains a then acc else acc ++ [a]).Nodup ∧
        ∀ x, x ∈ (if acc.contains a then acc else acc ++ [a]) ↔ x ∈ acc ∨ x = a := by
      by_cases ha : a ∈ acc
      · rw [if_pos (List.contains_iff_mem.mpr ha)]
        exact ⟨h, fun x => ⟨Or.inl, fun hx => hx.elim id (fun hxa => hxa ▸ ha)⟩⟩
      · rw [if_neg (mt List.contains_iff_mem.mp ha)]
        refine ⟨List.nodup_append.mpr ⟨h, by simp, fun x hx y hy hxy => ?_⟩, fun x => by simp⟩
        exact ha (List.mem_singleton.mp hy ▸ hxy ▸ hx)
    obtain ⟨h1, h2⟩ := ih _ hstep.1
    exact ⟨h1, fun x => by rw [List.foldl_cons, h2, hstep.2, List.mem_cons, or_assoc]⟩

theorem nodup_dedupe (l : List Nat) : (dedupe l).Nodup := (dedupe_aux l [] List.nodup_nil).1

theorem mem_dedupe (l : List Nat) (x : Nat) : x ∈ dedupe l ↔ x ∈ l := by
  unfold dedupe
  rw [(dedupe_aux l [] List.nodup_nil).2 x]; simp

/-! ### the entries of a list that a test puts below no other entry -/

/-- `[c for c in l if not any(o != c and T c o for o in l)]`: what `_remove_redundant` and `independent` compute on
the de-duplicated list, each with its own test `T` -/
def maxima (T : Nat → Nat → Bool) (l : List Nat) : List Nat :=
  l.filter fun c => !l.any fun o => o != c && T c o

theorem mem_maxima {T : Nat → Nat → Bool} {l : List Nat} {x : Nat} :
    x ∈ maxima T l ↔ x ∈ l ∧ ¬ ∃ o, o ∈ l ∧ o ≠ x ∧ T x o = true := by
  simp only [maxima, List.mem_filter, Bool.not_eq_true', ← Bool.not_eq_true, List.any_eq_true, Bool.and_eq_true, bne_iff_ne]

/-- both functions return a list of fewer than two entries as it is -/
theorem maxima_short (T : Nat → Nat → Bool) {l : List Nat} (h : l.length < 2) : maxima T l = l := by
  obtain _ | ⟨a, _ | ⟨b, t⟩⟩ := l
  · rfl
  · simp [maxima]
  · exact absurd h (by simp)

/-! ### `_remove_redundant` -/

theorem redundantIn_eq (hwf : g.WF) {c : Nat} (hc : c < g.n) : ∀ (l : List Nat), (∀ o, o ∈ l → o < g.n) →
    redundantIn g c l = .ok (l.any fun o => o != c && decide (isAncestorVia g c o = .ok true)) := by
  intro l
  induction l with
  | nil => intro _; rfl
  | cons o r ih =>
    intro hl
    obtain ⟨d, hd⟩ := isAncestorVia_terminates hwf hc (hl o List.mem_cons_self)
    rw [redundantIn, hd, ih (List.forall_mem_cons.mp hl).2]
    by_cases hoc : o = c
    · simp [hoc]
    · cases d <;> simp [hoc, hd]

theorem keepMaximal_eq (hwf : g.WF) {all : List Nat} (hall : ∀ o, o ∈ all → o < g.n) :
    ∀ (l : List Nat), (∀ o, o ∈ l → o < g.n) →
      keepMaximal g all l =
        .ok (l.filter fun c => !all.any fun o => o != c && decide (isAncestorVia g c o = .ok true)) := by
  intro l
  induction l with
  | nil => intro _; rfl
  | cons c r ih =>
    intro hl
    rw [keepMaximal, redundantIn_eq hwf (hl c List.mem_cons_self) all hall, ih (List.forall_mem_cons.mp hl).2,
      List.filter_cons]
    cases all.any fun o => o != c && decide (isAncestorVia g c o = .ok true) <;> rfl

theorem removeRedundant_eq (hwf : g.WF) {lcas : List Nat} (hl : ∀ o, o ∈ lcas → o < g.n) :
    removeRedundant g lcas = .ok (maxima (fun c o => decide (isAncestorVia g c o = .ok true)) (dedupe lcas)) := by
  have hall : ∀ o, o ∈ dedupe lcas → o < g.n := fun o ho => hl o ((mem_dedupe lcas o).mp ho)
  unfold removeRedundant
  simp only
  split
  · rw [maxima_short _ ‹_›]
  · exact keepMaximal_eq hwf hall _ hall

theorem removeRedundant_exact (hwf : g.WF) (hac : g.Acyclic) {P : Nat → Prop} (hP : ∀ z, P z → z < g.n)
    {lcas : List Nat} (hc : Cover g P lcas) {r : List Nat} (h : removeRedundant g lcas = .ok r) :
    r.Nodup ∧ ∀ x, x ∈ r ↔ P x ∧ ¬ ∃ z, P z ∧ SAnc g x z := by
  have hlt : ∀ o, o ∈ lcas → o < g.n := fun o ho => hP o (hc.sound o ho)
  cases (removeRedundant_eq hwf hlt).symm.trans h
  refine ⟨(nodup_dedupe lcas).sublist List.filter_sublist, fun x => ?_⟩
  simp only [mem_maxima, mem_dedupe, decide_eq_true_eq]
  constructor
  · rintro ⟨hx, hn⟩
    refine ⟨hc.sound x hx, ?_⟩
    rintro ⟨z, hz, hs⟩
    obtain ⟨w, hw, hzw⟩ := hc.above z hz
    have hxw : SAnc g x w := SAnc.of_anc_right hs hzw
    exact hn ⟨w, hw, fun heq => not_sanc_of_anc hac (Anc.refl x) (heq ▸ hxw),
      (isAncestorVia_true_iff hwf hac (hlt w hw)).mpr hxw.anc⟩
  · rintro ⟨hx, hmax⟩
    obtain ⟨w, hw, hxw⟩ := hc.above x hx
    refine ⟨hxw.eq_or_sanc.elim (· ▸ hw) fun hs => absurd ⟨w, hc.sound w hw, hs⟩ hmax, ?_⟩
    rintro ⟨o, ho, hne, ha⟩
    exact hmax ⟨o, hc.sound o ho, ((isAncestorVia_true_iff hwf hac (hlt o ho)).mp ha).eq_or_sanc.resolve_left
      (fun h => hne h.symm)⟩

/-! ### `find_merge_base` and `independent` -/

theorem findMergeBase_exact (hwf : g.WF) (hac : g.Acyclic)
    {c1 c2 : Nat} {c2s : List Nat} (h1 : c1 < g.n) (h2 : ∀ c, c ∈ c2 :: c2s → c < g.n) {r : List Nat}
    (h : findMergeBase g (c1 :: c2 :: c2s) = .ok r) :
    r.Nodup ∧ ∀ x, x ∈ r ↔ MaxCA g c1 (c2 :: c2s) x := by
  simp only [findMergeBase] at h
  split at h
  · rename_i hmem
    cases h
    have hself := maxCA_iff_eq_self hac (c2s := c2 :: c2s)
      ⟨Anc.refl c1, c1, List.contains_iff_mem.mp hmem, Anc.refl c1⟩
    exact ⟨by simp, fun x => by rw [hself x, List.mem_singleton]⟩
  · split at h
    · cases h
    · rename_i lcas hl
      exact removeRedundant_exact hwf hac (fun z hz => hz.lt_n hwf h1)
        (findLcasFuel_cover hwf hac h1 h2 (defaultCut_false g) hl) h

theorem findMergeBase_terminates (hwf : g.WF) {ids : List Nat} (hids : ∀ c, c ∈ ids → c < g.n) :
    ∃ r, findMergeBase g ids = .ok r := by
  obtain _ | ⟨c1, _ | ⟨c2, c2s⟩⟩ := ids
  · exact ⟨[], rfl⟩
  · exact ⟨[c1], rfl⟩
  · simp only [findMergeBase]
    split
    · exact ⟨_, rfl⟩
    · obtain ⟨l, hl⟩ := findLcas_terminates hwf (hids c1 List.mem_cons_self) (c2s := c2 :: c2s)
        (List.forall_mem_cons.mp hids).2 (defaultCut g)
      rw [hl]
      exact ⟨_, removeRedundant_eq hwf fun o ho => (findLcasFuel_sound hl ho).lt_n hwf (hids c1 List.mem_cons_self)⟩

theorem mergeBase_self_iff (hwf : g.WF) (hac : g.Acyclic)
    {c o : Nat} (hc : c < g.n) (ho : o < g.n) : findMergeBase g [c, o] = .ok [c] ↔ Anc g c o := by
  obtain ⟨mb, h⟩ := findMergeBase_terminates hwf (ids := [c, o]) (by simp [hc, ho])
  obtain ⟨hnd, hmem⟩ := findMergeBase_exact hwf hac hc (c2s := []) (by simpa using ho) h
  rw [h, Except.ok.injEq]
  constructor
  · intro heq
    exact (CA_singleton.mp ((hmem c).mp (heq ▸ List.mem_singleton_self c)).1).2
  · intro hanc
    have hself := maxCA_iff_eq_self hac (CA_singleton.mpr ⟨Anc.refl c, hanc⟩)
    exact List.perm_singleton.mp ((List.perm_ext_iff_of_nodup hnd (List.nodup_cons.mpr ⟨List.not_mem_nil, .nil⟩)).mpr
      fun x => by rw [hmem, hself, List.mem_singleton])

/-- `independent` compares list positions where `_remove_redundant` compares ids; on the de-duplicated list that is
the same (hypothesis on `l`), so the positions drop out here -/
theorem dominated_eq (hwf : g.WF) {i c : Nat} (hc : c < g.n) :
    ∀ (l : List (Nat × Nat)), (∀ e, e ∈ l → e.2 < g.n ∧ (i = e.1 ↔ e.2 = c)) →
      dominated g i c l = .ok ((l.map (·.2)).any fun o => o != c && decide (findMergeBase g [c, o] = .ok [c])) := by
  intro l
  induction l with
  | nil => intro _; rfl
  | cons e r ih =>
    obtain ⟨j, o⟩ := e
    intro hl
    obtain ⟨ho, hjo⟩ : o < g.n ∧ (i = j ↔ o = c) := hl (j, o) List.mem_cons_self
    obtain ⟨mb, hmb⟩ := findMergeBase_terminates hwf (ids := [c, o]) (by simp [hc, ho])
    rw [dominated, hmb, ih (List.forall_mem_cons.mp hl).2, List.map_cons, List.any_cons]
    by_cases hij : i = j
    · rw [if_pos hij, hjo.mp hij, bne_self_eq_false, Bool.false_and, Bool.false_or]
    · have hoc : (o != c) = true := bne_iff_ne.mpr (mt hjo.mpr hij)
      rw [if_neg hij, hoc, Bool.true_and, hmb]
      by_cases hm : mb = [c] <;> simp [hm]

theorem independentAux_eq (hwf : g.WF) {all : List (Nat × Nat)} :
    ∀ (l : List (Nat × Nat)), (∀ x, x ∈ l → x.2 < g.n ∧ ∀ e, e ∈ all → e.2 < g.n ∧ (x.1 = e.1 ↔ e.2 = x.2)) →
      independentAux g all l = .ok ((l.map (·.2)).filter fun c =>
        !(all.map (·.2)).any fun o => o != c && decide (findMergeBase g [c, o] = .ok [c])) := by
  intro l
  induction l with
  | nil => intro _; rfl
  | cons e r ih =>
    obtain ⟨i, c⟩ := e
    intro hl
    obtain ⟨hc, hall⟩ := hl (i, c) List.mem_cons_self
    rw [independentAux, dominated_eq hwf hc all hall, ih (List.forall_mem_cons.mp hl).2, List.map_cons, List.filter_cons]
    cases (all.map (·.2)).any fun o => o != c && decide (findMergeBase g [c, o] = .ok [c]) <;> rfl

theorem mem_range_zip {l : List Nat} {j o : Nat} : (j, o) ∈ (List.range l.length).zip l ↔ l[j]? = some o := by
  rw [List.mem_iff_getElem?]
  simp only [List.getElem?_zip_eq_some]
  constructor
  · rintro ⟨i, hi, ho⟩
    have : i = j := by simpa using (List.getElem?_eq_some_iff.mp hi).2
    exact this ▸ ho
  · intro h
    exact ⟨j, by simp [(List.getElem?_eq_some_iff.mp h).1], h⟩

theorem independent_eq (hwf : g.WF) {ids0 : List Nat} (hids0 : ∀ c, c ∈ ids0 → c < g.n) :
    independent g ids0 = .ok (maxima (fun c o => decide (findMergeBase g [c, o] = .ok [c])) (dedupe ids0)) := by
  cases ids0 with
  | nil => rfl
  | cons a0 t0 =>
    simp only [independent]
    generalize hids : dedupe (a0 :: t0) = ids
    have hnd : ids.Nodup := hids ▸ nodup_dedupe _
    have hlt : ∀ {j o : Nat}, ids[j]? = some o → o < g.n := fun hj =>
      hids0 _ ((mem_dedupe _ _).mp (hids ▸ List.mem_of_getElem? hj))
    split
    · rw [maxima_short _ (by omega)]
    · have := independentAux_eq hwf (all := (List.range ids.length).zip ids) _ fun x hx =>
        ⟨hlt (mem_range_zip.mp hx), fun e he => ⟨hlt (mem_range_zip.mp he), ?_⟩⟩
      · rwa [List.map_snd_zip (by simp)] at this
      · have hi := mem_range_zip.mp hx
        have hj := mem_range_zip.mp he
        exact ⟨fun hij => Option.some.inj (hj.symm.trans (hij ▸ hi)), fun hox =>
          ((List.getElem?_inj (List.getElem?_eq_some_iff.mp hi).1 hnd).mp (hi.trans (hox ▸ hj.symm)))⟩

/-- Acyclicity is given here as the rank itself, `⟨rk, hrk⟩ : g.Acyclic`; `Props.C13.independent_exact` is this under
`g.Acyclic` and says what is claimed. -/
theorem independent_exact {g : Graph} (hwf : g.WF) {rk : Nat → Nat} (hrk : ∀ c p, p ∈ g.parents c → rk p < rk c)
    {ids0 : List Nat} (hids0 : ∀ c, c ∈ ids0 → c < g.n) {r : List Nat}
    (h : independent g ids0 = .ok r) :
    r.Nodup ∧ r.Sublist (dedupe ids0) ∧ ∀ x, x ∈ r ↔ x ∈ ids0 ∧ ¬ ∃ o, o ∈ ids0 ∧ o ≠ x ∧ Anc g x o := by
  cases (independent_eq hwf hids0).symm.trans h
  refine ⟨(nodup_dedupe ids0).sublist List.filter_sublist, List.filter_sublist, fun x => ?_⟩
  simp only [mem_maxima, mem_dedupe, decide_eq_true_eq]
  exact and_congr_right fun hx => not_congr <| exists_congr fun o => and_congr_right fun ho => and_congr_right fun _ =>
    mergeBase_self_iff hwf ⟨rk, hrk⟩ (hids0 x hx) (hids0 o ho)

/-! ### `find_octopus_base` -/

/-- the inner loop, one `_find_lcas(cmt, [ca])` per `ca`, covers what a single `_find_lcas(cmt, lcas)` would -/
theorem octopusInner_cover (hwf : g.WF) (hac : g.Acyclic) {cmt : Nat} (hc : cmt < g.n) :
    ∀ (lcas : List Nat), (∀ c, c ∈ lcas → c < g.n) → ∀ r, octopusInner g cmt lcas = .ok r → Cover g (CA g cmt lcas) r := by
  intro lcas
  induction lcas with
  | nil => intro _ r h; cases h; exact ⟨nofun, fun _ ⟨_, _, h, _⟩ => nomatch h⟩
  | cons ca l ih =>
    intro hl r h
    simp only [octopusInner] at h
    split at h
    · cases h
    · rename_i res hres
      split at h
      · cases h
      · rename_i rest hrest
        cases h
        have i1 := findLcasFuel_cover hwf hac hc (c2s := [ca]) (by simpa using hl ca List.mem_cons_self)
          (defaultCut_false g) hres
        have i2 := ih (List.forall_mem_cons.mp hl).2 rest hrest
        constructor
        · intro x hx
          rcases List.mem_append.mp hx with hx | hx
          · exact ⟨(i1.sound x hx).1, ca, List.mem_cons_self, (CA_singleton.mp (i1.sound x hx)).2⟩
          · obtain ⟨h1, c2, hc2, h2⟩ := i2.sound x hx
            exact ⟨h1, c2, List.mem_cons_of_mem _ hc2, h2⟩
        · rintro z ⟨h1, c2, hc2, h2⟩
          rcases List.mem_cons.mp hc2 with rfl | hc2
          · exact (i1.above z (CA_singleton.mpr ⟨h1, h2⟩)).imp fun _ h => ⟨List.mem_append_left _ h.1, h.2⟩
          · exact (i2.above z ⟨h1, c2, hc2, h2⟩).imp fun _ h => ⟨List.mem_append_right _ h.1, h.2⟩

/-- the outer loop keeps a cover of the common ancestors of the ids handled so far, `D` -/
theorem octopusOuter_cover (hwf : g.WF) (hac : g.Acyclic) :
    ∀ (others D lcas : List Nat), (∀ c, c ∈ others → c < g.n) → (∀ c, c ∈ lcas → c < g.n) →
      Cover g (CAall g D) lcas → ∀ r, octopusOuter g others lcas = .ok r → Cover g (CAall g (D ++ others)) r := by
  intro others
  induction others with
  | nil =>
    intro D lcas _ _ hinv r h
    cases h
    rwa [List.append_nil]
  | cons cmt others ih =>
    intro D lcas ho hl hinv r h
    simp only [octopusOuter] at h
    split at h
    · cases h
    · rename_i next hnext
      have hc : cmt < g.n := ho cmt List.mem_cons_self
      have i := octopusInner_cover hwf hac hc lcas hl next hnext
      have hinv' : Cover g (CAall g (D ++ [cmt])) next := by
        constructor
        · intro x hx c hcD
          obtain ⟨hx1, ca, hca, hx2⟩ := i.sound x hx
          rcases List.mem_append.mp hcD with hcD | hcD
          · exact hx2.trans (hinv.sound ca hca c hcD)
          · exact List.mem_singleton.mp hcD ▸ hx1
        · intro z hz
          obtain ⟨w, hw, hzw⟩ := hinv.above z (fun c hcD => hz c (List.mem_append_left _ hcD))
          exact i.above z ⟨hz cmt (List.mem_append_right _ (List.mem_singleton_self cmt)), w, hw, hzw⟩
      have := ih (D ++ [cmt]) next (List.forall_mem_cons.mp ho).2 (fun c hcn => (i.sound c hcn).lt_n hwf hc) hinv' r h
      rwa [List.append_assoc] at this

theorem findOctopusBase_exact (hwf : g.WF)
    (hac : g.Acyclic) {ids : List Nat} (hne : ids ≠ [])
    (hids : ∀ c, c ∈ ids → c < g.n) {r : List Nat} (h : findOctopusBase g ids = .ok r) :
    r.Nodup ∧ ∀ x, x ∈ r ↔ MaxCAall g ids x := by
  obtain _ | ⟨a, _ | ⟨b, _ | ⟨c2, t⟩⟩⟩ := ids
  · exact absurd rfl hne
  · cases h
    refine ⟨by simp, fun x => ?_⟩
    rw [List.mem_singleton]
    exact (maximal_iff_eq_top hac (P := CAall g [a]) (fun c hc => (List.mem_singleton.mp hc).symm ▸ Anc.refl a)
      (fun x hx => hx a (List.mem_singleton_self a)) x).symm
  · obtain ⟨hnd, hmem⟩ := findMergeBase_exact hwf hac (hids a List.mem_cons_self) (c2s := [])
      (List.forall_mem_cons.mp hids).2 h
    have hca : ∀ z, CAall g [a, b] z ↔ CA g a [b] z := fun z => by simp [CAall, CA_singleton]
    exact ⟨hnd, fun x => by rw [hmem x]; simp only [MaxCA, MaxCAall, hca]⟩
  · simp only [findOctopusBase] at h
    split at h
    · cases h
    · rename_i lcas hl
      have h0 : a < g.n := hids a List.mem_cons_self
      exact removeRedundant_exact hwf hac (fun z hz => (hz a List.mem_cons_self).lt_n hwf h0)
        (octopusOuter_cover hwf hac (b :: c2 :: t) [a] [a] (List.forall_mem_cons.mp hids).2 (by simpa using h0)
          ⟨fun x hx c hc => (List.mem_singleton.mp hx).symm ▸ (List.mem_singleton.mp hc).symm ▸ Anc.refl a,
           fun z hz => ⟨a, List.mem_singleton_self a, hz a (List.mem_singleton_self a)⟩⟩ lcas hl) h

end

/-! ## concrete graphs: the hypotheses of the theorems are decidable on `Graph.ofLists` -/

theorem ofLists_parents {ps : List (List Nat)} {ts : List Int} {c p : Nat}
    (hp : p ∈ (Graph.ofLists ps ts).parents c) : c < ps.length ∧ p ∈ ps.getD c [] := by
  refine ⟨Nat.lt_of_not_le fun hc => ?_, hp⟩
  simp only [Graph.ofLists, List.getD_eq_getElem?_getD, List.getElem?_eq_none hc] at hp
  cases hp

theorem ofLists_strictMono (ps : List (List Nat)) (ts : List Int)
    (h : ∀ c, c < ps.length → ∀ p, p ∈ ps.getD c [] → ts.getD p 0 < ts.getD c 0) :
    (Graph.ofLists ps ts).StrictMono :=
  fun c p hp => h c (ofLists_parents hp).1 p (ofLists_parents hp).2

theorem ofLists_rank (ps : List (List Nat)) (ts : List Int) (rk : Nat → Nat)
    (h : ∀ c, c < ps.length → ∀ p, p ∈ ps.getD c [] → rk p < rk c) :
    ∀ c p, p ∈ (Graph.ofLists ps ts).parents c → rk p < rk c :=
  fun c p hp => h c (ofLists_parents hp).1 p (ofLists_parents hp).2

theorem ofLists_nonneg (ps : List (List Nat)) (ts : List Int) (h : ∀ t, t ∈ ts → 0 ≤ t) (z : Nat) :
    0 ≤ (Graph.ofLists ps ts).ts z := by
  simp only [Graph.ofLists]
  rw [List.getD_eq_getElem?_getD]
  cases hz : ts[z]? with
  | none => simp
  | some t => simp only [Option.getD_some]; exact h t (List.mem_of_getElem? hz)

end Dulwich.LCA
