/-
  C09 — a crash at any instant leaves a repository that opens and is consistent.

  Model: Model/Crash.lean (abstract file system, dulwich's reading of it, `Recoverable`, the executable
  checker `checkProgram`).  Helper lemmas: Lemmas/Crash.lean.  The recorded system-call programs of the
  real operations are in Gen/Traces.lean, their per-scenario obligations in Gen/TracesChecked.lean
  (both regenerated from /repo on every run).
-/
import DulwichModel.Lemmas.Crash
import DulwichModel.Gen.TracesChecked

namespace Dulwich.Props.C09
open Dulwich Dulwich.Crash

/-! ## 1. Soundness of the checker — once, for every crash point and every start state -/

/-- If the checker accepts a program, then from EVERY start state that satisfies the program's
precondition (it agrees with the spec's facts on the listed paths — anything may exist elsewhere —, is
consistent and well-typed, no pack is paired with the index of a different pack, and the objects the spec
calls garbage are unreachable), EVERY prefix of the program (= every crash point) leaves a `Recoverable`
state. -/
theorem crashSafe_of_check (spec : Spec) (p : List Call) (h : checkProgram spec p = true)
    (G GP : Nat → List Nat) (s : FS) (hpre : Pre spec G GP s) (k : Nat) :
    Recoverable spec G GP s (run (p.take k) s) :=
  inv_recoverable (go_sound hpre hpre.agrees (inv_init hpre) h k)

/-! ## 2. The recorded programs of the real operations -/

/-- Every recorded scenario whose real crash states satisfied the oracle is accepted by the checker,
hence crash safe from every start state satisfying its precondition, at every crash point. -/
theorem recorded_programs_crash_safe :
    ∀ e ∈ Gen.TracesChecked.safe, ∀ (G GP : Nat → List Nat) (s : FS), Pre e.1 G GP s →
      ∀ k, Recoverable e.1 G GP s (run (e.2.take k) s) :=
  fun e he => crashSafe_of_check e.1 e.2 (List.all_eq_true.mp Gen.TracesChecked.safe_checked e he)

/-- Non-vacuity on the recorded scenarios: the recorded start states themselves satisfy the
precondition, so the statement above says something about each of them. -/
theorem recorded_start_states_satisfy_pre :
    ∀ e ∈ Gen.TracesChecked.safe ++ Gen.TracesChecked.flagged,
      Pre e.1 (graphOf e.1) (parentsOf e.1) (toFS e.1.known) :=
  fun e he => pre_of_preK (List.all_eq_true.mp Gen.TracesChecked.all_pre e he)

/-! ## 3. Patterns, each on one literal spec and program, and their negative twins (unsafe variants of the same
operation: `…_rejected` by the checker, `…_counterexample` from the closed-world start state) -/

section patterns

/-- write `<sha>.lock`, then rename onto the object path (`DiskObjectStore.add_object`). -/
def specLoose : Spec :=
  { edges := [(1, [], [])], known := [(.tmp 1, none), (.loose 1, none), (.shallow, none)],
    newRefs := [], newPlain := [], garbage := [] }

def progLoose : List Call :=
  [.write (.tmp 1) .junk, .write (.tmp 1) (.obj 1), .rename (.tmp 1) (.loose 1)]

theorem write_temp_then_rename_safe (G GP : Nat → List Nat) (s : FS) (hpre : Pre specLoose G GP s) (k : Nat) :
    Recoverable specLoose G GP s (run (progLoose.take k) s) :=
  crashSafe_of_check _ _ (by decide +kernel) G GP s hpre k

theorem specLoose_pre : preK specLoose = true := by decide +kernel

example : Pre specLoose (graphOf specLoose) (parentsOf specLoose) (toFS specLoose.known) := pre_of_preK specLoose_pre

/-- Negative twin: writing the object in place leaves a half-written file at the object's path. -/
theorem write_in_place_counterexample :
    ∃ G GP s, Pre specLoose G GP s ∧
      ¬ Recoverable specLoose G GP s (run ([Call.write (.loose 1) .junk, .write (.loose 1) (.obj 1)].take 1) s) :=
  counterexample_of_closed specLoose_pre fun h =>
    Bool.false_ne_true (h.typed (.loose 1) .junk (by decide +kernel))

/-- objects first (temp-then-rename each), the ref last (`WorkTree.commit`, receive-pack). -/
def specCommit : Spec :=
  { edges := [(1, [2], []), (2, [], [])],
    known := [(.tmp 1, none), (.tmp 2, none), (.tmp 3, none), (.loose 1, none), (.loose 2, none),
              (.ref 1, none), (.packedRefs, none), (.shallow, none)],
    newRefs := [(1, some (.sha 1))], newPlain := [], garbage := [] }

def progCommit : List Call :=
  [.write (.tmp 1) (.obj 2), .rename (.tmp 1) (.loose 2),
   .write (.tmp 2) (.obj 1), .rename (.tmp 2) (.loose 1),
   .write (.tmp 3) (.refSha 1), .rename (.tmp 3) (.ref 1)]

theorem objects_before_ref_safe (G GP : Nat → List Nat) (s : FS) (hpre : Pre specCommit G GP s) (k : Nat) :
    Recoverable specCommit G GP s (run (progCommit.take k) s) :=
  crashSafe_of_check _ _ (by decide +kernel) G GP s hpre k

theorem specCommit_pre : preK specCommit = true := by decide +kernel

example : Pre specCommit (graphOf specCommit) (parentsOf specCommit) (toFS specCommit.known) := pre_of_preK specCommit_pre

/-- Negative twin: the checker rejects the ref-first order … -/
def progRefFirst : List Call :=
  [.write (.tmp 3) (.refSha 1), .rename (.tmp 3) (.ref 1),
   .write (.tmp 1) (.obj 2), .rename (.tmp 1) (.loose 2),
   .write (.tmp 2) (.obj 1), .rename (.tmp 2) (.loose 1)]

theorem ref_before_objects_rejected : checkProgram specCommit progRefFirst = false := by decide +kernel

/-- … and rightly so: after the rename the ref names an object that is not there. -/
theorem ref_before_objects_counterexample :
    ∃ G GP s, Pre specCommit G GP s ∧ ¬ Recoverable specCommit G GP s (run (progRefFirst.take 2) s) :=
  counterexample_of_closed specCommit_pre fun h =>
    not_vis_run_toFS (by decide +kernel) (h.consistent 1 ⟨1, 1, by decide +kernel, .refl 1⟩)

/-- pack renamed in first (invisible without its index), the index last (`_complete_pack`). -/
def specPack : Spec :=
  { edges := [(1, [], []), (2, [], [])],
    known := [(.tmp 1, none), (.tmp 2, none), (.pack 1, none), (.idx 1, none), (.shallow, none)],
    newRefs := [], newPlain := [], garbage := [] }

def progPack : List Call :=
  [.write (.tmp 1) .junk, .write (.tmp 1) (.packData 1), .rename (.tmp 1) (.pack 1),
   .write (.tmp 2) .junk, .write (.tmp 2) (.idxData 1 [1, 2]), .rename (.tmp 2) (.idx 1)]

theorem pack_then_idx_safe (G GP : Nat → List Nat) (s : FS) (hpre : Pre specPack G GP s) (k : Nat) :
    Recoverable specPack G GP s (run (progPack.take k) s) :=
  crashSafe_of_check _ _ (by decide +kernel) G GP s hpre k

example : Pre specPack (graphOf specPack) (parentsOf specPack) (toFS specPack.known) := pre_of_preK (by decide +kernel)

/-- A pack is read only when BOTH files are present (`_update_pack_cache`), so on a start state with no
file of that name the index-first order passes too … -/
theorem idx_then_pack_without_orphan_accepted :
    checkProgram specPack
      [.write (.tmp 2) (.idxData 1 [1, 2]), .rename (.tmp 2) (.idx 1),
       .write (.tmp 1) (.packData 1), .rename (.tmp 1) (.pack 1)] = true := by decide +kernel

/-- … but NOT when an earlier crash of the same operation left an orphaned `.pack` of the same name
(same object set, other bytes: checksum 9): pack-first overwrites the orphan before the index appears, -/
def specPackOrphan : Spec :=
  { specPack with known := (.pack 1, some (.packData 9)) :: specPack.known }

theorem pack_then_idx_over_orphan_safe (G GP : Nat → List Nat) (s : FS) (hpre : Pre specPackOrphan G GP s)
    (k : Nat) : Recoverable specPackOrphan G GP s (run (progPack.take k) s) :=
  crashSafe_of_check _ _ (by decide +kernel) G GP s hpre k

theorem specPackOrphan_pre : preK specPackOrphan = true := by decide +kernel

example : Pre specPackOrphan (graphOf specPackOrphan) (parentsOf specPackOrphan) (toFS specPackOrphan.known) :=
  pre_of_preK specPackOrphan_pre

/-- index-first pairs the new index with the orphan's bytes: `Pack.data` raises `ChecksumMismatch`
on every read that walks the packs. -/
def progIdxFirst : List Call :=
  [.write (.tmp 2) (.idxData 1 [1, 2]), .rename (.tmp 2) (.idx 1),
   .write (.tmp 1) (.packData 1), .rename (.tmp 1) (.pack 1)]

theorem idx_before_pack_over_orphan_rejected : checkProgram specPackOrphan progIdxFirst = false := by
  decide +kernel

theorem idx_before_pack_over_orphan_counterexample :
    ∃ G GP s, Pre specPackOrphan G GP s ∧
      ¬ Recoverable specPackOrphan G GP s (run (progIdxFirst.take 2) s) :=
  counterexample_of_closed specPackOrphan_pre fun h =>
    absurd (h.paired 1 9 1 [1, 2] (by decide +kernel) (by decide +kernel)) (by decide)

theorem pack_in_place_rejected :
    checkProgram specPack
      [.write (.pack 1) .junk, .write (.pack 1) (.packData 1),
       .write (.tmp 2) (.idxData 1 [1, 2]), .rename (.tmp 2) (.idx 1)] = false := by decide +kernel

/-- new pack (pack + index) in place before the loose objects and the old pack are removed
(`pack_loose_objects`, `repack`). -/
def specRepack : Spec :=
  { edges := [(1, [2], []), (2, [], []), (3, [], [])],
    known := [(.loose 1, some (.obj 1)), (.pack 1, some (.packData 1)), (.idx 1, some (.idxData 1 [2, 3])),
              (.ref 1, some (.refSha 1)), (.packedRefs, none),
              (.tmp 1, none), (.tmp 2, none), (.pack 2, none), (.idx 2, none), (.shallow, none)],
    newRefs := [], newPlain := [], garbage := [3] }

def progRepack : List Call :=
  [.write (.tmp 1) (.packData 2), .rename (.tmp 1) (.pack 2),
   .write (.tmp 2) (.idxData 2 [1, 2]), .rename (.tmp 2) (.idx 2),
   .unlink (.loose 1), .unlink (.pack 1), .unlink (.idx 1)]

theorem new_pack_before_old_removed_safe (G GP : Nat → List Nat) (s : FS) (hpre : Pre specRepack G GP s)
    (k : Nat) : Recoverable specRepack G GP s (run (progRepack.take k) s) :=
  crashSafe_of_check _ _ (by decide +kernel) G GP s hpre k

theorem specRepack_pre : preK specRepack = true := by decide +kernel

example : Pre specRepack (graphOf specRepack) (parentsOf specRepack) (toFS specRepack.known) := pre_of_preK specRepack_pre

/-- Negative twin: loose object removed before the new pack's index is in place. -/
def progRepackEarly : List Call :=
  [.write (.tmp 1) (.packData 2), .rename (.tmp 1) (.pack 2),
   .unlink (.loose 1),
   .write (.tmp 2) (.idxData 2 [1, 2]), .rename (.tmp 2) (.idx 2),
   .unlink (.pack 1), .unlink (.idx 1)]

theorem loose_removed_before_idx_rejected : checkProgram specRepack progRepackEarly = false := by decide +kernel

theorem loose_removed_before_idx_counterexample :
    ∃ G GP s, Pre specRepack G GP s ∧ ¬ Recoverable specRepack G GP s (run (progRepackEarly.take 3) s) :=
  -- the only index present is that of pack 1, which does not list object 1
  counterexample_of_closed specRepack_pre fun h =>
    not_vis_run_toFS (by decide +kernel) (h.kept 1 ⟨1, 1, by decide +kernel, .refl 1⟩)

end patterns

/-! ## 4. Packed refs (F8, fixed in /repo by bb5afda) -/

section f8

/-- `DiskRefsContainer.add_packed_refs` as coded: lock `packed-refs`, write the new `packed-refs` and
rename it in, and only THEN remove the loose ref. -/
def specPackRefs : Spec :=
  { edges := [(1, [], [])],
    known := [(.ref 1, some (.refSha 1)), (.loose 1, some (.obj 1)), (.packedRefs, none), (.tmp 1, none),
              (.shallow, none)],
    newRefs := [], newPlain := [], garbage := [] }

def progPackRefsAsCoded : List Call :=
  [.write (.tmp 1) .junk, .write (.tmp 1) (.packed [(1, 1)]), .rename (.tmp 1) .packedRefs, .unlink (.ref 1)]

theorem add_packed_refs_safe (G GP : Nat → List Nat) (s : FS) (hpre : Pre specPackRefs G GP s)
    (k : Nat) : Recoverable specPackRefs G GP s (run (progPackRefsAsCoded.take k) s) :=
  crashSafe_of_check _ _ (by decide +kernel) G GP s hpre k

theorem specPackRefs_pre : preK specPackRefs = true := by decide +kernel

example : Pre specPackRefs (graphOf specPackRefs) (parentsOf specPackRefs) (toFS specPackRefs.known) := pre_of_preK specPackRefs_pre

/-- Regression witness — the order before bb5afda: the loose ref was REMOVED while the lock was held,
before the new `packed-refs` was written and renamed in. -/
def progPackRefsOldOrder : List Call :=
  [.write (.tmp 1) .junk, .unlink (.ref 1), .write (.tmp 1) (.packed [(1, 1)]), .rename (.tmp 1) .packedRefs]

theorem add_packed_refs_old_order_rejected : checkProgram specPackRefs progPackRefsOldOrder = false := by
  decide +kernel

/-- In the old order a crash after the loose ref has been removed and before the new `packed-refs` is
renamed in loses the ref (it is neither loose nor packed). -/
theorem add_packed_refs_old_order_counterexample :
    ∃ G GP s, Pre specPackRefs G GP s ∧
      ¬ Recoverable specPackRefs G GP s (run (progPackRefsOldOrder.take 2) s) :=
  counterexample_of_closed specPackRefs_pre fun h => absurd (h.refs 1) (by decide +kernel)

/-- `remove_if_equals` on a ref that is both loose (value 2, newer) and packed (value 1, older), as
coded: lock the ref, rewrite `packed-refs` without the ref, and only THEN remove the loose file. -/
def specRemove : Spec :=
  { edges := [(1, [], []), (2, [], [1])],
    known := [(.ref 1, some (.refSha 2)), (.packedRefs, some (.packed [(1, 1)])),
              (.loose 1, some (.obj 1)), (.loose 2, some (.obj 2)), (.tmp 1, none), (.tmp 2, none),
              (.shallow, none)],
    newRefs := [(1, none)], newPlain := [], garbage := [] }

def progRemoveAsCoded : List Call :=
  [.write (.tmp 1) .junk, .write (.tmp 2) .junk, .write (.tmp 2) (.packed []),
   .rename (.tmp 2) .packedRefs, .unlink (.ref 1), .unlink (.tmp 1)]

theorem remove_if_equals_safe (G GP : Nat → List Nat) (s : FS) (hpre : Pre specRemove G GP s)
    (k : Nat) : Recoverable specRemove G GP s (run (progRemoveAsCoded.take k) s) :=
  crashSafe_of_check _ _ (by decide +kernel) G GP s hpre k

theorem specRemove_pre : preK specRemove = true := by decide +kernel

example : Pre specRemove (graphOf specRemove) (parentsOf specRemove) (toFS specRemove.known) := pre_of_preK specRemove_pre

/-- Regression witness — the order before bb5afda: the LOOSE file was removed first, `packed-refs`
rewritten second. -/
def progRemoveOldOrder : List Call :=
  [.write (.tmp 1) .junk, .unlink (.ref 1), .write (.tmp 2) .junk, .write (.tmp 2) (.packed []),
   .rename (.tmp 2) .packedRefs, .unlink (.tmp 1)]

theorem remove_if_equals_old_order_rejected : checkProgram specRemove progRemoveOldOrder = false := by
  decide +kernel

/-- In the old order a crash between the two removals resurrects the older packed value: neither the
old value (2) nor the new one (deleted). -/
theorem remove_if_equals_old_order_counterexample :
    ∃ G GP s, Pre specRemove G GP s ∧ ¬ Recoverable specRemove G GP s (run (progRemoveOldOrder.take 2) s) :=
  counterexample_of_closed specRemove_pre fun h => absurd (h.refs 1) (by decide +kernel)

/-- When loose and packed hold the SAME value even the old order was harmless (the window shows the
old value): the defect was specific to a stale packed entry. -/
theorem remove_if_equals_old_order_same_value_accepted :
    checkProgram { specRemove with known := (.ref 1, some (.refSha 1)) :: specRemove.known }
      progRemoveOldOrder = true := by decide +kernel

end f8

/-! ## 5. The `shallow` file is repository state: new objects visible BEFORE the shallow set shrinks -/

section shallow

/-- A shallow clone of depth 1: commit 1 (tree 3, parent 2) is a graft point, its parent 2 (tree 4) is not
there.  Deepening / unshallowing must install the pack holding 2 and 4 first and only then rewrite
`shallow`.  This is the order as coded on every path: `GitClient.fetch` (smart transports) and `Repo.fetch` /
`LocalGitClient` both drop commits from `shallow` only after the pack is stored (3798ec6); NEW graft points,
on the other hand, are written BEFORE the pack (§7 below); all recorded deepen / unshallow programs in
Gen/Traces.lean have this shape and are accepted. -/
def specUnshallow : Spec :=
  { edges := [(1, [3], [2]), (2, [4], []), (3, [], []), (4, [], [])],
    known := [(.ref 1, some (.refSha 1)), (.loose 1, some (.obj 1)), (.loose 3, some (.obj 3)),
              (.shallow, some (.shallowSet [1])), (.packedRefs, none),
              (.tmp 1, none), (.tmp 2, none), (.tmp 3, none), (.pack 1, none), (.idx 1, none)],
    newRefs := [], newPlain := [], garbage := [] }

def progUnshallow : List Call :=
  [.write (.tmp 1) (.packData 1), .rename (.tmp 1) (.pack 1),
   .write (.tmp 2) (.idxData 1 [2, 4]), .rename (.tmp 2) (.idx 1),
   .unlink .shallow]

theorem objects_before_unshallow_safe (G GP : Nat → List Nat) (s : FS) (hpre : Pre specUnshallow G GP s)
    (k : Nat) : Recoverable specUnshallow G GP s (run (progUnshallow.take k) s) :=
  crashSafe_of_check _ _ (by decide +kernel) G GP s hpre k

theorem specUnshallow_pre : preK specUnshallow = true := by decide +kernel

example : Pre specUnshallow (graphOf specUnshallow) (parentsOf specUnshallow) (toFS specUnshallow.known) :=
  pre_of_preK specUnshallow_pre

/-- Deepening by one: the graft point moves from 1 to 2: same discipline,
the new `shallow` is written to `shallow.lock` and renamed in after the pack. -/
theorem objects_before_deepen_safe (G GP : Nat → List Nat) (s : FS) (hpre : Pre specUnshallow G GP s)
    (k : Nat) : Recoverable specUnshallow G GP s
      (run (List.take k [.write (.tmp 1) (.packData 1), .rename (.tmp 1) (.pack 1),
                         .write (.tmp 2) (.idxData 1 [2, 4]), .rename (.tmp 2) (.idx 1),
                         .write (.tmp 3) (.shallowSet [2]), .rename (.tmp 3) .shallow]) s) :=
  crashSafe_of_check _ _ (by decide +kernel) G GP s hpre k

/-- An initial shallow fetch ADDS graft points: accepted (hence safe, `crashSafe_of_check`) in either order as
long as the refs come last (here: objects, `shallow`, ref; `shallow` first: §7 below). -/
theorem shallow_grows_then_ref_safe :
    checkProgram
      { edges := [(1, [3], [2]), (3, [], [])],
        known := [(.ref 1, none), (.shallow, none), (.packedRefs, none), (.loose 1, none), (.loose 3, none),
                  (.tmp 1, none), (.tmp 2, none), (.tmp 3, none), (.tmp 4, none)],
        newRefs := [(1, some (.sha 1))], newPlain := [], garbage := [] }
      [.write (.tmp 1) (.obj 3), .rename (.tmp 1) (.loose 3), .write (.tmp 2) (.obj 1), .rename (.tmp 2) (.loose 1),
       .write (.tmp 3) (.shallowSet [1]), .rename (.tmp 3) .shallow,
       .write (.tmp 4) (.refSha 1), .rename (.tmp 4) (.ref 1)] = true := by decide +kernel

/-- Negative twin and regression witness: `update_shallow` BEFORE the pack is stored — the order
`Repo.fetch` used before 3798ec6 (via `find_missing_objects`), and what moving `update_shallow`
before `commit()` in `GitClient.fetch` would give. -/
def progUnshallowEarly : List Call :=
  [.unlink .shallow,
   .write (.tmp 1) (.packData 1), .rename (.tmp 1) (.pack 1),
   .write (.tmp 2) (.idxData 1 [2, 4]), .rename (.tmp 2) (.idx 1)]

theorem unshallow_before_objects_rejected : checkProgram specUnshallow progUnshallowEarly = false := by
  decide +kernel

/-- A crash after the shallow file is gone and before the pack is installed: the ref's tip is no longer
a graft point, its parent is missing (dulwich: KeyError walking the history; git fsck: broken link). -/
theorem unshallow_before_objects_counterexample :
    ∃ G GP s, Pre specUnshallow G GP s ∧
      ¬ Recoverable specUnshallow G GP s (run (progUnshallowEarly.take 1) s) :=
  counterexample_of_closed specUnshallow_pre fun h =>
    not_vis_run_toFS (by decide +kernel) (h.consistent 2 ⟨1, 1, by decide +kernel,
      .par (by decide +kernel) (by decide +kernel) (.refl 2)⟩)

end shallow

/-! ## 6. After the crash: retries.  A lock file is never evidence of presence -/

section retry

/-- Running an operation AGAIN on what a crash left: if the checker accepts the program `p` and, for every
crash prefix `k`, accepts the program `qs[k]` the re-run issued from there (recorded from the real code; a re-run
that stops with an error — `FileLocked` on a stale lock — contributes the calls it made before the error, so in
particular it stops before any ref write it did not get to), then every state the re-run passes through,
and the state it ends in, is `Recoverable` — for every start state satisfying the precondition. -/
theorem retry_after_crash_safe (spec : Spec) (p : List Call) (qs : List (List Call))
    (hc : checkProgram spec p = true) (hq : retryOK spec p qs = true)
    (G GP : Nat → List Nat) (s : FS) (hpre : Pre spec G GP s) (k : Nat) (hk : k < qs.length) (j : Nat) :
    Recoverable spec G GP s (run ((qs.getD k []).take j) (run (p.take k) s)) :=
  inv_recoverable (retry_sound hpre hc hq k j)

/-- The recorded re-runs (from every crash prefix) are accepted, hence safe. -/
theorem recorded_retries_crash_safe :
    ∀ e ∈ Gen.TracesChecked.retried, ∀ (G GP : Nat → List Nat) (s : FS), Pre e.1 G GP s →
      ∀ k, k < e.2.2.length → ∀ j,
        Recoverable e.1 G GP s (run ((e.2.2.getD k []).take j) (run (e.2.1.take k) s)) := by
  intro e he
  have ⟨hc, hq⟩ := (Bool.and_eq_true _ _).mp (List.all_eq_true.mp Gen.TracesChecked.retried_checked e he)
  exact retry_after_crash_safe e.1 e.2.1 e.2.2 hc hq

/-- `DiskObjectStore.add_object` lets a held/stale `<sha>.lock` surface as `FileLocked` (AST of the code and a
recorded run under an existing lock, both regenerated every run). -/
theorem add_object_lock_propagates :
    Gen.TracesChecked.addObjectSwallowsLock = false ∧ Gen.TracesChecked.addObjectUnderLockRaises = true :=
  Gen.TracesChecked.add_object_lock_propagates

/-- The crash left `<o1>.lock` (tmp 1) behind; the commit that wanted object 1 is retried. -/
def specStaleLock : Spec :=
  { edges := [(1, [], [])],
    known := [(.tmp 1, some .junk), (.loose 1, none), (.ref 1, none), (.packedRefs, none), (.shallow, none),
              (.tmp 2, none)],
    newRefs := [(1, some (.sha 1))], newPlain := [], garbage := [] }

/-- As coded: the retry fails with `FileLocked` before doing anything — trivially safe, … -/
theorem retry_stops_at_stale_lock_accepted : checkProgram specStaleLock [] = true := by decide +kernel

/-- … skipping the write is accepted only on the evidence of the FINAL path (here: once it is there), -/
theorem skip_on_final_path_accepted :
    checkProgram { specStaleLock with known := (.loose 1, some (.obj 1)) :: specStaleLock.known }
      [.skip 1 (.loose 1), .write (.tmp 2) (.refSha 1), .rename (.tmp 2) (.ref 1)] = true := by decide +kernel

/-- … and NEVER on the evidence of the lock file ("somebody is writing it, so it will be there"): -/
def progLockAsPresence : List Call :=
  [.skip 1 (.tmp 1), .write (.tmp 2) (.refSha 1), .rename (.tmp 2) (.ref 1)]

theorem lock_is_not_presence_rejected : checkProgram specStaleLock progLockAsPresence = false := by decide +kernel

/-- the checker rejects it at the skip itself, before any ref is touched -/
theorem lock_is_not_presence_rejected_at_skip : firstUnsafe specStaleLock progLockAsPresence = some 0 := by
  decide +kernel

/-- and rightly so: run to its end (`take 3`), the ref names an object that nobody ever wrote. -/
theorem lock_as_presence_counterexample :
    ∃ G GP s, Pre specStaleLock G GP s ∧
      ¬ Recoverable specStaleLock G GP s (run (progLockAsPresence.take 3) s) :=
  counterexample_of_closed (by decide +kernel) fun h =>
    not_vis_run_toFS (by decide +kernel) (h.consistent 1 ⟨1, 1, by decide +kernel, .refl 1⟩)

end retry

/-! ## 7. New graft points BEFORE the pack: a retried depth fetch must not lose them -/

section depthretry

/-- An initial fetch at depth 1: commit 1 (tree 3) arrives, its parent 2 does not; `shallow` must list 1. -/
def specDepthInit : Spec :=
  { edges := [(1, [3], [2]), (3, [], [])],
    known := [(.ref 1, none), (.shallow, none), (.packedRefs, none), (.pack 1, none), (.idx 1, none),
              (.tmp 1, none), (.tmp 2, none), (.tmp 3, none), (.tmp 4, none)],
    newRefs := [(1, some (.sha 1))], newPlain := [], garbage := [] }

/-- The order as coded now (`GitClient.fetch`, `Repo.fetch`): `shallow` with the new graft point, the pack, its
index, `shallow` again (commits to drop: none here), and finally — the caller — the ref. -/
def progDepthNow : List Call :=
  [.write (.tmp 3) (.shallowSet [1]), .rename (.tmp 3) .shallow,
   .write (.tmp 1) (.packData 1), .rename (.tmp 1) (.pack 1),
   .write (.tmp 2) (.idxData 1 [1, 3]), .rename (.tmp 2) (.idx 1),
   .write (.tmp 3) (.shallowSet [1]), .rename (.tmp 3) .shallow,
   .write (.tmp 4) (.refSha 1), .rename (.tmp 4) (.ref 1)]

/-- What the re-run does from each crash prefix: everything again while the tip is not in the store; nothing
when a stale lock is in the way; and once pack and index are there — nothing is wanted any more — only the
(empty) shallow update and the ref. -/
def retriesDepthNow : List (List Call) :=
  [progDepthNow, [], progDepthNow, progDepthNow, progDepthNow, [],
   [.write (.tmp 3) (.shallowSet [1]), .rename (.tmp 3) .shallow, .write (.tmp 4) (.refSha 1), .rename (.tmp 4) (.ref 1)],
   [],
   [.write (.tmp 3) (.shallowSet [1]), .rename (.tmp 3) .shallow, .write (.tmp 4) (.refSha 1), .rename (.tmp 4) (.ref 1)],
   []]

theorem retry_depth_fetch_safe (G GP : Nat → List Nat) (s : FS) (hpre : Pre specDepthInit G GP s)
    (k : Nat) (hk : k < retriesDepthNow.length) (j : Nat) :
    Recoverable specDepthInit G GP s
      (run ((retriesDepthNow.getD k []).take j) (run (progDepthNow.take k) s)) :=
  retry_after_crash_safe _ _ _ (by decide +kernel) (by decide +kernel) G GP s hpre k hk j

theorem specDepthInit_pre : preK specDepthInit = true := by decide +kernel

example : Pre specDepthInit (graphOf specDepthInit) (parentsOf specDepthInit) (toFS specDepthInit.known) :=
  pre_of_preK specDepthInit_pre

/-- Regression witness — the order before 1bc0d9c: pack and index first, `shallow` afterwards.  Accepted,
hence crash safe in itself … -/
def progDepthOld : List Call :=
  [.write (.tmp 1) (.packData 1), .rename (.tmp 1) (.pack 1),
   .write (.tmp 2) (.idxData 1 [1, 3]), .rename (.tmp 2) (.idx 1),
   .write (.tmp 3) (.shallowSet [1]), .rename (.tmp 3) .shallow,
   .write (.tmp 4) (.refSha 1), .rename (.tmp 4) (.ref 1)]

theorem depth_fetch_old_order_crash_safe_in_itself : checkProgram specDepthInit progDepthOld = true := by
  decide +kernel

/-- … but NOT under retry: after a crash with pack and index in place and `shallow` not yet written, the
re-run finds the tip in the store, wants nothing, is told no graft point, writes no `shallow` — and the
caller sets the ref. -/
def retryDepthOld4 : List Call := [.write (.tmp 4) (.refSha 1), .rename (.tmp 4) (.ref 1)]

theorem retry_depth_fetch_old_order_rejected :
    retryOK specDepthInit progDepthOld [[], [], [], [], retryDepthOld4] = false := by decide +kernel

theorem retry_depth_fetch_old_order_counterexample :
    ∃ G GP s, Pre specDepthInit G GP s ∧
      ¬ Recoverable specDepthInit G GP s (run (retryDepthOld4.take 2) (run (progDepthOld.take 4) s)) :=
  -- the ref names commit 1, which is not a graft point, so its parent 2 is reachable — and is nowhere
  -- (the two runs reduce to one run of the concatenated program)
  counterexample_of_closed specDepthInit_pre fun h =>
    not_vis_run_toFS (p := progDepthOld.take 4 ++ retryDepthOld4.take 2) (by decide +kernel)
      (h.consistent 2 ⟨1, 1, by decide +kernel, .par (by decide +kernel) (by decide +kernel) (.refl 2)⟩)

end depthretry

end Dulwich.Props.C09
