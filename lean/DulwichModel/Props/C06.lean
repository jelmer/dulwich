/-
  C06 — A push reports success exactly for the refs it changed; server refs stay valid; atomic pushes are
  all-or-nothing.

  The model is Model/ReceivePack.lean (`applyPack` = `ReceivePackHandler._apply_pack`
  as coded, `localSendPack` = `LocalGitClient.send_pack`); literals, the exception tuple and the four
  behaviour switches `Flags.coded` come from Gen/ReceivePack.lean, regenerated from /repo on every run.

  The four full statements are `def …Statement (fl : Flags) : Prop`.  For the behaviour of the unchanged
  source (`Flags.unrepaired`: all four switches off) each of them is FALSE — `…_counterexample` (finding F5,
  DESIGN §7).  What does hold for every command list is proved as `…_partial` for ARBITRARY flags, so in
  particular for `Flags.coded` whatever the source does; the full statements are proved for every behaviour
  that has the relevant switch on (`…_of_useCas`, `…_of_checkNew`, `…_of_validation`).  §8 instantiates them
  at `Flags.coded`: the headline obligations about the source.
-/
import DulwichModel.Lemmas.ReceivePack

namespace Dulwich.Props.C06
open Dulwich Dulwich.ReceivePack
open Dulwich.Gen.ReceivePack (okMsg unpackName atomicCap)

/-! ## 1. status ok ⇔ the ref now holds the requested value -/

/-- Full statement.  (a) a ref reported `ok` holds the requested value; (b) a command that asked for a real
change (`old ≠ new`), named the right old value and whose ref now holds the new value is reported `ok`.
(For a command naming a stale old value see §2.) -/
def StatusIffChangedStatement (fl : Flags) : Prop :=
  ∀ (env : Env) (caps : List Bytes) (s : Srv) (u : Unpack) (cmds : List Cmd),
    HookSane env → distinctNames cmds → (applyPack fl env caps s u cmds).raised = none →
    ∀ c ∈ cmds,
      (reportedOk (applyPack fl env caps s u cmds) c.name → (applyPack fl env caps s u cmds).srv.refs c.name = c.target) ∧
      (c.old ≠ c.new → cur s.refs c.name = c.old →
        (applyPack fl env caps s u cmds).srv.refs c.name = c.target → reportedOk (applyPack fl env caps s u cmds) c.name)

/-- PARTIAL (DESIGN §6 (i)), any flags — in particular the code as it is: for a command whose old value matches the
ref, `ok` is reported exactly when the ref now holds the requested value.  Missing for the full statement:
part (a) for commands with a stale old value (false for `Flags.unrepaired`: `status_iff_changed_counterexample`). -/
theorem status_iff_changed_partial (fl : Flags) (env : Env) (caps : List Bytes) (s : Srv) (u : Unpack)
    (cmds : List Cmd) (hs : HookSane env) (hnd : distinctNames cmds)
    (hr : (applyPack fl env caps s u cmds).raised = none) :
    ∀ c ∈ cmds, cur s.refs c.name = c.old →
      (reportedOk (applyPack fl env caps s u cmds) c.name → (applyPack fl env caps s u cmds).srv.refs c.name = c.target) ∧
      (c.old ≠ c.new → (applyPack fl env caps s u cmds).srv.refs c.name = c.target →
        reportedOk (applyPack fl env caps s u cmds) c.name) := by
  intro c hc hm
  obtain ⟨h1, h2⟩ := reportedOk_vs_ref fl env caps s u cmds hs hnd hc
  refine ⟨fun h => ?_, fun hne => h2 hr hne hm⟩
  rcases h1 h with h | h
  · exact h.2
  · exact absurd hm h.1

theorem status_iff_changed_of_useCas (fl : Flags) (hcas : fl.useCas = true) : StatusIffChangedStatement fl := by
  intro env caps s u cmds hs hnd hr c hc
  obtain ⟨h1, h2⟩ := reportedOk_vs_ref fl env caps s u cmds hs hnd hc
  refine ⟨fun h => ?_, h2 hr⟩
  rcases h1 h with h | h
  · exact h.2
  · rw [hcas] at h; cases h.2

theorem status_iff_changed_repaired : StatusIffChangedStatement Flags.repaired :=
  status_iff_changed_of_useCas Flags.repaired rfl

/-! ### witnesses (names `m`,`x`; ids `a`,`b`,`c`) -/

def nM : Name := [109]
def nX : Name := [120]
def idA : Id := [97]
def idB : Id := [98]
def idC : Id := [99]

def srv1 : Srv := ⟨fun n => if n = nM then some idB else none, fun i => i = idA || i = idB || i = idC⟩
def srv0 : Srv := ⟨fun _ => none, fun _ => false⟩
/-- stale update `m: a → c` (the server has `m = b`) -/
def staleCmd : Cmd := ⟨idA, idC, nM⟩
def createX : Cmd := ⟨zeroSha, idC, nX⟩

/-- Unrepaired, the stale command `m: a → c` against `m = b` is answered `ok m` while `m` is still `b`
(F5, first part). -/
theorem status_iff_changed_counterexample : ¬ StatusIffChangedStatement Flags.unrepaired := by
  intro h
  have := (h Env.quiet [] srv1 (.ok []) [staleCmd] quiet_sane (by decide) (by decide) staleCmd
    List.mem_cons_self).1 (by decide)
  revert this
  decide +kernel

/-- non-vacuity of §1: a two-command instance satisfying all hypotheses, where the matching command is applied
and reported ok and the stale one is rejected -/
example : distinctNames [staleCmd, createX] ∧
    (applyPack Flags.repaired Env.quiet [] srv1 (.ok []) [staleCmd, createX]).raised = none ∧
    reportedOk (applyPack Flags.repaired Env.quiet [] srv1 (.ok []) [staleCmd, createX]) nX ∧
    ¬ reportedOk (applyPack Flags.repaired Env.quiet [] srv1 (.ok []) [staleCmd, createX]) nM ∧
    (applyPack Flags.repaired Env.quiet [] srv1 (.ok []) [staleCmd, createX]).srv.refs nX = some idC := by
  decide +kernel

/-! ## 2. a stale old value: rejected and untouched -/

def StaleOldRejectedStatement (fl : Flags) : Prop :=
  ∀ (env : Env) (caps : List Bytes) (s : Srv) (u : Unpack) (cmds : List Cmd),
    HookSane env → distinctNames cmds →
    ∀ c ∈ cmds, cur s.refs c.name ≠ c.old →
      ¬ reportedOk (applyPack fl env caps s u cmds) c.name ∧
      (applyPack fl env caps s u cmds).srv.refs c.name = s.refs c.name

/-- PARTIAL, any flags (also when an exception escaped): the ref of a stale command is left untouched.
Missing: "reported as rejected" — false for `Flags.unrepaired` (`stale_old_rejected_counterexample`). -/
theorem stale_old_untouched_partial (fl : Flags) (env : Env) (caps : List Bytes) (s : Srv) (u : Unpack)
    (cmds : List Cmd) (hs : HookSane env) (hnd : distinctNames cmds) :
    ∀ c ∈ cmds, cur s.refs c.name ≠ c.old →
      (applyPack fl env caps s u cmds).srv.refs c.name = s.refs c.name := by
  intro c hc hst
  rcases applyPack_cmd fl env caps s u cmds hs hnd c hc with ⟨h, _⟩ | ⟨_, _, ⟨h, _⟩ | ⟨h, _⟩⟩
  · exact h
  · exact h
  · exact absurd h hst

theorem stale_old_rejected_of_useCas (fl : Flags) (hcas : fl.useCas = true) : StaleOldRejectedStatement fl := by
  intro env caps s u cmds hs hnd c hc hst
  refine ⟨fun hok => ?_, stale_old_untouched_partial fl env caps s u cmds hs hnd c hc hst⟩
  rcases (reportedOk_vs_ref fl env caps s u cmds hs hnd hc).1 hok with h | h
  · exact hst h.1
  · rw [hcas] at h; cases h.2

theorem stale_old_rejected_repaired : StaleOldRejectedStatement Flags.repaired :=
  stale_old_rejected_of_useCas Flags.repaired rfl

theorem stale_old_rejected_counterexample : ¬ StaleOldRejectedStatement Flags.unrepaired := by
  intro h
  have := (h Env.quiet [] srv1 (.ok []) [staleCmd] quiet_sane (by decide) staleCmd
    List.mem_cons_self (by decide)).1
  revert this
  decide +kernel

example : cur srv1.refs staleCmd.name ≠ staleCmd.old ∧
    (applyPack Flags.unrepaired Env.quiet [] srv1 (.ok []) [staleCmd]).srv.refs nM = some idB := by decide +kernel

/-! ## 3. every ref target is in the object store -/

def RefsPointIntoStoreStatement (fl : Flags) : Prop :=
  ∀ (env : Env) (caps : List Bytes) (s : Srv) (u : Unpack) (cmds : List Cmd),
    HookSane env → RefsInStore s → RefsInStore (applyPack fl env caps s u cmds).srv

/-- PARTIAL, any flags: holds when the client only names new values that are in the store once its pack is
unpacked.  Missing: commands naming an object the server does not have (`refs_point_into_store_counterexample`).
It is `applyPack_inStore`, which asks `hnew` only where the flags make no object test, with the hypothesis `hs` kept as
first written. -/
theorem refs_point_into_store_partial (fl : Flags) (env : Env) (caps : List Bytes) (s : Srv) (u : Unpack)
    (cmds : List Cmd) (hs : HookSane env) (hi : RefsInStore s)
    (hnew : ∀ c ∈ cmds, isZero c.new = false → storeAfterUnpack s u cmds c.new = true) :
    RefsInStore (applyPack fl env caps s u cmds).srv :=
  applyPack_inStore fl env caps s u cmds hi fun c hc hz _ => hnew c hc hz

theorem refs_point_into_store_of_checkNew (fl : Flags) (hck : fl.checkNew = true) (han : fl.atomicNew = true) :
    RefsPointIntoStoreStatement fl := by
  intro env caps s u cmds _ hi
  refine applyPack_inStore fl env caps s u cmds hi fun c _ _ h => ?_
  rw [hck, han] at h
  rcases h with h | h
  · cases h
  · cases h

theorem refs_point_into_store_repaired : RefsPointIntoStoreStatement Flags.repaired :=
  refs_point_into_store_of_checkNew Flags.repaired rfl rfl

/-- Unrepaired, on the empty server `create x = c` without the object in the pack is applied: `x` names an object the
store does not have (F5, second part). -/
theorem refs_point_into_store_counterexample : ¬ RefsPointIntoStoreStatement Flags.unrepaired := by
  intro h
  have := h Env.quiet [] srv0 (.ok []) [createX] quiet_sane (fun _ _ hv => by cases hv) nX idC (by decide)
  revert this
  decide +kernel

/-- non-vacuity: the same command with the object in the pack keeps the invariant and sets the ref -/
example : (applyPack Flags.unrepaired Env.quiet [] srv0 (.ok [idC]) [createX]).srv.refs nX = some idC ∧
    (applyPack Flags.unrepaired Env.quiet [] srv0 (.ok [idC]) [createX]).srv.store idC = true := by decide +kernel

/-! ## 4. atomic: all or none -/

def AtomicAllOrNoneStatement (fl : Flags) : Prop :=
  ∀ (env : Env) (caps : List Bytes) (s : Srv) (u : Unpack) (cmds : List Cmd),
    caps.contains atomicCap = true → distinctNames cmds → (∀ c ∈ cmds, env.fault c.name = none) →
    (applyPack fl env caps s u cmds).srv.refs = s.refs ∨
      ∀ c ∈ cmds, (applyPack fl env caps s u cmds).srv.refs c.name = c.target

/-- PARTIAL, any flags — the code as it is: all-or-nothing holds when every command names the current old
value and an object the server has after unpacking (then only hooks can fail, and those are validated
first).  It is `applyPack_atomic` with the object half of `happ` kept as first written.  Missing: a stale old
value among the commands (`atomic_all_or_none_counterexample`). -/
theorem atomic_all_or_none_partial (fl : Flags) (env : Env) (caps : List Bytes) (s : Srv) (u : Unpack)
    (cmds : List Cmd) (hat : caps.contains atomicCap = true) (hnd : distinctNames cmds)
    (hf : ∀ c ∈ cmds, env.fault c.name = none)
    (happ : ∀ c ∈ cmds, cur s.refs c.name = c.old ∧ (isZero c.new = false → storeAfterUnpack s u cmds c.new = true)) :
    (applyPack fl env caps s u cmds).srv.refs = s.refs ∨
      ∀ c ∈ cmds, (applyPack fl env caps s u cmds).srv.refs c.name = c.target :=
  applyPack_atomic fl env caps s u cmds hat hnd hf (Or.inr fun c hc => (happ c hc).1)

/-- FULL statement for every behaviour that validates the old values before anything is applied: `applyPack_atomic` at
`ha`, with the hypothesis `hn` kept as first written (validating the new objects too is what the code does, not what the
all-or-nothing argument needs).  The hypothesis "no I/O failure while applying" (`env.fault … = none`) is part of the
statement: the code does not roll back. -/
theorem atomic_all_or_none_of_validation (fl : Flags) (ha : fl.atomicOld = true) (hn : fl.atomicNew = true) :
    AtomicAllOrNoneStatement fl := by
  intro env caps s u cmds hat hnd hf
  exact applyPack_atomic fl env caps s u cmds hat hnd hf (Or.inl ha)

theorem atomic_all_or_none_repaired : AtomicAllOrNoneStatement Flags.repaired :=
  atomic_all_or_none_of_validation Flags.repaired rfl rfl

/-- Unrepaired, `atomic` with `[create x = c, stale m: a → c]` applies the first and not the second
(F5, third part). -/
theorem atomic_all_or_none_counterexample : ¬ AtomicAllOrNoneStatement Flags.unrepaired := by
  intro h
  have := h Env.quiet [atomicCap] srv1 (.ok []) [createX, staleCmd] (by decide) (by decide) (fun _ _ => rfl)
  rcases this with h | h
  · have := congrFun h nX
    revert this
    decide +kernel
  · have := h staleCmd (by decide)
    revert this
    decide +kernel

example : (applyPack Flags.unrepaired Env.quiet [atomicCap] srv1 (.ok []) [createX, staleCmd]).srv.refs nX = some idC ∧
    (applyPack Flags.unrepaired Env.quiet [atomicCap] srv1 (.ok []) [createX, staleCmd]).srv.refs nM = some idB := by
  decide +kernel

/-! ## 5. refs only change as commanded; one status entry per command, in order -/

/-- DESIGN §6 (ii): `applyPack_only_commanded` with the hypothesis `hs` kept as first written. -/
theorem refs_change_only_as_commanded (fl : Flags) (env : Env) (caps : List Bytes) (s : Srv) (u : Unpack)
    (cmds : List Cmd) (hs : HookSane env) (n : Name) :
    (applyPack fl env caps s u cmds).srv.refs n = s.refs n ∨
      ∃ c ∈ cmds, c.name = n ∧ (applyPack fl env caps s u cmds).srv.refs n = c.target :=
  applyPack_only_commanded fl env caps s u cmds n

/-- When no exception escapes, the status list is the `unpack` entry followed by exactly one entry per
command, in command order — or the single failed-unpack entry. -/
theorem status_one_entry_per_command (fl : Flags) (env : Env) (caps : List Bytes) (s : Srv) (u : Unpack)
    (cmds : List Cmd) (hr : (applyPack fl env caps s u cmds).raised = none) :
    (applyPack fl env caps s u cmds).status.map (·.1) = unpackName :: cmds.map (·.name) ∨
    (applyPack fl env caps s u cmds).status.drop 1 = [] := by
  rcases applyPack_cases fl env caps s u cmds with h | ⟨_, h2⟩
  · left
    rw [h] at hr ⊢
    simp only at hr
    simp only [List.map_cons]
    rw [refLoop_status_names fl env caps _ cmds hr]
  · right; exact h2

/-- The hypothesis `raised = none` of §1 follows from a condition on the inputs alone: deletions are not
refused, every exception the ref container raises for a commanded name is of a class one of the handlers
catches (`FileLocked`, `all_exceptions`, or `KeyError`/`RefFormatError`), and a failing unpack raises something in
`all_exceptions`. -/
theorem no_exception_escapes (fl : Flags) (env : Env) (caps : List Bytes) (s : Srv) (u : Unpack) (cmds : List Cmd)
    (h : NoEscape env caps cmds)
    (hu : ∀ mro, u = .raises mro → catches Gen.ReceivePack.allExceptions mro = true) :
    (applyPack fl env caps s u cmds).raised = none := by
  unfold applyPack
  split
  · cases u with
    | ok ids => exact refLoop_no_raise fl env caps _ cmds h
    | raises mro => simp only [hu mro rfl, if_true]
  · exact refLoop_no_raise fl env caps _ cmds h

/-- non-vacuity: the condition holds for a quiet environment (deletions are not refused: the source tests the
server's own capability list, which has `delete-refs`, not the client's) -/
example : NoEscape Env.quiet [atomicCap] [createX, staleCmd] :=
  ⟨by decide, fun _ _ _ h => by simp [Env.quiet] at h⟩

/-- An exception from the ref container that no handler catches (the witness raises a class `R` that none of the
three lists names) ends the handler after earlier commands were applied: `x` is created, nothing is reported. -/
theorem bad_refname_aborts_counterexample :
    let env : Env := ⟨fun n => if n = nM then some [[82]] else none, fun _ => none⟩
    let o := applyPack Flags.unrepaired env [] srv0 (.ok [idC]) [createX, ⟨zeroSha, idC, nM⟩]
    o.raised = some .refError ∧ o.srv.refs nX = createX.target ∧ ¬ reportedOk o nX := by
  decide +kernel

/-! ## 6. the status report: what `_report_status` writes is what `ReportStatusParser` reads -/

/-- For every status list of the kind `_apply_pack` yields after a successful unpack — ref names non-empty, without
whitespace and other than `unpack`, messages `ok` or with non-blank ends; that its lists are of this kind depends on the ref names and hook messages and is
not proved — the client's `check()` on the lines `_report_status` writes returns
exactly one entry per status, in order, `None` for `ok` and the message otherwise.  The line formats, the
`unpack`/`ok`/`ng` keywords and the separator are the literals read from the source; changing any of them
on one side only breaks this proof. -/
theorem report_parse_roundtrip (st : List (Bytes × Bytes))
    (h : ∀ p ∈ st, CleanName p.1 ∧ (p.2 = okMsg ∨ CleanMsg p.2)) :
    clientParse (reportStatus ((unpackName, okMsg) :: st)) = .ok (st.map clientStatus) := by
  unfold clientParse reportStatus
  have h0 : Parser.feed {} (((unpackName, okMsg) :: st).map (fun p => some (statusLine p)) ++ [none]) =
      .ok { done := true, packStatus := some Gen.ReceivePack.parserUnpackOk,
            refStatuses := st.map (fun p => strip (statusLine p)) } := by
    simp only [List.map_cons, List.cons_append, Parser.feed]
    -- here the server's `fmtUnpack` line meets the client's `parserUnpackOk`: two closed byte strings
    have hp : Parser.handlePacket {} (some (statusLine (unpackName, okMsg))) =
        .ok { done := false, packStatus := some Gen.ReceivePack.parserUnpackOk, refStatuses := [] } := by decide +kernel
    rw [hp]
    simp only
    have := feed_lines ⟨false, some Gen.ReceivePack.parserUnpackOk, []⟩ Gen.ReceivePack.parserUnpackOk rfl rfl
      (st.map statusLine)
    simp only [List.map_map, Function.comp_def, List.nil_append] at this
    exact this
  rw [h0]
  simp only [Parser.check]
  exact checkStatuses_report st h

/-- non-vacuity: a two-entry report with an `ng` line -/
example : clientParse (reportStatus [(unpackName, okMsg), (nM, okMsg), (nX, Gen.ReceivePack.failedWriteMsg)]) =
    .ok [(nM, none), (nX, some Gen.ReceivePack.failedWriteMsg)] := by decide +kernel

/-- A failed unpack is reported as such and read by the client as SendPackError. -/
theorem unpack_failure_reported :
    clientParse (reportStatus [(unpackName, unpackErrorMsg)]) = .error .sendPack := by decide +kernel

/-! ## 7. the in-process path `LocalGitClient.send_pack` -/

abbrev distinctLocal (cmds : List (Name × Id)) : Prop := (cmds.map (·.1)).Nodup

/-- DESIGN §6 (iii): on the local path the recorded status is exact, for every behaviour `lf` that takes the status from
the compare-and-swap, every snapshot `snap` the client read, every target state `t` at the time of the
updates (so also when a second pusher moved refs in between), atomic or not: when a status list is
returned, each command has one entry; success (`none`) is recorded only when the current value equals the
old value the client read, and then the ref holds the requested value; otherwise the ref is untouched. -/
theorem local_status_exact (lf : LocalFlags) (hcas : lf.usesCas = true) (snap : Refs) (t : LocalRepo)
    (atomic : Bool) (packIds have_ : List Id)
    (cmds : List (Name × Id)) (hnd : distinctLocal cmds) (st : List (Name × Option LocalMsg))
    (hst : (localSendPack lf snap t atomic packIds have_ cmds).2 = some st) :
    ∀ c ∈ cmds, ∃ m, st.lookup c.1 = some m ∧
        ((m = none ∧ cur t.refs c.1 = snapOld snap c.1 ∧
            (localSendPack lf snap t atomic packIds have_ cmds).1.refs c.1 = localTarget c) ∨
         (m ≠ none ∧ (localSendPack lf snap t atomic packIds have_ cmds).1.refs c.1 = t.refs c.1)) := by
  intro c hc
  rcases localSendPack_cases (r := localSendPack lf snap t atomic packIds have_ cmds) rfl with h | ⟨st', h, hn, hf⟩ | ⟨h, _⟩ <;> rw [h] at hst ⊢
  · cases hst
  ·
    cases hst
    obtain ⟨m, hm, hin⟩ := lookup_of_mem_keys (hn ▸ List.mem_map_of_mem (f := Prod.fst) hc)
    exact ⟨m, hm, .inr ⟨hf _ hin, rfl⟩⟩
  · cases hst
    obtain ⟨m, hm, hres⟩ := localApply_at lf snap { t with store := t.store.add packIds } cmds hnd c hc
    refine ⟨m, hm, ?_⟩
    rcases hres with ⟨h3, h2⟩ | ⟨h1, h3, h2⟩
    · refine .inr ⟨fun e => ?_, h3⟩
      subst e
      cases hcas.symm.trans (h2 rfl).2
    · exact .inl ⟨localMsg_eq_ok h2, h1, h3⟩

/-- the early return (`ref_status={}`: nothing to do) leaves the target untouched -/
theorem local_early_return_untouched (lf : LocalFlags) (snap : Refs) (t : LocalRepo) (atomic : Bool)
    (packIds have_ : List Id)
    (cmds : List (Name × Id)) (hst : (localSendPack lf snap t atomic packIds have_ cmds).2 = none) :
    (localSendPack lf snap t atomic packIds have_ cmds).1.refs = t.refs := by
  rcases localSendPack_cases (r := localSendPack lf snap t atomic packIds have_ cmds) rfl with h | ⟨_, h, _⟩ | ⟨h, _⟩ <;> rw [h] at hst ⊢
  all_goals cases hst

/-- a stale command on the local path is rejected and its ref untouched -/
theorem local_stale_rejected (lf : LocalFlags) (hcas : lf.usesCas = true) (snap : Refs) (t : LocalRepo)
    (cmds : List (Name × Id)) (hnd : distinctLocal cmds) :
    ∀ c ∈ cmds, cur t.refs c.1 ≠ snapOld snap c.1 →
      ∃ m, (localApply lf snap t cmds).2.lookup c.1 = some (some m) ∧
        (localApply lf snap t cmds).1.refs c.1 = t.refs c.1 := by
  intro c hc hst
  obtain ⟨m, hm, ⟨h3, h2⟩ | ⟨h1, _⟩⟩ := localApply_at lf snap t cmds hnd c hc
  · cases m with
    | none => cases hcas.symm.trans (h2 rfl).2
    | some m => exact ⟨m, hm, h3⟩
  · exact absurd h1 hst

/-- FULL, local path: `localSendPack_inStore` with the hypothesis `hcas` kept as first written. -/
theorem local_refs_point_into_store_of_checksNew (lf : LocalFlags) (hcas : lf.usesCas = true)
    (hk : lf.checksNew = true) (snap : Refs) (t : LocalRepo) (atomic : Bool) (packIds have_ : List Id)
    (cmds : List (Name × Id)) (hi : LocalInStore t) :
    LocalInStore (localSendPack lf snap t atomic packIds have_ cmds).1 :=
  localSendPack_inStore lf hk snap t atomic packIds have_ cmds hi

/-- FULL, local path, sequential reading of "atomic": `localSendPack_atomic` (which says what is and is not covered) with the
hypothesis `hcas` kept as first written. -/
theorem local_atomic_all_or_none_of_precheck (lf : LocalFlags) (hcas : lf.usesCas = true)
    (hp : lf.precheckPeeled = false) (hn : lf.precheckNew = true)
    (snap : Refs) (t : LocalRepo) (packIds have_ : List Id) (cmds : List (Name × Id)) (hnd : distinctLocal cmds) :
    (localSendPack lf snap t true packIds have_ cmds).1.refs = t.refs ∨
      ∀ c ∈ cmds, (localSendPack lf snap t true packIds have_ cmds).1.refs c.1 = localTarget c :=
  localSendPack_atomic lf hp hn snap t packIds have_ cmds hnd

/-- witnesses for the local path: the client read `m = b`; meanwhile a second pusher set `m = a` (loose ref) -/
def snapB : Refs := fun n => if n = nM then some idB else none
def racedRepo : LocalRepo := ⟨fun n => if n = nM then some idA else none, fun i => i = idA || i = idB || i = idC, fun _ => false⟩

/-- With `LocalFlags.unrepaired`, `atomic=True` on the local path is not all-or-nothing when a second pusher moved a LOOSE
ref between the client's read and its update: the pre-check asks `get_peeled`, which knows nothing about
loose refs; `x` is created, `m` is rejected. -/
theorem local_atomic_counterexample :
    let r := localSendPack LocalFlags.unrepaired snapB racedRepo true [] [idB] [(nX, idC), (nM, idC)]
    r.1.refs nX = some idC ∧ r.1.refs nM = some idA ∧
    r.2 = some [(nX, none), (nM, some .unableToSet)] := by decide +kernel

/-- the same race with the repaired pre-check: everything is rejected, nothing changes -/
example :
    let r := localSendPack LocalFlags.repaired snapB racedRepo true [] [idB] [(nX, idC), (nM, idC)]
    r.1.refs nX = none ∧ r.1.refs nM = some idA ∧
    r.2 = some [(nX, some .atomicFailed), (nM, some .unableToSet)] := by decide +kernel

/-- With `LocalFlags.unrepaired`, the local path sets a ref to an object the target does not have when the caller's pack
lacks it. -/
theorem local_refs_point_into_store_counterexample :
    let t : LocalRepo := ⟨fun _ => none, fun _ => false, fun _ => false⟩
    let r := localSendPack LocalFlags.unrepaired (fun _ => none) t false [] [] [(nX, idC)]
    r.1.refs nX = some idC ∧ r.1.store idC = false := by decide +kernel

/-! ## 8. HEADLINE: the source as it is (`Flags.coded`, `LocalFlags.coded` — switches read from /repo)

Each one is the full statement instantiated at the
switches the translator found, and each needs a particular switch to be ON (`rfl` on the generated
constant): reverting the corresponding fix in /repo flips the switch and BREAKS the proof — the intended
regression signal. -/

/-- a push reports `ok` for a ref exactly when the ref now holds the requested value (needs: the status comes
from the compare-and-swap) -/
theorem status_iff_changed : StatusIffChangedStatement Flags.coded :=
  status_iff_changed_of_useCas Flags.coded rfl

/-- a stale old value is reported as rejected and the ref is untouched (needs the same switch) -/
theorem stale_old_rejected : StaleOldRejectedStatement Flags.coded :=
  stale_old_rejected_of_useCas Flags.coded rfl

/-- no ref ever names an object the server does not have (needs: the new object is tested in the non-atomic
loop and in the atomic validation loop) -/
theorem refs_point_into_store : RefsPointIntoStoreStatement Flags.coded :=
  refs_point_into_store_of_checkNew Flags.coded rfl rfl

/-- atomic is all-or-nothing (needs: old values validated before anything is applied; the statement follows from
`fl.atomicOld = true` alone; the second `rfl` meets the hypothesis `hn` that `atomic_all_or_none_of_validation` keeps).
Honest hypothesis inside the statement: the ref container raises for none of the commanded names while
applying — neither an I/O failure (directory/file conflict: there is no rollback, known finding) nor an
invalid name (`bad ref` is only discovered in the apply loop, known finding). -/
theorem atomic_all_or_none : AtomicAllOrNoneStatement Flags.coded :=
  atomic_all_or_none_of_validation Flags.coded rfl rfl

/-- an invalid ref name does not kill the handler: `RefFormatError` is among the classes the outer handler
catches, so a container that raises it meets the third alternative of `NoEscape` (needs: the `except` clause names
RefFormatError) -/
theorem bad_refname_is_caught :
    catches Gen.ReceivePack.badRefCatches [[82, 101, 102, 70, 111, 114, 109, 97, 116, 69, 114, 114, 111, 114]] = true := by
  decide +kernel

/-- a ref whose lock is held by another writer (`FileLocked`: another push, a concurrent pack-refs) does not kill
the handler after earlier commands were applied: the class is caught by the handler in front of
`except all_exceptions`, so it falls under `NoEscape` and gets a status (needs: that `except FileLocked` clause) -/
theorem lock_contention_is_caught :
    catches Gen.ReceivePack.lockCatches [[70, 105, 108, 101, 76, 111, 99, 107, 101, 100]] = true := by
  decide +kernel

/-- local path: the recorded status is exact -/
theorem local_status_exact_coded (snap : Refs) (t : LocalRepo) (atomic : Bool) (packIds have_ : List Id)
    (cmds : List (Name × Id)) (hnd : distinctLocal cmds) (st : List (Name × Option LocalMsg))
    (hst : (localSendPack LocalFlags.coded snap t atomic packIds have_ cmds).2 = some st) :
    ∀ c ∈ cmds, ∃ m, st.lookup c.1 = some m ∧
        ((m = none ∧ cur t.refs c.1 = snapOld snap c.1 ∧
            (localSendPack LocalFlags.coded snap t atomic packIds have_ cmds).1.refs c.1 = localTarget c) ∨
         (m ≠ none ∧ (localSendPack LocalFlags.coded snap t atomic packIds have_ cmds).1.refs c.1 = t.refs c.1)) :=
  local_status_exact LocalFlags.coded rfl snap t atomic packIds have_ cmds hnd st hst

/-- local path: no ref names an object the target lacks -/
theorem local_refs_point_into_store (snap : Refs) (t : LocalRepo) (atomic : Bool) (packIds have_ : List Id)
    (cmds : List (Name × Id)) (hi : LocalInStore t) :
    LocalInStore (localSendPack LocalFlags.coded snap t atomic packIds have_ cmds).1 :=
  local_refs_point_into_store_of_checksNew LocalFlags.coded rfl rfl snap t atomic packIds have_ cmds hi

/-- local path: `atomic=True` is all-or-nothing for any state at the time of the call (see the limits in
`localSendPack_atomic`) -/
theorem local_atomic_all_or_none (snap : Refs) (t : LocalRepo) (packIds have_ : List Id)
    (cmds : List (Name × Id)) (hnd : distinctLocal cmds) :
    (localSendPack LocalFlags.coded snap t true packIds have_ cmds).1.refs = t.refs ∨
      ∀ c ∈ cmds, (localSendPack LocalFlags.coded snap t true packIds have_ cmds).1.refs c.1 = localTarget c :=
  local_atomic_all_or_none_of_precheck LocalFlags.coded rfl rfl rfl snap t packIds have_ cmds hnd

end Dulwich.Props.C06
